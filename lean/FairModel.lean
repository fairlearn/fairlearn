-- GENERATED by harness/leanrun.py (sync_roots): root of the FairModel library.
import FairModel.Model.AdvStep
import FairModel.Model.Adversarial
import FairModel.Model.Aggregate
import FairModel.Model.AggregateCache
import FairModel.Model.AggregateFrame
import FairModel.Model.AggregatePrim
import FairModel.Model.BaseMetrics
import FairModel.Model.BaseMetricsSrc
import FairModel.Model.Bootstrap
import FairModel.Model.BootstrapSrc
import FairModel.Model.Container
import FairModel.Model.CorrLifted
import FairModel.Model.CorrRemover
import FairModel.Model.Derived
import FairModel.Model.EGLoop
import FairModel.Model.Fairness
import FairModel.Model.FeatureNames
import FairModel.Model.Frame
import FairModel.Model.FrameChecks
import FairModel.Model.FrameMulti
import FairModel.Model.FramePrims
import FairModel.Model.Grid
import FairModel.Model.Lifecycle
import FairModel.Model.LifecycleParams
import FairModel.Model.LifecycleSrc
import FairModel.Model.LinProg
import FairModel.Model.Merge
import FairModel.Model.MetricPool
import FairModel.Model.Moments
import FairModel.Model.NdShape
import FairModel.Model.NdShapeSrc
import FairModel.Model.NumpySk
import FairModel.Model.Oracle
import FairModel.Model.Perm
import FairModel.Model.Pmf
import FairModel.Model.Proto
import FairModel.Model.Saddle
import FairModel.Model.SchedCfg
import FairModel.Model.SchedLife
import FairModel.Model.SchedLifted
import FairModel.Model.Schedule
import FairModel.Model.Threshold
import FairModel.Model.ThresholdPredict
import FairModel.Model.TrainStepLifted
import FairModel.Model.Validation
import FairModel.Model.Weights
import FairModel.Model.XRArith
import FairModel.Generated.AdvProjection
import FairModel.Generated.AdvScheduleSrc
import FairModel.Generated.AdvTrainStepSrc
import FairModel.Generated.AggregateGen
import FairModel.Generated.AggregateSpec
import FairModel.Generated.BaseMetricsSrc
import FairModel.Generated.BootstrapSrc
import FairModel.Generated.ContainerSites
import FairModel.Generated.CorrRemoverSrc
import FairModel.Generated.DerivedSpec
import FairModel.Generated.EGGen
import FairModel.Generated.EGLoopGen
import FairModel.Generated.EgPredict
import FairModel.Generated.FairNamed
import FairModel.Generated.FairnessSpec
import FairModel.Generated.FeatureNamesSrc
import FairModel.Generated.FrameChecksSrc
import FairModel.Generated.FrameSrc
import FairModel.Generated.GridSrc
import FairModel.Generated.LifecycleSrc
import FairModel.Generated.LinProgGen
import FairModel.Generated.LossRange
import FairModel.Generated.MergeCallers
import FairModel.Generated.MergeConsts
import FairModel.Generated.MomentsSrc
import FairModel.Generated.OracleSrc
import FairModel.Generated.PopulateSrc
import FairModel.Generated.ProjectLambdaSrc
import FairModel.Generated.SqueezeSrc
import FairModel.Generated.ThresholdFitSrc
import FairModel.Generated.ThresholdTables
import FairModel.Generated.ThresholderSrc
import FairModel.Generated.TradeoffSrc
import FairModel.Generated.ValidateSrc
import FairModel.Generated.ValidationTables
import FairModel.Lemmas.AdvBookkeeping
import FairModel.Lemmas.AdvNorm
import FairModel.Lemmas.AdvStep
import FairModel.Lemmas.Adversarial
import FairModel.Lemmas.Aggregate
import FairModel.Lemmas.AggregateCache
import FairModel.Lemmas.AggregateData
import FairModel.Lemmas.AggregateFrame
import FairModel.Lemmas.AggregateGen
import FairModel.Lemmas.BaseMetrics
import FairModel.Lemmas.BaseMetricsSrc
import FairModel.Lemmas.Bootstrap
import FairModel.Lemmas.BootstrapSrc
import FairModel.Lemmas.Container
import FairModel.Lemmas.CorrLifted
import FairModel.Lemmas.CorrLstsq
import FairModel.Lemmas.CorrRemover
import FairModel.Lemmas.CrossError
import FairModel.Lemmas.CrossFrame
import FairModel.Lemmas.CrossRates
import FairModel.Lemmas.CrossStrings
import FairModel.Lemmas.CrossThreshold
import FairModel.Lemmas.EGCert
import FairModel.Lemmas.EGLoop
import FairModel.Lemmas.EventLabels
import FairModel.Lemmas.Fairness
import FairModel.Lemmas.FeatureNames
import FairModel.Lemmas.FiniteCellsDec
import FairModel.Lemmas.Frame
import FairModel.Lemmas.FrameChecks
import FairModel.Lemmas.FrameMulti
import FairModel.Lemmas.FrameSrc
import FairModel.Lemmas.FrameWeights
import FairModel.Lemmas.Grid
import FairModel.Lemmas.GridMore
import FairModel.Lemmas.GridOracle
import FairModel.Lemmas.Lifecycle
import FairModel.Lemmas.LifecycleParams
import FairModel.Lemmas.LifecycleSrc
import FairModel.Lemmas.LinProg
import FairModel.Lemmas.ListInd
import FairModel.Lemmas.Merge
import FairModel.Lemmas.Moments
import FairModel.Lemmas.MomentsMore
import FairModel.Lemmas.MomentsRates
import FairModel.Lemmas.MomentsReduction
import FairModel.Lemmas.OpMix
import FairModel.Lemmas.Oracle
import FairModel.Lemmas.Perm
import FairModel.Lemmas.PermAggregate
import FairModel.Lemmas.PermMoments
import FairModel.Lemmas.PermObserved
import FairModel.Lemmas.PermRename
import FairModel.Lemmas.Pmf
import FairModel.Lemmas.PoolWeights
import FairModel.Lemmas.Prelude
import FairModel.Lemmas.Saddle
import FairModel.Lemmas.SchedLifted
import FairModel.Lemmas.Schedule
import FairModel.Lemmas.SqueezeSrc
import FairModel.Lemmas.ThresholdComplete
import FairModel.Lemmas.ThresholdFit
import FairModel.Lemmas.ThresholdGroup
import FairModel.Lemmas.ThresholdHull
import FairModel.Lemmas.ThresholdInterp
import FairModel.Lemmas.ThresholdOpt
import FairModel.Lemmas.ThresholdPredict
import FairModel.Lemmas.ThresholdSrc
import FairModel.Lemmas.ThresholdSweep
import FairModel.Lemmas.Validation
import FairModel.Lemmas.WeightedMean
import FairModel.Lemmas.Weights
import FairModel.Lemmas.XR
import FairModel.Properties.C01
import FairModel.Properties.C02
import FairModel.Properties.C03
import FairModel.Properties.C03X
import FairModel.Properties.C04
import FairModel.Properties.C04X
import FairModel.Properties.C05
import FairModel.Properties.C06
import FairModel.Properties.C06X
import FairModel.Properties.C07
import FairModel.Properties.C08
import FairModel.Properties.C08X
import FairModel.Properties.C09
import FairModel.Properties.C09X
import FairModel.Properties.C10
import FairModel.Properties.C11
import FairModel.Properties.C12
import FairModel.Properties.C13
import FairModel.Properties.C14
import FairModel.Properties.C15
import FairModel.Properties.C16
import FairModel.Properties.C17
import FairModel.Properties.C18
import FairModel.Properties.C19
import FairModel.Properties.C20
import FairModel.AuditTool
