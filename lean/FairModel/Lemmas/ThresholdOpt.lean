/-
Optimality layer (C05): weighted objective of a family of per-group mixtures, its domination by the fitted grid row
(`optimal_simple_of_dominated`), the arg-max over the grid (`argmax_EO`), monotonicity of the equalized-odds objectives,
and the overall expected confusion counts of per-group predictors (`overallCMp`; `overallCM` is the case of fitted rules).
-/
import FairModel.Lemmas.ThresholdFit

namespace Threshold
open ThresholdGen

/-- group frequency `len(group) / n` -/
def freq (groups : List (List Row)) (g : List Row) : Rat := (g.length : Rat) / (totalRows groups : Rat)

/-- frequency-weighted objective of a family of per-group mixtures (one mixture per group, same order) -/
def mixObjective (groups : List (List Row)) (ms : List Mixture) : Rat :=
  (List.zipWith (fun g (m : Mixture) => freq groups g * m.y) groups ms).sum

theorem zipWith_sum_le {α β γ} (G : List γ) (f : γ → α → Rat) (h : γ → β → Rat) :
    ∀ (as : List α) (bs : List β), as.length = G.length → bs.length = G.length →
    (∀ j (hj : j < G.length) (hja : j < as.length) (hjb : j < bs.length), f G[j] as[j] ≤ h G[j] bs[j]) →
    (List.zipWith f G as).sum ≤ (List.zipWith h G bs).sum := by
  induction G with
  | nil => intro as bs _ _ _; exact le_refl _
  | cons g G ih =>
    intro as bs ha hb hle
    cases as with
    | nil => cases ha
    | cons a as =>
      cases bs with
      | nil => cases hb
      | cons b bs =>
        rw [List.zipWith_cons_cons, List.zipWith_cons_cons, List.sum_cons, List.sum_cons]
        exact add_le_add (hle 0 (Nat.succ_pos _) (Nat.succ_pos _) (Nat.succ_pos _))
          (ih as bs (Nat.succ.inj ha) (Nat.succ.inj hb) fun j hj hja hjb =>
            hle (j + 1) (Nat.succ_lt_succ hj) (Nat.succ_lt_succ hja) (Nat.succ_lt_succ hjb))

theorem zipWith_sum_eq {α β γ} (G : List γ) (f : γ → α → Rat) (h : γ → β → Rat)
    (as : List α) (bs : List β) (ha : as.length = G.length) (hb : bs.length = G.length)
    (heq : ∀ j (hj : j < G.length) (hja : j < as.length) (hjb : j < bs.length), f G[j] as[j] = h G[j] bs[j]) :
    (List.zipWith f G as).sum = (List.zipWith h G bs).sum :=
  le_antisymm (zipWith_sum_le G f h as bs ha hb (fun j hj hja hjb => le_of_eq (heq j hj hja hjb)))
    (zipWith_sum_le G h f bs as hb ha (fun j hj hjb hja => le_of_eq (heq j hj hja hjb).symm))

theorem objEO_mono (obj : Metric) (hobj : obj ∈ objectivesEO) (groups : List (List Row)) (x y y' : Rat)
    (hy : y ≤ y') : objEO obj groups x y ≤ objEO obj groups x y' := by
  simp only [objectivesEO, List.mem_cons, List.not_mem_nil, or_false] at hobj
  have hp : (0 : Rat) ≤ (totalPos groups : Rat) := Nat.cast_nonneg _
  have hn : (0 : Rat) ≤ (totalNeg groups : Rat) := Nat.cast_nonneg _
  have hty := mul_le_mul_of_nonneg_left hy hp
  rw [objEO_eq, objEO_eq]
  rcases hobj with rfl | rfl
  · have hcn : ∀ t, (eoCounts (totalNeg groups) (totalPos groups) x t).n = totalPos groups + totalNeg groups :=
      fun t => by simp only [eoCounts, CM.n]; ring
    simp only [Metric.eval, hcn]
    exact div_le_div_of_nonneg_right (add_le_add_left hty _) (add_nonneg hp hn)
  · have hpos : ∀ t, (eoCounts (totalNeg groups) (totalPos groups) x t).positives = totalPos groups :=
      fun t => by simp only [eoCounts, CM.positives]; ring
    simp only [Metric.eval, hpos]
    exact add_le_add_left (div_le_div_of_nonneg_right (mul_le_mul_of_nonneg_left hty (by norm_num)) hp) _

/-- the common core of `C05.optimal_simple` / `optimal_simple_ops` / `ge_constant`: a family of per-group rules whose objective
    value `val` is, in every group, at most the interpolated `y` at grid index `i` has a frequency-weighted objective at most
    the fitted one: grid row `i` dominates the family, and the arg-max dominates row `i` -/
theorem optimal_simple_of_dominated (flip : Bool) (xm ym : Metric) (N : Nat) (groups : List (List Row)) (fit : Fit)
    (hx : IsConstraintMetric xm) (hfit : fitSimple flip xm ym N groups none = some fit) (i : Nat) (hi : i ≤ N)
    {α : Type} (val : List Row → α → Rat) (as : List α) (hlen : as.length = groups.length)
    (hdom : ∀ j (hj : j < groups.length) (hj' : j < as.length) (H : List Pt) (r : Interp),
      GroupCurve flip xm ym groups[j] H → InterpSound H (gridVal N i) r → val groups[j] as[j] ≤ r.y) :
    (List.zipWith (fun g a => freq groups g * val g a) groups as).sum ≤ fit.objective := by
  obtain ⟨hulls, cs, hh, hc, hb, _, hobj, hib⟩ := fitSimple_some hfit
  have hib' : fit.iBest = argmaxFirst (cs.map (objSimple groups)) := hib
  have hi' : i < cs.length := (curves_some hc).1 ▸ Nat.lt_succ_of_le hi
  obtain ⟨hrow, hent⟩ := curves_rowSound hx hh hc i hi'
  refine le_trans ?_ ((argmaxFirst_attains (l := cs.map (objSimple groups)) (o := fit.objective)
    (by rw [← hib', List.getElem?_map, hb, hobj]; rfl)).1 _ (List.mem_map.mpr ⟨cs[i], List.getElem_mem hi', rfl⟩))
  rw [src_objSimple]
  refine zipWith_sum_le groups _ _ as cs[i] hlen hrow fun j hj hja hjb => ?_
  obtain ⟨H, gc, hs⟩ := hent j hj hjb
  exact mul_le_mul_of_nonneg_left (hdom j hj hja H _ gc hs)
    (div_nonneg (Nat.cast_nonneg _) (Nat.cast_nonneg _))

/-- the arg-max of the equalized-odds fit over the grid, in terms of the pointwise minima `ymins` it is taken over -/
theorem argmax_EO {obj : Metric} {N : Nat} {groups : List (List Row)} {ymins : List Rat} {fit : Fit} {yBest : Rat}
    (hyl : ymins.length = N + 1) (hyb : ymins[fit.iBest]? = some yBest)
    (hobjv : fit.objective = objEO obj groups (gridVal N fit.iBest) yBest)
    (hib : fit.iBest = argmaxFirst ((List.range (N + 1)).zipWith (fun i y => objEO obj groups (gridVal N i) y) ymins)) :
    (∀ i (hi : i < ymins.length), objEO obj groups (gridVal N i) ymins[i] ≤ fit.objective) ∧
    (∀ i (hi : i < ymins.length), i < fit.iBest → objEO obj groups (gridVal N i) ymins[i] < fit.objective) := by
  have hget : ∀ i (hi : i < N + 1), ((List.range (N + 1)).zipWith (fun i y => objEO obj groups (gridVal N i) y) ymins)[i]? =
      some (objEO obj groups (gridVal N i) (ymins[i]'(hyl ▸ hi))) := fun i hi => by
    rw [List.getElem?_zipWith, List.getElem?_range hi, List.getElem?_eq_getElem (hyl ▸ hi)]
  obtain ⟨hiB, hyb'⟩ := List.getElem?_eq_some_iff.mp hyb
  obtain ⟨hmax, hfirst⟩ := argmaxFirst_attains (o := fit.objective)
    (by rw [← hib, hget fit.iBest (hyl ▸ hiB), hyb', ← hobjv])
  rw [← hib] at hfirst
  exact ⟨fun i hi => hmax _ (List.mem_of_getElem? (hget i (hyl ▸ hi))),
    fun i hi hlt => hfirst i _ hlt (hget i (hyl ▸ hi))⟩

def CM.add (A B : CM) : CM :=
  { true_positives := A.true_positives + B.true_positives, false_positives := A.false_positives + B.false_positives,
    true_negatives := A.true_negatives + B.true_negatives, false_negatives := A.false_negatives + B.false_negatives }

def CM.zero : CM := ⟨0, 0, 0, 0⟩

/-- sum over groups of the expected confusion counts of the group's predictor (`p` for an arbitrary probability function
    per group) on the group's rows; the competitor side of `C05.optimal_EO_ops` -/
def overallCMp (groups : List (List Row)) (probs : List (Rat → Rat)) : CM :=
  (List.zipWith (fun g p => expCM p g) groups probs).foldr CM.add CM.zero

/-- expected confusion counts of the whole training set: sum over groups of each group's rule on its own rows, i.e.
    `overallCMp` of the rules' `ruleProb`s (`overallCM_eq_overallCMp`); the fitted side of `C05.optimal_EO_ops` -/
def overallCM (groups : List (List Row)) (rules : List Rule) : CM :=
  (List.zipWith (fun g r => expCM (ruleProb r) g) groups rules).foldr CM.add CM.zero

theorem overallCM_eq_overallCMp (groups : List (List Row)) (rules : List Rule) :
    overallCM groups rules = overallCMp groups (rules.map ruleProb) := by
  unfold overallCM overallCMp
  rw [List.zipWith_map_right]

theorem eoCounts_add (a b c d : Nat) (x y : Rat) :
    CM.add (eoCounts a b x y) (eoCounts c d x y) = eoCounts ((a + c : Nat)) ((b + d : Nat)) x y := by
  apply CM.ext' <;> simp only [CM.add, eoCounts] <;> push_cast <;> ring

/-- groups that all sit at the same (FPR, TPR) = `(x, y)` add up to the overall counts at `(x, y)` -/
theorem overallCMp_eq (x y : Rat) : ∀ (groups : List (List Row)) (probs : List (Rat → Rat)),
    probs.length = groups.length →
    (∀ j (hj : j < groups.length) (hj' : j < probs.length),
      nPos groups[j] ≠ 0 ∧ nNeg groups[j] ≠ 0 ∧
      eoXMetric.eval (expCM probs[j] groups[j]) = x ∧ eoYMetric.eval (expCM probs[j] groups[j]) = y) →
    overallCMp groups probs = eoCounts (totalNeg groups) (totalPos groups) x y := by
  intro groups
  induction groups with
  | nil =>
    intro probs _ _
    apply CM.ext' <;> simp [overallCMp, CM.zero, eoCounts, totalNeg, totalPos]
  | cons g G ih =>
    intro probs hlen h
    cases probs with
    | nil => cases hlen
    | cons r R =>
      have h0 := h 0 (Nat.succ_pos _) (Nat.succ_pos _)
      have hrest := ih R (Nat.succ.inj hlen) fun j hj hj' => h (j + 1) (Nat.succ_lt_succ hj) (Nat.succ_lt_succ hj')
      unfold overallCMp at hrest ⊢
      rw [List.zipWith_cons_cons, List.foldr_cons, hrest,
        expCM_of_rates r g x y h0.1 h0.2.1 h0.2.2.1 h0.2.2.2, eoCounts_add]
      simp only [totalNeg, totalPos, List.map_cons, List.sum_cons]

theorem overallCM_eq (x y : Rat) (groups : List (List Row)) (rules : List Rule)
    (hlen : rules.length = groups.length)
    (h : ∀ j (hj : j < groups.length) (hj' : j < rules.length),
      nPos groups[j] ≠ 0 ∧ nNeg groups[j] ≠ 0 ∧
      expectedMetric eoXMetric rules[j] groups[j] = x ∧ expectedMetric eoYMetric rules[j] groups[j] = y) :
    overallCM groups rules = eoCounts (totalNeg groups) (totalPos groups) x y := by
  rw [overallCM_eq_overallCMp]
  refine overallCMp_eq x y groups _ (by rw [List.length_map]; exact hlen) fun j hj hj' => ?_
  rw [List.getElem_map]
  exact h j hj (by rwa [List.length_map] at hj')

end Threshold
