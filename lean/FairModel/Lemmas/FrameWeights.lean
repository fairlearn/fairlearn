/-
For C11 (`Properties/C11.lean`, `Lemmas/PoolWeights.lean`; more lemmas of `namespace Frame`): weight = multiplicity
at the level of the full MetricFrame model (`Model/Frame.lean`): any number of sensitive / control features,
re-indexing, and an ARBITRARY row payload — so a metric with SEVERAL per-sample parameters is covered:
replicating a row replicates all of its parameters with it.
-/
import FairModel.Lemmas.Frame
import FairModel.Lemmas.Weights

namespace Frame

variable {α β κ : Type}

/-! ### weighted vs. physically replicated rows -/

/-- multiplicity `k` written into the payload (`wt a k` = "row `a` with sample weight `k`") -/
def weightedRows (wt : α → Nat → α) (rows : List (Row α × Nat)) : List (Row α) :=
  rows.map (fun p => { p.1 with dat := wt p.1.dat p.2 })

/-- every row repeated `k` times with unit weight — all other per-sample parameters travel with it -/
def replicatedRows (wt : α → Nat → α) (rows : List (Row α × Nat)) : List (Row α) :=
  rows.flatMap (fun p => List.replicate p.2 { p.1 with dat := wt p.1.dat 1 })

/-- the metric treats an integer weight as a multiplicity on every slice -/
def WeightMult (wt : α → Nat → α) (f : List α → β) : Prop :=
  ∀ l : List (α × Nat), (∀ p ∈ l, 1 ≤ p.2) →
    f (l.map (fun p => wt p.1 p.2)) = f (l.flatMap (fun p => List.replicate p.2 (wt p.1 1)))

/-- the index tuple does not look at the payload -/
def KeyIgnoresDat (kf : Row α → Key) : Prop := ∀ (r : Row α) (d : α), kf ⟨d, r.cf, r.sf⟩ = kf r

theorem keyIgnoresDat_key : KeyIgnoresDat (Row.key (α := α)) := fun _ _ => rfl
theorem keyIgnoresDat_ckey : KeyIgnoresDat (Row.ckey (α := α)) := fun _ _ => rfl

theorem rowsOf_weighted (wt : α → Nat → α) (kf : Row α → Key) (hkf : KeyIgnoresDat kf)
    (rows : List (Row α × Nat)) (k : Key) :
    rowsOf kf k (weightedRows wt rows) = weightedRows wt (rows.filter (fun p => kf p.1 == k)) := by
  simp only [rowsOf, weightedRows, List.filter_map, Function.comp_def, hkf _ _]

theorem rowsOf_replicated (wt : α → Nat → α) (kf : Row α → Key) (hkf : KeyIgnoresDat kf)
    (rows : List (Row α × Nat)) (k : Key) :
    rowsOf kf k (replicatedRows wt rows) = replicatedRows wt (rows.filter (fun p => kf p.1 == k)) := by
  simp only [rowsOf, replicatedRows, List.filter_flatMap, List.filter_replicate, flatMap_filter_ite, hkf _ _]

theorem slice_weighted (wt : α → Nat → α) (rows : List (Row α × Nat)) :
    slice (weightedRows wt rows) = (rows.map (fun p => (p.1.dat, p.2))).map (fun p => wt p.1 p.2) := by
  simp only [slice, weightedRows, List.map_map, Function.comp_def]

theorem slice_replicated (wt : α → Nat → α) (rows : List (Row α × Nat)) :
    slice (replicatedRows wt rows) =
      (rows.map (fun p => (p.1.dat, p.2))).flatMap (fun p => List.replicate p.2 (wt p.1 1)) := by
  simp only [slice, replicatedRows, List.map_flatMap, List.flatMap_map, List.map_replicate]

theorem f_slice_weighted (wt : α → Nat → α) (f : List α → β) (hf : WeightMult wt f)
    (rows : List (Row α × Nat)) (hk : ∀ p ∈ rows, 1 ≤ p.2) :
    f (slice (weightedRows wt rows)) = f (slice (replicatedRows wt rows)) := by
  rw [slice_weighted, slice_replicated]
  refine hf _ fun p hp => ?_
  obtain ⟨q, hq, rfl⟩ := List.mem_map.mp hp
  exact hk q hq

/-- **`_apply_functions` cannot tell integer weights from physical copies**: same index (incl. the
    re-indexed empty combinations) and same value in every cell, for any grouping columns, any payload
    (any number of per-sample parameters) and any metric that is weight-multiplicative on slices. -/
theorem applyFunctions_weight_mult (nanv : β) (wt : α → Nat → α) (kf : Row α → Key)
    (hkf : KeyIgnoresDat kf) (n : Nat) (f : List α → β) (hf : WeightMult wt f)
    (rows : List (Row α × Nat)) (hk : ∀ p ∈ rows, 1 ≤ p.2) :
    applyFunctions nanv kf n f (weightedRows wt rows) = applyFunctions nanv kf n f (replicatedRows wt rows) := by
  refine applyFunctions_congr_rows nanv kf n f (fun k => ?_) (f_slice_weighted wt f hf rows hk) fun k => ?_
  · exact (List.mem_map_flatMap_replicate kf (fun p => { p.1 with dat := wt p.1.dat 1 })
      (fun p => { p.1 with dat := wt p.1.dat p.2 }) (·.2) rows hk (fun p => (hkf p.1 _).trans (hkf p.1 _).symm) k).symm
  · rw [rowsOf_weighted wt kf hkf, rowsOf_replicated wt kf hkf]
    exact f_slice_weighted wt f hf _ fun p hp => hk p (List.mem_filter.mp hp).1

end Frame
