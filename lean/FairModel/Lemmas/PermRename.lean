import FairModel.Lemmas.Perm
import FairModel.Model.Perm

/-! Relabelling of feature values (C12): a column-wise injective relabelling of the index tuples renames the
entries of the result tables and changes nothing else (up to the order of the index, which is the sorted order
of the NEW labels). -/

namespace Perm
open Frame

variable {α β : Type}

/-- exchange the labels `a` and `b`, keep every other label: the generators of the label bijections -/
def swapLevels (a b : Level) : Level → Level := fun s => if s = a then b else if s = b then a else s

theorem mapCols_eq_mapIdx (σs : Nat → Level → Level) (k : Key) : mapCols σs k = k.mapIdx σs := by
  induction k generalizing σs with
  | nil => rfl
  | cons a k ih => rw [mapCols, List.mapIdx_cons, ih]

theorem mapCols_length (σs : Nat → Level → Level) (k : Key) : (mapCols σs k).length = k.length := by
  rw [mapCols_eq_mapIdx, List.length_mapIdx]

theorem mapCols_append (σs : Nat → Level → Level) (a b : Key) :
    mapCols σs (a ++ b) = mapCols σs a ++ mapCols (fun j => σs (a.length + j)) b := by
  simp only [mapCols_eq_mapIdx, List.mapIdx_append, Nat.add_comm]

theorem mapCols_getD (σs : Nat → Level → Level) (k : Key) (j : Nat) (hj : j < k.length) :
    (mapCols σs k).getD j "" = σs j (k.getD j "") := by
  rw [mapCols_eq_mapIdx, List.getD_eq_getElem?_getD, List.getD_eq_getElem?_getD, List.getElem?_mapIdx,
    List.getElem?_eq_getElem hj]
  rfl

theorem mapCols_congr_on (σs σs' : Nat → Level → Level) (k : Key)
    (h : ∀ j, j < k.length → σs j (k.getD j "") = σs' j (k.getD j "")) : mapCols σs k = mapCols σs' k := by
  rw [mapCols_eq_mapIdx, mapCols_eq_mapIdx, List.mapIdx_eq_mapIdx_iff]
  intro j hj
  have := h j hj
  rwa [List.getD_eq_getElem?_getD, List.getElem?_eq_getElem hj] at this

theorem mapCols_id (σs : Nat → Level → Level) (k : Key) (h : ∀ j, j < k.length → σs j = id) :
    mapCols σs k = k := by
  rw [mapCols_eq_mapIdx, List.mapIdx_eq_iff]
  intro j
  cases hj : k[j]? with
  | none => rfl
  | some a => rw [h j (List.getElem?_eq_some_iff.mp hj).1]; rfl

theorem mapCols_injective (σs : Nat → Level → Level) (hinj : ∀ j, Function.Injective (σs j)) :
    Function.Injective (mapCols σs) := by
  intro k k' h
  rw [mapCols_eq_mapIdx, mapCols_eq_mapIdx] at h
  have hl : k.length = k'.length := by rw [← List.length_mapIdx (f := σs), h, List.length_mapIdx]
  refine List.ext_getElem hl fun i h1 h2 => hinj i ?_
  have := congrArg (·[i]?) h
  simpa [h1, h2] using this

theorem mapCols_take (σs : Nat → Level → Level) (k : Key) (n : Nat) :
    (mapCols σs k).take n = mapCols σs (k.take n) := by
  rw [mapCols_eq_mapIdx, mapCols_eq_mapIdx]
  apply List.ext_getElem?
  intro i
  rw [List.getElem?_take, List.getElem?_mapIdx, List.getElem?_mapIdx, List.getElem?_take]
  split <;> rfl

theorem mapCols_lt (σs : Nat → Level → Level) (hmono : ∀ j a b, a < b → σs j a < σs j b) :
    ∀ {k k' : Key}, k < k' → mapCols σs k < mapCols σs k' := by
  intro k
  induction k generalizing σs with
  | nil =>
    intro k' h
    cases k' with
    | nil => simp at h
    | cons b k' => simp [mapCols]
  | cons a k ih =>
    intro k' h
    cases k' with
    | nil => simp at h
    | cons b k' =>
      simp only [mapCols]
      rw [List.cons_lt_cons_iff] at h ⊢
      rcases h with h | ⟨rfl, h⟩
      · exact Or.inl (hmono 0 _ _ h)
      · exact Or.inr ⟨rfl, ih (fun j => σs (j + 1)) (fun j => hmono (j + 1)) h⟩

theorem renCols_key (σs : Nat → Level → Level) (r : Row α) : (renCols σs r).key = mapCols σs r.key := by
  simp [renCols, Row.key, mapCols_append]

theorem renCols_ckey (σs : Nat → Level → Level) (r : Row α) : (renCols σs r).ckey = mapCols σs r.ckey := rfl

theorem renCols_dat (σs : Nat → Level → Level) (r : Row α) : (renCols σs r).dat = r.dat := rfl

theorem renCols_wf (σs : Nat → Level → Level) {ncf nsf : Nat} {rows : List (Row α)} (h : WF ncf nsf rows) :
    WF ncf nsf (rows.map (renCols σs)) := by
  intro r hr
  simp only [List.mem_map] at hr
  obtain ⟨r0, hr0, rfl⟩ := hr
  simpa [renCols, mapCols_length] using h r0 hr0

/-- strictly increasing ⇒ injective (labels are linearly ordered) -/
theorem injective_of_strictMono (σ : Level → Level) (hmono : ∀ a b, a < b → σ a < σ b) : Function.Injective σ := by
  intro a b hab
  rcases level_tri a b with h | h | h
  · exact absurd (hab ▸ hmono a b h) (level_irrefl _)
  · exact h
  · exact absurd (hab ▸ hmono b a h) (level_irrefl _)

theorem swapLevels_involutive (a b s : Level) : swapLevels a b (swapLevels a b s) = s := by
  unfold swapLevels
  by_cases h1 : s = a
  · by_cases h2 : b = a <;> simp [h1, h2]
  · by_cases h2 : s = b
    · simp [h2]
    · simp [h1, h2]

theorem swapLevels_injective (a b : Level) : Function.Injective (swapLevels a b) :=
  Function.Involutive.injective (swapLevels_involutive a b)

theorem product_mapCols (σs : Nat → Level → Level) (g : Nat → List Level) (s n : Nat) :
    product ((List.range' s n).map (fun j => (g j).map (σs j))) =
      (product ((List.range' s n).map g)).map (mapCols (fun i => σs (s + i))) := by
  induction n generalizing s with
  | zero => rfl
  | succ n ih =>
    have shift : (fun i => σs (s + 1 + i)) = fun i => σs (s + (i + 1)) :=
      funext fun i => by rw [Nat.add_right_comm]; rfl
    simp only [List.range'_succ, List.map_cons, product, ih (s + 1), List.flatMap_map, List.map_flatMap,
      List.map_map, Function.comp_def, mapCols, shift, Nat.add_zero]

section tables
variable (nanv : β) (kf : Row α → Key) (ren : Row α → Row α) (σs : Nat → Level → Level)
  (hkey : ∀ r, kf (ren r) = mapCols σs (kf r)) (hdat : ∀ r, (ren r).dat = r.dat)
  (hinj : ∀ j, Function.Injective (σs j))

include hkey hinj in
theorem rowsOf_rename (k : Key) (rows : List (Row α)) :
    rowsOf kf (mapCols σs k) (rows.map ren) = (rowsOf kf k rows).map ren := by
  unfold rowsOf
  rw [List.filter_map]
  congr 1
  apply List.filter_congr
  intro r _
  rw [Function.comp_apply, hkey, (mapCols_injective σs hinj).beq_eq]

include hdat in
theorem slice_rename (rs : List (Row α)) : slice (rs.map ren) = slice rs :=
  (List.map_map ..).trans (List.map_congr_left fun r _ => hdat r)

include hkey hinj in
theorem product_levels_rename (n : Nat) (rows : List (Row α)) (hlen : ∀ r ∈ rows, (kf r).length = n) :
    (product (levels kf n (rows.map ren))).Perm ((product (levels kf n rows)).map (mapCols σs)) := by
  unfold levels
  have h2 := product_mapCols σs (fun j => uniq (col j (rows.map kf))) 0 n
  simp only [Nat.zero_add] at h2
  rw [List.range_eq_range', ← h2]
  refine product_perm ?_
  rw [List.forall₂_map_left_iff, List.forall₂_map_right_iff, List.forall₂_same]
  intro j hj
  have hj' : j < n := Nat.zero_add n ▸ (List.mem_range'_1.mp hj).2
  have hc : col j ((rows.map ren).map kf) = (col j (rows.map kf)).map (σs j) := by
    simp only [col, List.map_map]
    refine List.map_congr_left fun r hr => ?_
    simp only [Function.comp, hkey]
    exact mapCols_getD σs (kf r) j (by rw [hlen r hr]; exact hj')
  rw [hc]
  exact uniq_map_perm (σs j) (hinj j) _

include hkey hdat hinj in
/-- `_apply_functions` on relabelled rows: the same entries under the relabelled index tuples -/
theorem applyFunctions_rename (n : Nat) (f : List α → β) (rows : List (Row α))
    (hlen : ∀ r ∈ rows, (kf r).length = n) :
    (applyFunctions nanv kf n f (rows.map ren)).Perm
      ((applyFunctions nanv kf n f rows).map (fun e => (mapCols σs e.1, e.2))) := by
  rcases n.eq_zero_or_pos with rfl | hn
  · exact .of_eq (congrArg (fun v => [([], f v)]) (slice_rename ren hdat rows))
  · have hlen' : ∀ r ∈ rows.map ren, (kf r).length = n := fun r hr => by
      obtain ⟨r0, hr0, rfl⟩ := List.mem_map.mp hr
      rw [hkey, mapCols_length, hlen r0 hr0]
    rw [applyFunctions_eq_table nanv kf n hn f _ hlen', applyFunctions_eq_table nanv kf n hn f rows hlen, List.map_map]
    refine ((product_levels_rename kf ren σs hkey hinj n rows hlen).map _).trans (.of_eq ?_)
    rw [List.map_map]
    refine List.map_congr_left fun k _ => ?_
    simp only [Function.comp, rowsOf_rename kf ren σs hkey hinj, slice_rename ren hdat, List.map_eq_nil_iff]

end tables

/-- mapping the rows by a `ren` that keeps grouping key and payload of every row leaves the table unchanged -/
theorem applyFunctions_map_of_preserves (nanv : β) (kf : Row α → Key) (ren : Row α → Row α) (n : Nat) (f : List α → β)
    (rows : List (Row α)) (hkey : ∀ r ∈ rows, kf (ren r) = kf r) (hdat : ∀ r ∈ rows, (ren r).dat = r.dat) :
    applyFunctions nanv kf n f (rows.map ren) = applyFunctions nanv kf n f rows := by
  have h1 : (rows.map ren).map kf = rows.map kf :=
    (List.map_map ..).trans (List.map_congr_left hkey)
  have h2 : ∀ k, slice (rowsOf kf k (rows.map ren)) = slice (rowsOf kf k rows) := by
    intro k
    unfold rowsOf slice
    rw [List.filter_map, List.map_map, List.filter_congr fun r hr => by rw [Function.comp_apply, hkey r hr]]
    exact List.map_congr_left fun r hr => hdat r (List.mem_filter.mp hr).1
  exact applyFunctions_congr_rows nanv kf n f (fun k => by rw [h1])
    (congrArg f ((List.map_map ..).trans (List.map_congr_left hdat))) fun k => congrArg f (h2 k)

end Perm
