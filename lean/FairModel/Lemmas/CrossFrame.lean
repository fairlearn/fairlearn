/-
Cross-property lemmas: the bridge from the rows of `Model/Moments.lean` (label, group, control stratum;
prediction vector alongside) to the input of the MetricFrame / named-fairness-metric model
(`Model/Frame.lean`, `Model/Fairness.lean`): the frame a USER builds when they evaluate a mitigated predictor
with `fairlearn.metrics` (unit sample weights, the moment's group as the single sensitive feature).

`toFrame S rows h` = the rows selected by `S` (a control stratum, or everything), with predictions `h`.
The base-rate specifications of C03 on that frame are the `meanOn` means of the moments side.
-/
import FairModel.Lemmas.CrossRates
import FairModel.Properties.C03

namespace Cross
open Moments Fairness Frame MetricPool XR

/-- what the metric sees of one sample: label, prediction, unit weight -/
def datOf (r : Moments.Row) (p : Rat) : Dat := ⟨(r.y : Rat), p, 1, 0⟩

def frow (t : Moments.Row × Rat) : Frame.Row Dat := ⟨datOf t.1 t.2, [], [t.1.g]⟩

/-- MetricFrame input built from the rows selected by `S`, predictions `h`, sensitive feature = group -/
def toFrame (S : Moments.Row → Bool) (rows : List Moments.Row) (h : List Rat) : List (Frame.Row Dat) :=
  ((rows.zip h).filter (fun t => S t.1)).map frow

/-- the selected (row, prediction) pairs as metric data -/
def selDat (P : Moments.Row → Bool) (rows : List Moments.Row) (h : List Rat) : List Dat :=
  ((rows.zip h).filter (fun t => P t.1)).map (fun t => datOf t.1 t.2)

theorem slice_toFrame (S : Moments.Row → Bool) (rows : List Moments.Row) (h : List Rat) :
    slice (toFrame S rows h) = selDat S rows h := by
  simp [slice, toFrame, selDat, frow, Function.comp_def]

theorem mem_toFrame {S : Moments.Row → Bool} {rows : List Moments.Row} {h : List Rat} {r' : Frame.Row Dat}
    (hr : r' ∈ toFrame S rows h) : ∃ r p, (r, p) ∈ rows.zip h ∧ S r = true ∧ r' = frow (r, p) := by
  obtain ⟨t, ht, rfl⟩ := List.mem_map.mp hr
  obtain ⟨h1, h2⟩ := List.mem_filter.mp ht
  exact ⟨t.1, t.2, h1, h2, rfl⟩

/-- every selected row occurs in the frame (with its own prediction) -/
theorem mem_toFrame_of_mem {S : Moments.Row → Bool} {rows : List Moments.Row} {h : List Rat} (hl : h.length = rows.length)
    {r : Moments.Row} (hr : r ∈ rows) (hs : S r = true) : ∃ p, frow (r, p) ∈ toFrame S rows h := by
  obtain ⟨i, hi, hget⟩ := List.getElem_of_mem hr
  have hi' : i < h.length := hl ▸ hi
  have hz : (r, h[i]) ∈ rows.zip h :=
    List.mem_iff_getElem.mpr ⟨i, by rw [List.length_zip, hl, Nat.min_self]; exact hi, by rw [List.getElem_zip, hget]⟩
  exact ⟨h[i], List.mem_map.mpr ⟨(r, h[i]), List.mem_filter.mpr ⟨hz, hs⟩, rfl⟩⟩

theorem groupOf_toFrame (S : Moments.Row → Bool) (rows : List Moments.Row) (h : List Rat) (t : Moments.Row × Rat) :
    groupOf (toFrame S rows h) (frow t) = selDat (fun r => S r && (r.g == t.1.g)) rows h := by
  unfold groupOf rowsOf toFrame selDat slice
  rw [List.filter_map, List.filter_filter, List.map_map]
  congr 1
  apply List.filter_congr
  intro t' _
  simp [Row.key, frow, Bool.and_comm]

/-- a sum over the selected elements, with the selection as an indicator factor -/
theorem sum_map_filter {α} (p : α → Bool) (g : α → Rat) (l : List α) :
    ((l.filter p).map g).sum = (l.map (fun a => ind (p a) * g a)).sum := by
  induction l with
  | nil => rfl
  | cons a l ih =>
    rw [List.filter_cons, List.map_cons, List.sum_cons, ← ih]
    cases p a
    · rw [if_neg Bool.false_ne_true]; exact (by rw [show ind false = 0 from rfl, zero_mul, zero_add])
    · rw [if_pos rfl, List.map_cons, List.sum_cons, show ind true = 1 from rfl, one_mul]

theorem sumBy_selDat (f : Dat → Rat) (P : Moments.Row → Bool) (rows : List Moments.Row) (h : List Rat) :
    sumBy f (selDat P rows h) = (List.zipWith (fun r p => ind (P r) * f (datOf r p)) rows h).sum := by
  unfold sumBy selDat
  rw [List.map_map, sum_map_filter, ← List.map_uncurry_zip_eq_zipWith]
  rfl

theorem wsum_selDat (q : Dat → Bool) (P : Moments.Row → Bool) (rows : List Moments.Row) (h : List Rat) :
    Fairness.wsum q (selDat P rows h) = (List.zipWith (fun r p => ind (P r && q (datOf r p))) rows h).sum := by
  unfold Fairness.wsum
  rw [sum_map_filter]
  refine (sumBy_selDat (fun d => ind (q d) * d.p0) P rows h).trans ?_
  congr 2
  funext r p
  rw [← ind_mul, show (datOf r p).p0 = 1 from rfl, mul_one]

theorem sum_ind_count (P : Moments.Row → Bool) (rows : List Moments.Row) (h : List Rat) (hl : h.length = rows.length) :
    (List.zipWith (fun r (_ : Rat) => ind (P r)) rows h).sum = ((rows.filter P).length : Rat) := by
  rw [zipWith_left_only _ rows h hl, length_filter_cast]

theorem ind_beq_one {p : Rat} (hp : p = 0 ∨ p = 1) : ind (p == 1) = p := by
  rcases hp with rfl | rfl <;> rfl

theorem sum_ind_hard (P : Moments.Row → Bool) (rows : List Moments.Row) (h : List Rat) (hh : Hard h) :
    (List.zipWith (fun r p => ind (P r && (p == 1))) rows h).sum = dot (rows.map (fun r => ind (P r))) h := by
  induction rows generalizing h with
  | nil => rfl
  | cons r rs ih =>
    cases h with
    | nil => rfl
    | cons p ps =>
      rw [List.zipWith_cons_cons, List.sum_cons, List.map_cons, dot_cons,
        ih ps (fun x hx => hh x (List.mem_cons_of_mem _ hx)), ← ind_mul, ind_beq_one (hh p List.mem_cons_self)]

theorem sum_ind_mul (P : Moments.Row → Bool) (rows : List Moments.Row) (h : List Rat) :
    (List.zipWith (fun r p => ind (P r) * p) rows h).sum = dot (rows.map (fun r => ind (P r))) h := by
  induction rows generalizing h with
  | nil => simp
  | cons r rs ih =>
    cases h with
    | nil => simp
    | cons p ps => simp only [List.zipWith_cons_cons, List.sum_cons, List.map_cons, dot_cons, ih ps]

theorem cast_beq (y c : Int) : ((y : Rat) == (c : Rat)) = (y == c) :=
  Bool.eq_iff_iff.mpr (by rw [beq_iff_eq, beq_iff_eq, Int.cast_inj])

/-! ### the C03 base-rate specifications on `selDat` are the moments-side means -/

/-- selection rate (hard predictions) of the selected rows = their mean prediction -/
theorem selRateSpec_selDat (P : Moments.Row → Bool) (rows : List Moments.Row) (h : List Rat)
    (hl : h.length = rows.length) (hh : Hard h) :
    selRateSpec (selDat P rows h) = meanOn P rows h := by
  unfold selRateSpec meanOn
  rw [wsum_selDat, wsum_selDat]
  simp only [Bool.and_true, datOf]
  rw [sum_ind_count P rows h hl, sum_ind_hard P rows h hh]

/-- the rate among the label-`c` rows, with sklearn's convention 0 for an empty class -/
theorem rateSpec_selDat (c : Int)
    (P : Moments.Row → Bool) (rows : List Moments.Row) (h : List Rat) (hl : h.length = rows.length) (hh : Hard h) :
    (if Fairness.wsum (fun d => d.y == (c : Rat)) (selDat P rows h) = 0 then 0
      else Fairness.wsum (fun d => d.y == (c : Rat) && d.pred == 1) (selDat P rows h)
        / Fairness.wsum (fun d => d.y == (c : Rat)) (selDat P rows h))
      = meanOn (fun r => P r && (r.y == c)) rows h := by
  unfold meanOn
  rw [wsum_selDat, wsum_selDat]
  simp only [datOf, cast_beq]
  have e1 : (List.zipWith (fun (r : Moments.Row) (_ : Rat) => ind (P r && (r.y == c))) rows h).sum
      = (((rows.filter (fun r => P r && (r.y == c))).length : Nat) : Rat) := sum_ind_count _ rows h hl
  have e2 : (List.zipWith (fun (r : Moments.Row) (p : Rat) => ind (P r && (r.y == c && p == 1))) rows h).sum
      = dot (rows.map (fun r => ind (P r && (r.y == c)))) h := by
    rw [← sum_ind_hard (fun r => P r && (r.y == c)) rows h hh]
    congr 2; funext r p; rw [Bool.and_assoc]
  rw [e1, e2]
  split
  · next h0 => rw [h0, div_zero]
  · rfl

/-- TPR (c = 1) / FPR (c = 0) of the selected rows = mean prediction over their label-`c` rows
    (both sides are 0 when there is no such row: sklearn's `nan_to_num` resp. Lean's `x/0`; C06X never uses that
    coincidence: its coverage hypotheses `hcov` make the label class of every group non-empty) -/
theorem tprSpec_selDat (P : Moments.Row → Bool) (rows : List Moments.Row) (h : List Rat)
    (hl : h.length = rows.length) (hh : Hard h) :
    tprSpec (selDat P rows h) = meanOn (fun r => P r && (r.y == 1)) rows h := by
  have := rateSpec_selDat 1 P rows h hl hh
  rwa [Int.cast_one] at this

theorem fprSpec_selDat (P : Moments.Row → Bool) (rows : List Moments.Row) (h : List Rat)
    (hl : h.length = rows.length) (hh : Hard h) :
    fprSpec (selDat P rows h) = meanOn (fun r => P r && (r.y == 0)) rows h := by
  have := rateSpec_selDat 0 P rows h hl hh
  rwa [Int.cast_zero] at this

/-- `fairlearn.metrics.mean_prediction` on a slice: weighted mean of the predictions, written with the two sums that
    `eval .meanpred` divides (C03's `meanPredictionSpec` is the same quantity over `wsum`) -/
def meanPredSpec (ds : List Dat) : Rat := sumBy (fun d => d.pred * d.p0) ds / sumBy (·.p0) ds

theorem meanpred_finiteOn {nsf : Nat} {frows : List (Frame.Row Dat)} (hv : C03.Valid nsf frows) :
    FiniteOn (eval .meanpred) meanPredSpec frows :=
  C03.finiteOn_of_pos hv fun {ds} hw hne => by
    have e1 : sumBy (·.p0) ds = Fairness.wsum (fun _ => true) ds := by simp [sumBy, Fairness.wsum]
    simp only [eval, quot, meanPredSpec]
    rw [div_fin_fin, if_neg (by rw [e1]; exact ne_of_gt (wsum_true_pos hw hne))]

/-- mean prediction (ANY rational predictions, e.g. expected predictions of a randomised classifier) of the
    selected rows = the moments-side mean -/
theorem meanPredSpec_selDat (P : Moments.Row → Bool) (rows : List Moments.Row) (h : List Rat)
    (hl : h.length = rows.length) :
    meanPredSpec (selDat P rows h) = meanOn P rows h := by
  unfold meanPredSpec meanOn
  rw [sumBy_selDat, sumBy_selDat]
  simp only [datOf, mul_one]
  rw [sum_ind_count P rows h hl, sum_ind_mul P rows h]

theorem toFrame_valid (S : Moments.Row → Bool) (rows : List Moments.Row) (h : List Rat)
    (hl : h.length = rows.length) (hne : rows.filter S ≠ []) : C03.Valid 1 (toFrame S rows h) := by
  refine ⟨?_, by decide, ?_, ?_⟩
  · obtain ⟨r, hr⟩ := List.exists_mem_of_ne_nil _ hne
    obtain ⟨hr1, hr2⟩ := List.mem_filter.mp hr
    obtain ⟨p, hp⟩ := mem_toFrame_of_mem (h := h) hl hr1 hr2
    exact List.ne_nil_of_mem hp
  · intro r' hr'
    obtain ⟨r, p, _, _, rfl⟩ := mem_toFrame hr'
    simp [frow]
  · intro r' hr'
    obtain ⟨r, p, _, _, rfl⟩ := mem_toFrame hr'
    simp [frow, datOf]

theorem toFrame_binary (S : Moments.Row → Bool) (rows : List Moments.Row) (h : List Rat)
    (hy : ∀ r ∈ rows, r.y = 0 ∨ r.y = 1) (hh : Hard h) :
    C03.BinaryRows (toFrame S rows h) := by
  intro r' hr'
  obtain ⟨r, p, hz, _, rfl⟩ := mem_toFrame hr'
  have hr := (List.of_mem_zip hz).1
  have hp := (List.of_mem_zip hz).2
  simp only [frow, datOf]
  refine ⟨?_, hh p hp⟩
  rcases hy r hr with h0 | h0
  exacts [Or.inl (by rw [h0, Int.cast_zero]), Or.inr (by rw [h0, Int.cast_one])]

section generic
variable {m : Metric} {g : List Dat → Rat} {nsf : Nat} {frows : List (Frame.Row Dat)}

/-- difference(method=to_overall) is at most any common bound of |group value − overall value| -/
theorem diff_overall_le (hv : C03.Valid nsf frows) (hf : FiniteOn (eval m) g frows) (eps : Rat)
    (hb : ∀ r ∈ frows, |g (groupOf frows r) - g (slice frows)| ≤ eps) :
    ∃ D, run m .difference .toOverall true nsf frows = .value (fin D) ∧ 0 ≤ D ∧ D ≤ eps := by
  obtain ⟨D, h1, ⟨r, hr, hD⟩, _⟩ := C03.difference_overall_spec hv hf
  exact ⟨D, h1, by rw [hD]; exact abs_nonneg _, by rw [hD]; exact hb r hr⟩

/-- difference(method=between_groups) is at most any common bound of |group value − group value| -/
theorem diff_between_le (hv : C03.Valid nsf frows) (hf : FiniteOn (eval m) g frows) (c : Rat)
    (hb : ∀ r ∈ frows, ∀ r' ∈ frows, |g (groupOf frows r) - g (groupOf frows r')| ≤ c) :
    ∃ D, run m .difference .between true nsf frows = .value (fin D) ∧ 0 ≤ D ∧ D ≤ c := by
  obtain ⟨mn, mx, ⟨⟨r1, hr1, e1⟩, hmn⟩, ⟨⟨r2, hr2, e2⟩, _⟩, h3⟩ := C03.difference_between_spec hv hf
  refine ⟨mx - mn, h3, ?_, ?_⟩
  · exact sub_nonneg.mpr (e2 ▸ hmn r2 hr2)
  · rw [e1, e2]; exact le_trans (le_abs_self _) (hb r2 hr2 r1 hr1)

end generic

end Cross
