import FairModel.Lemmas.Moments
import FairModel.Lemmas.Perm

/-! Row-order lemmas for the constraint moments (C12): `Moment.index` is the sorted set of observed (event, group)
pairs and does not depend on the row order; `gamma` is invariant under a JOINT permutation of the rows and the
predictor's outputs; `signed_weights` gives every row the weight it has in any other order. -/

namespace Moments

/-- the weight of one sample, computed from a data set `rows` it belongs to -/
def rowWeight (ev : Ev) (rows : List Row) (ratio : Rat) (ut : Util) (lam : List Rat) (r : Row) : Rat :=
  MomentsSrc.swOf (ut.ud r) (dot ((index ev rows).map (uEntry ev rows ratio r)) lam)

theorem signedWeights_eq_map (ev : Ev) (rows : List Row) (ratio : Rat) (ut : Util) (lam : List Rat) :
    signedWeights ev rows ratio ut lam = rows.map (rowWeight ev rows ratio ut lam) := rfl

theorem index_perm (ev : Ev) {rows rows' : List Row} (hp : rows.Perm rows') : index ev rows = index ev rows' := by
  unfold index observedPairs pairs
  rw [sortedDistinct_congr pairLe pairLe_total pairLe_trans pairLe_antisymm fun _ => (hp.filterMap _).mem_iff]

theorem bglIndex_perm {rows rows' : List LRow} (hp : rows.Perm rows') : bglIndex rows = bglIndex rows' :=
  sortedDistinct_congr strLe strLe_total strLe_trans strLe_antisymm (fun _ => (hp.map _).mem_iff)

/-- the row of `U` belonging to a sample does not depend on where the sample sits in the data -/
theorem uEntry_perm (ev : Ev) {rows rows' : List Row} (hp : rows.Perm rows') (ratio : Rat) (r : Row) (k : Key) :
    uEntry ev rows ratio r k = uEntry ev rows' ratio r k := by
  unfold uEntry probE probEG countE countEG
  rw [(hp.filter _).length_eq, (hp.filter _).length_eq, hp.length_eq]

theorem gammaAt_joint_perm (ev : Ev) (ratio : Rat) (ut : Util) {rows rows' : List Row} {h h' : List Rat}
    (hl : rows.length = h.length) (hl' : rows'.length = h'.length)
    (hp : (rows.zip h).Perm (rows'.zip h')) (k : Key) :
    gammaAt ev rows ratio ut h k = gammaAt ev rows' ratio ut h' k := by
  have hr : rows.Perm rows' := zip_fst_perm hl hl' hp
  unfold gammaAt uCol predOf dot
  rw [List.zipWith_map_left, List.zipWith_map_left, zipWith_zipWith_self, zipWith_zipWith_self, hr.length_eq]
  simp only [uEntry_perm ev hr]
  rw [(hp.map _).sum_eq]

theorem rowWeight_perm (ev : Ev) {rows rows' : List Row} (hp : rows.Perm rows') (ratio : Rat) (ut : Util)
    (lam : List Rat) (r : Row) : rowWeight ev rows ratio ut lam r = rowWeight ev rows' ratio ut lam r := by
  unfold rowWeight
  rw [index_perm ev hp]
  congr 3
  funext k
  exact uEntry_perm ev hp ratio r k

theorem errGamma_joint_perm (fp fn : Rat) {ys ys' h h' : List Rat} (hl : ys.length = h.length)
    (hl' : ys'.length = h'.length) (hp : (ys.zip h).Perm (ys'.zip h')) :
    errGamma fp fn ys h = errGamma fp fn ys' h' := by
  have hy : ys.Perm ys' := zip_fst_perm hl hl' hp
  unfold errGamma
  simp only [vsub_eq_zip]
  have hq := hp.map (fun p : Rat × Rat => p.1 - p.2)
  have h1 := ((hq.filter (fun x => decide (0 < x))).map (fun x => x * fn)).sum_eq
  have h2 := ((hq.filter (fun x => decide (x < 0))).map (fun x => -x * fp)).sum_eq
  rw [h1, h2, hy.length_eq]

theorem countG_perm {rows rows' : List LRow} (hp : rows.Perm rows') (g : String) : countG rows g = countG rows' g :=
  (hp.filter _).length_eq

theorem bglGammaAt_joint_perm (l : Loss) {rows rows' : List LRow} {h h' : List Rat}
    (hl : rows.length = h.length) (hl' : rows'.length = h'.length) (hp : (rows.zip h).Perm (rows'.zip h'))
    (g : String) : bglGammaAt l rows h g = bglGammaAt l rows' h' g := by
  have hr : rows.Perm rows' := zip_fst_perm hl hl' hp
  unfold bglGammaAt lossOf
  rw [zipWith_zipWith_self, zipWith_zipWith_self, countG_perm hr]
  have hs := (hp.map (fun p : LRow × Rat => ind (p.1.g == g) * l.evalS p.1.y p.2)).sum_eq
  rw [hs]

theorem probG_perm {rows rows' : List LRow} (hp : rows.Perm rows') (g : String) : probG rows g = probG rows' g := by
  unfold probG; rw [countG_perm hp, hp.length_eq]

end Moments
