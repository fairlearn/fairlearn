/-
Lemmas for the relabel / reweight step (`Model/Oracle.lean` over `Generated/OracleSrc.lean`).

`_call_oracle` and `GridSearch.fit` relabel and reweight with textually the same expressions (`egLabel` / `gridLabel`,
`egAbs` / `gridAbs`, `egDummyWhen` / `gridDummyWhen`): each fact is proved once, for an arbitrary rule that `Reduces`
resp. for an arbitrary shortcut test that fires on exactly one distinct label, and instantiated twice.
-/
import FairModel.Model.Oracle
import FairModel.Lemmas.MomentsReduction

namespace Oracle
open Moments

theorem absR_eq (x : Rat) : OracleSrc.absR x = |x| := Moments.absR_eq x

/-! ### element-wise facts about the lifted relabel / reweight functions -/

/-- what the reduction needs from a (label, weight) rule: a hard prediction `p` pays `max(x,0) − x·p` -/
def Reduces (lab ab : Rat → Rat) : Prop :=
  ∀ x p : Rat, (p = 0 ∨ p = 1) → (if p = lab x then 0 else ab x) = (if 0 < x then x else 0) - x * p

/-- label `1[0 < x]` with weight `|x|`: for `x > 0` the label is 1 and a prediction 0 pays `x`; for `x ≤ 0` the label is
    0 and a prediction 1 pays `−x` (nothing when `x = 0`, so the comparison might as well be non-strict) -/
theorem reduces_of_sign (lab ab : Rat → Rat) (hlab : ∀ x, lab x = if 0 < x then 1 else 0) (hab : ∀ x, ab x = |x|) :
    Reduces lab ab := by
  intro x p hp
  rw [hlab, hab]
  by_cases hx : 0 < x
  · rw [if_pos hx, if_pos hx, abs_of_pos hx]
    rcases hp with rfl | rfl
    · rw [if_neg zero_ne_one, mul_zero, sub_zero]
    · rw [if_pos rfl, mul_one, sub_self]
  · rw [if_neg hx, if_neg hx, abs_of_nonpos (not_lt.mp hx)]
    rcases hp with rfl | rfl
    · rw [if_pos rfl, mul_zero, sub_zero]
    · rw [if_neg one_ne_zero, mul_one, zero_sub]

/-- `GridSearch.fit` relabels, reweights and short-cuts with the same text as `_call_oracle`, so every fact about the
    `eg*` expressions below is, by unfolding, a fact about the `grid*` ones (used for `gridLabel`, `gridAbs`,
    `gridDummyWhen` in `grid_shortcut_*` and in C07 `grid_dummy_minimises_lagrangian`) -/
theorem grid_eq_eg : OracleSrc.gridLabel = OracleSrc.egLabel ∧ OracleSrc.gridAbs = OracleSrc.egAbs ∧
    OracleSrc.gridDummyWhen = OracleSrc.egDummyWhen ∧ OracleSrc.gridDummyPick = OracleSrc.egDummyPick :=
  ⟨rfl, rfl, rfl, rfl⟩

theorem eg_reduces : Reduces OracleSrc.egLabel OracleSrc.egAbs :=
  reduces_of_sign _ _ (fun _ => one_mul _) absR_eq

theorem grid_reduces : Reduces OracleSrc.gridLabel OracleSrc.gridAbs :=
  reduces_of_sign _ _ (fun _ => one_mul _) absR_eq

theorem relabel_reduces : Reduces (fun x => ind (decide (0 < x))) MomentsSrc.absR :=
  reduces_of_sign _ _ (fun x => by simp only [ind, decide_eq_true_eq]) Moments.absR_eq

/-- `Moments.relabel / absWeights / egWeights` state the reduction in the words of the paper (`1[w>0]`, `|w|`,
    `n|w|/Σ|w|`); `egLabels / egAbsWeights / egNormWeights` are the lifted text of `_call_oracle`: the same vectors -/
theorem eg_eq_spec (w : List Rat) :
    egLabels w = relabel w ∧ egAbsWeights w = absWeights w ∧ egNormWeights w = egWeights w :=
  ⟨List.map_congr_left fun x _ => by simp only [OracleSrc.egLabel, ind, decide_eq_true_eq, one_mul, gt_iff_lt], rfl, rfl⟩

theorem egLabel_hard (x : Rat) : OracleSrc.egLabel x = 0 ∨ OracleSrc.egLabel x = 1 := by
  unfold OracleSrc.egLabel; split <;> [exact Or.inr (one_mul 1); exact Or.inl (mul_zero 1)]

theorem egAbs_nonneg (x : Rat) : 0 ≤ OracleSrc.egAbs x := by
  rw [OracleSrc.egAbs, absR_eq]; exact abs_nonneg x

theorem egAbs_zero : OracleSrc.egAbs 0 = 0 := (absR_eq 0).trans abs_zero

/-! ### weighted 0/1 error -/

theorem weighted01_cons (a b p : Rat) (z wt h : List Rat) :
    weighted01 (a :: z) (b :: wt) (p :: h) = (if p = a then 0 else b) + weighted01 z wt h := by
  simp [weighted01]

@[simp] theorem weighted01_nil_h (z wt : List Rat) : weighted01 z wt [] = 0 := by simp [weighted01]
@[simp] theorem weighted01_nil_z (wt h : List Rat) : weighted01 [] wt h = 0 := by simp [weighted01]
@[simp] theorem weighted01_nil_w (z h : List Rat) : weighted01 z [] h = 0 := by simp [weighted01]

/-- relabel + reweight by any rule that `Reduces`: the weighted 0/1 error of a hard `h` is `Σ max(w,0) − w·h` -/
theorem weighted01_of_reduces (lab ab : Rat → Rat) (H : Reduces lab ab) (w h : List Rat)
    (hl : h.length = w.length) (hh : Hard h) :
    weighted01 (w.map lab) (w.map ab) h = Moments.posPart w - dot w h := by
  rw [weighted01, List.zip_map', List.zipWith_map_left,
    zipWith_congr_mem _ (fun x p => -1 * x * p + if 0 < x then x else 0) w h
      (fun x _ p hp => (H x p (hh p hp)).trans (by ring)),
    sum_zipWith_affine _ _ w h hl, dot_map_smul (-1) (fun x => x), List.map_id']
  unfold Moments.posPart; ring

theorem weighted01_scale (c : Rat) (z wt h : List Rat) :
    weighted01 z (wt.map (fun a => c * a)) h = c * weighted01 z wt h := by
  simp only [weighted01, List.zip_map_right, List.zipWith_map_left, ← sum_zipWith_mul_left, mul_ite, mul_zero,
    Prod.map_fst, Prod.map_snd, id]

theorem weighted01_nonneg (z wt h : List Rat) (hw : ∀ x ∈ wt, 0 ≤ x) : 0 ≤ weighted01 z wt h := by
  induction z generalizing wt h with
  | nil => rfl
  | cons a as ih =>
    cases wt with
    | nil => rfl
    | cons b bs =>
      cases h with
      | nil => rfl
      | cons p ps =>
        rw [weighted01_cons]
        refine add_nonneg ?_ (ih bs ps (fun x hx => hw x (List.mem_cons_of_mem _ hx)))
        split
        · exact le_refl _
        · exact hw b List.mem_cons_self

theorem weighted01_self (z wt : List Rat) : weighted01 z wt z = 0 := by
  induction z generalizing wt with
  | nil => rfl
  | cons a as ih =>
    cases wt with
    | nil => rfl
    | cons b bs => rw [weighted01_cons, ih bs]; simp

/-- the label of a row whose weight is 0 is irrelevant -/
theorem weighted01_congr_labels (z z' wt h : List Rat) (hlen : z.length = z'.length)
    (H : ∀ t ∈ (z.zip z').zip wt, t.2 = 0 ∨ t.1.1 = t.1.2) :
    weighted01 z wt h = weighted01 z' wt h := by
  induction z generalizing z' wt h with
  | nil => cases z' with
    | nil => rfl
    | cons _ _ => cases hlen
  | cons a as ih =>
    cases z' with
    | nil => cases hlen
    | cons a' as' =>
      cases wt with
      | nil => simp
      | cons b bs =>
        cases h with
        | nil => simp
        | cons p ps =>
          rw [weighted01_cons, weighted01_cons,
            ih as' bs ps (Nat.succ.inj hlen) (fun t ht => H t (List.mem_cons_of_mem _ ht))]
          rcases H ((a, a'), b) List.mem_cons_self with hb | ha
          · simp only at hb; subst hb; simp
          · simp only at ha; subst ha; rfl

theorem weighted01_map_congr (f f' ab : Rat → Rat) (w h : List Rat) (H : ∀ x, ab x = 0 ∨ f x = f' x) :
    weighted01 (w.map f) (w.map ab) h = weighted01 (w.map f') (w.map ab) h := by
  refine weighted01_congr_labels _ _ _ h (by rw [List.length_map, List.length_map]) fun t ht => ?_
  rw [List.zip_map', List.zip_map'] at ht
  obtain ⟨x, _, rfl⟩ := List.mem_map.mp ht
  exact H x

/-! ### `np.unique` and the shortcut -/

theorem mem_unique (a : Rat) (l : List Rat) : a ∈ unique l ↔ a ∈ l := mem_sortedDistinct _ a l

theorem nodup_unique (l : List Rat) : (unique l).Nodup := nodup_sortedDistinct _ l

theorem unique_singleton (l : List Rat) (c : Rat) (h : unique l = [c]) : ∀ x ∈ l, x = c := by
  intro x hx
  have := (mem_unique x l).mpr hx
  rw [h] at this
  simpa using this

theorem unique_of_const (l : List Rat) (c : Rat) (hne : l ≠ []) (h : ∀ x ∈ l, x = c) : unique l = [c] := by
  obtain ⟨a, ha⟩ := List.exists_mem_of_ne_nil l hne
  have hc : c ∈ unique l := (mem_unique c l).mpr (h a ha ▸ ha)
  have hu : unique l = List.replicate (unique l).length c :=
    List.eq_replicate_iff.mpr ⟨rfl, fun x hx => h x ((mem_unique x l).mp hx)⟩
  have h1 : (unique l).length ≤ 1 := List.nodup_replicate.mp (hu ▸ nodup_unique l)
  rw [hu, Nat.le_antisymm h1 (List.length_pos_of_mem hc)]; rfl

/-- a shortcut that tests for exactly one distinct label and picks the first passes labels and weights on unchanged,
    to the learner or to a constant; the constant is used only when every label equals it -/
theorem shortcut_cases (when : Nat → Bool) (hwhen : ∀ k, when k = true ↔ k = 1) (y w : List Rat) :
    shortcut when 0 y w = .fit y w ∨ ∃ c, shortcut when 0 y w = .dummy c y w ∧ ∀ x ∈ y, x = c := by
  unfold shortcut
  by_cases hk : when (unique y).length = true
  · right
    match hu : unique y, (hwhen _).mp hk with
    | [a], _ => exact ⟨a, if_pos ((hwhen 1).mpr rfl), unique_singleton y a hu⟩
  · left
    simp [hk]

theorem shortcut_dummy (when : Nat → Bool) (hwhen : ∀ k, when k = true ↔ k = 1) (y w y' w' : List Rat) (c : Rat)
    (h : shortcut when 0 y w = .dummy c y' w') : y' = y ∧ w' = w ∧ ∀ x ∈ y, x = c := by
  rcases shortcut_cases when hwhen y w with hf | ⟨c0, hd, hc⟩
  · rw [hf] at h; cases h
  · rw [hd] at h; cases h; exact ⟨rfl, rfl, hc⟩

theorem shortcut_of_const (when : Nat → Bool) (hwhen : ∀ k, when k = true ↔ k = 1) (y w : List Rat) (c : Rat)
    (hne : y ≠ []) (h : ∀ x ∈ y, x = c) : shortcut when 0 y w = .dummy c y w := by
  unfold shortcut
  simp [unique_of_const y c hne h, (hwhen 1).mpr rfl]

theorem dummyWhen_iff (k : Nat) : OracleSrc.egDummyWhen k = true ↔ k = 1 := decide_eq_true_iff

theorem eg_shortcut_cases (y w : List Rat) :
    shortcut OracleSrc.egDummyWhen OracleSrc.egDummyPick y w = .fit y w ∨
    ∃ c, shortcut OracleSrc.egDummyWhen OracleSrc.egDummyPick y w = .dummy c y w ∧ ∀ x ∈ y, x = c :=
  shortcut_cases _ dummyWhen_iff y w

theorem grid_shortcut_cases (y w : List Rat) :
    shortcut OracleSrc.gridDummyWhen OracleSrc.gridDummyPick y w = .fit y w ∨
    ∃ c, shortcut OracleSrc.gridDummyWhen OracleSrc.gridDummyPick y w = .dummy c y w ∧ ∀ x ∈ y, x = c :=
  shortcut_cases _ dummyWhen_iff y w

/-- the shortcut as lifted (`len(unique) == 1`, `constant = unique[0]`) fires only on constant label vectors, with
    that constant, and passes labels and weights on unchanged (converse: `eg_shortcut_of_const`) -/
theorem eg_shortcut_dummy (y w y' w' : List Rat) (c : Rat)
    (h : shortcut OracleSrc.egDummyWhen OracleSrc.egDummyPick y w = .dummy c y' w') :
    y' = y ∧ w' = w ∧ ∀ x ∈ y, x = c :=
  shortcut_dummy _ dummyWhen_iff y w y' w' c h

theorem grid_shortcut_dummy (y w y' w' : List Rat) (c : Rat)
    (h : shortcut OracleSrc.gridDummyWhen OracleSrc.gridDummyPick y w = .dummy c y' w') :
    y' = y ∧ w' = w ∧ ∀ x ∈ y, x = c :=
  shortcut_dummy _ dummyWhen_iff y w y' w' c h

theorem eg_shortcut_of_const (y w : List Rat) (c : Rat) (hne : y ≠ []) (h : ∀ x ∈ y, x = c) :
    shortcut OracleSrc.egDummyWhen OracleSrc.egDummyPick y w = .dummy c y w :=
  shortcut_of_const _ dummyWhen_iff y w c hne h

theorem grid_shortcut_of_const (y w : List Rat) (c : Rat) (hne : y ≠ []) (h : ∀ x ∈ y, x = c) :
    shortcut OracleSrc.gridDummyWhen OracleSrc.gridDummyPick y w = .dummy c y w :=
  shortcut_of_const _ dummyWhen_iff y w c hne h

theorem shortcut_fit (when : Nat → Bool) (pick : Nat) (y w y' w' : List Rat)
    (h : shortcut when pick y w = .fit y' w') : y' = y ∧ w' = w := by
  simp only [shortcut] at h
  split at h
  · split at h <;> cases h
  · cases h; exact ⟨rfl, rfl⟩

/-! ### the signed weights and the normalisation -/

theorem egSignedWeights_eq (ow cw : List Rat) : egSignedWeights ow cw = vadd ow cw := rfl

theorem gridSignedWeights_eq (cw ow : List Rat) :
    List.zipWith OracleSrc.gridSigned cw ow = vadd ow cw := by
  rw [vadd, List.zipWith_comm]
  exact congrArg (List.zipWith · ow cw) (funext fun o => funext fun c => add_comm c o)

theorem egNormWeights_scale (w : List Rat) :
    egNormWeights w = (egAbsWeights w).map (fun a => ((w.length : Rat) / (egAbsWeights w).sum) * a) :=
  List.map_congr_left fun a _ => by unfold OracleSrc.egNorm; ring

theorem egAbsWeights_sum_nonneg (w : List Rat) : 0 ≤ (egAbsWeights w).sum :=
  List.sum_nonneg fun x hx => by obtain ⟨a, _, rfl⟩ := List.mem_map.mp hx; exact egAbs_nonneg a

/-! ### the Lagrangian as a function of the predictor -/

/-- `objective(h) + λ·γ(h)` (the bound term of the Lagrangian does not depend on `h`) -/
def lagr (ev : Ev) (rows : List Row) (ratio : Rat) (ut : Util) (fp fn : Rat) (lam h : List Rat) : Rat :=
  errGamma fp fn (labelsOf rows) h + dot lam (gamma ev rows ratio ut h)

/-- the total signed weights `objective weights + signed_weights(λ)` -/
def totalW (ev : Ev) (rows : List Row) (ratio : Rat) (ut : Util) (fp fn : Rat) (lam : List Rat) : List Rat :=
  vadd (errWeights fp fn (labelsOf rows) none) (signedWeights ev rows ratio ut lam)

theorem totalW_length (ev : Ev) (rows : List Row) (ratio : Rat) (ut : Util) (fp fn : Rat) (lam : List Rat) :
    (totalW ev rows ratio ut fp fn lam).length = rows.length := by
  simp [totalW, vadd, errWeights, signedWeights, labelsOf]

theorem lagr_sub (ev : Ev) (rows : List Row) (ratio : Rat) (ut : Util) (fp fn : Rat) (lam h h' : List Rat)
    (hl : h.length = rows.length) (hl' : h'.length = rows.length)
    (hy : Hard (labelsOf rows)) (hh : Soft h) (hh' : Soft h') :
    lagr ev rows ratio ut fp fn lam h - lagr ev rows ratio ut fp fn lam h'
      = -(1 / (rows.length : Rat)) * dot (totalW ev rows ratio ut fp fn lam) (vsub h h') := by
  have hlen : (labelsOf rows).length = rows.length := List.length_map _
  have e1 : dot lam (gamma ev rows ratio ut h) - dot lam (gamma ev rows ratio ut h')
      = -(1 / (rows.length : Rat)) * dot (signedWeights ev rows ratio ut lam) (vsub h h') :=
    reduction_keys ev rows ratio ut (index ev rows) lam h h' hl hl'
  have e2 := errGamma_sub fp fn (labelsOf rows) h h' (hl.trans hlen.symm) (hl'.trans hlen.symm) hy hh hh'
  rw [hlen] at e2
  rw [lagr, lagr, totalW, dot_vadd_left _ _ _ (by simp [errWeights, signedWeights, labelsOf]), mul_add, ← e1, ← e2]
  ring

theorem dot_totalW (ev : Ev) (rows : List Row) (ratio : Rat) (ut : Util) (fp fn : Rat) (lam h : List Rat)
    (hne : rows ≠ []) (hl : h.length = rows.length) (hy : Hard (labelsOf rows)) (hh : Soft h) :
    dot (totalW ev rows ratio ut fp fn lam) h
      = -(rows.length : Rat) * (lagr ev rows ratio ut fp fn lam h
          - lagr ev rows ratio ut fp fn lam (List.replicate rows.length 0)) := by
  have hn : (rows.length : Rat) ≠ 0 := Nat.cast_ne_zero.mpr (List.length_pos_of_ne_nil hne).ne'
  have := lagr_sub ev rows ratio ut fp fn lam h (List.replicate rows.length 0) hl (List.length_replicate ..) hy hh
    (hard_replicate _ 0 (Or.inl rfl)).soft
  rw [← hl, vsub_zeros, hl] at this
  rw [this, ← mul_assoc, neg_mul_neg, mul_one_div_cancel hn, one_mul]

/-- for any rule that `Reduces`, the weighted 0/1 error against the relabelled / reweighted total weights is an
    increasing affine function of the Lagrangian: `n·L(h) + (Σ max(w_i,0) − n·L(0))` for every hard `h` -/
theorem weighted01_affine (lab ab : Rat → Rat) (H : Reduces lab ab)
    (ev : Ev) (rows : List Row) (ratio : Rat) (ut : Util) (fp fn : Rat)
    (lam h : List Rat) (hne : rows ≠ []) (hl : h.length = rows.length) (hy : Hard (labelsOf rows)) (hh : Hard h) :
    weighted01 ((totalW ev rows ratio ut fp fn lam).map lab) ((totalW ev rows ratio ut fp fn lam).map ab) h
      = (rows.length : Rat) * lagr ev rows ratio ut fp fn lam h
        + (posPart (totalW ev rows ratio ut fp fn lam)
            - (rows.length : Rat) * lagr ev rows ratio ut fp fn lam (List.replicate rows.length 0)) := by
  rw [weighted01_of_reduces lab ab H _ h (hl.trans (totalW_length ..).symm) hh,
    dot_totalW ev rows ratio ut fp fn lam h hne hl hy hh.soft]
  ring

/-- hence, when every relabelled label equals `c`, the constant predictor `c` minimises the Lagrangian over all hard
    predictors: its weighted error is 0 and the weights are non-negative -/
theorem const_minimises_lagr (lab ab : Rat → Rat) (H : Reduces lab ab) (hlab : ∀ x, lab x = 0 ∨ lab x = 1)
    (hab : ∀ x, 0 ≤ ab x) (ev : Ev) (rows : List Row) (ratio : Rat) (ut : Util) (fp fn : Rat)
    (lam h : List Rat) (c : Rat) (hne : rows ≠ []) (hl : h.length = rows.length) (hy : Hard (labelsOf rows))
    (hh : Hard h) (hall : ∀ x ∈ (totalW ev rows ratio ut fp fn lam).map lab, x = c) :
    lagr ev rows ratio ut fp fn lam (List.replicate rows.length c) ≤ lagr ev rows ratio ut fp fn lam h := by
  have hwl := totalW_length ev rows ratio ut fp fn lam
  have hn : (0 : Rat) < (rows.length : Rat) := Nat.cast_pos.mpr (List.length_pos_of_ne_nil hne)
  have hc : c = 0 ∨ c = 1 := by
    obtain ⟨x, hx⟩ := List.exists_mem_of_ne_nil _
      (List.ne_nil_of_length_pos (hwl ▸ List.length_pos_of_ne_nil hne))
    rw [← hall _ (List.mem_map_of_mem hx)]; exact hlab x
  have h0 : weighted01 ((totalW ev rows ratio ut fp fn lam).map lab) ((totalW ev rows ratio ut fp fn lam).map ab)
      (List.replicate rows.length c) = 0 := by
    have := List.eq_replicate_iff.mpr ⟨rfl, hall⟩
    rw [List.length_map, hwl] at this
    rw [← this]; exact weighted01_self _ _
  have hle := weighted01_nonneg ((totalW ev rows ratio ut fp fn lam).map lab) ((totalW ev rows ratio ut fp fn lam).map ab) h
    (fun x hx => by obtain ⟨a, _, rfl⟩ := List.mem_map.mp hx; exact hab a)
  rw [← h0, weighted01_affine lab ab H ev rows ratio ut fp fn lam _ hne (List.length_replicate ..) hy
      (hard_replicate _ c hc),
    weighted01_affine lab ab H ev rows ratio ut fp fn lam h hne hl hy hh] at hle
  exact le_of_mul_le_mul_left (le_of_add_le_add_right hle) hn

/-! ### the regression (loss-moment) path -/

theorem bglSignedWeights_nonneg (rows : List LRow) (lam : List Rat) (hlam : ∀ x ∈ lam, 0 ≤ x) :
    ∀ x ∈ bglSignedWeights rows (some lam), 0 ≤ x := by
  intro x hx
  obtain ⟨r, _, rfl⟩ := List.mem_map.mp hx
  refine div_nonneg (dot_nonneg _ _ (fun y hy => ?_) hlam) (div_nonneg (Nat.cast_nonneg _) (Nat.cast_nonneg _))
  obtain ⟨k, _, rfl⟩ := List.mem_map.mp hy
  exact ind_nonneg _

theorem egAbsWeights_of_nonneg (w : List Rat) (hw : ∀ x ∈ w, 0 ≤ x) : egAbsWeights w = w :=
  (List.map_congr_left fun x hx => (absR_eq x).trans (abs_of_nonneg (hw x hx))).trans (List.map_id' w)

/-! ### minimisers -/

/-- `h` is in the class `H` and minimises `f` over it -/
def MinOver (H : List Rat → Prop) (f : List Rat → Rat) (h : List Rat) : Prop := H h ∧ ∀ h', H h' → f h ≤ f h'

theorem minOver_affine (H : List Rat → Prop) (f g : List Rat → Rat) (a c : Rat) (ha : 0 < a)
    (hfg : ∀ h, H h → f h = a * g h + c) (h : List Rat) : MinOver H f h ↔ MinOver H g h := by
  refine and_congr_right fun hH => forall₂_congr fun h' hH' => ?_
  rw [hfg h hH, hfg h' hH', add_le_add_iff_right, mul_le_mul_iff_of_pos_left ha]

end Oracle
