/-
The whole training step of `Model/AdvStep.lean`: what `applyOpt` and `combineAll` do list by list, and the table-driven
step `trainStepRec` (what the driver op `advstep.fit` folds) in closed form.
-/
import FairModel.Lemmas.ListInd
import FairModel.Model.AdvStep

namespace AdvStep
open Adversarial

/-- one more `train_step` on an optional model (`none` = the NaN model, which stays NaN) -/
def stepOpt (eng : Mat → Mat → Rat → Option Mat) (α lrP lrA : Rat) (m : Option (Model Unit Unit)) (g : Grads) :
    Option (Model Unit Unit) := m.bind (fun m => step eng α (sgd lrP) (sgd lrA) m g)

/-- `optimizer.step()` of plain SGD: every tensor `W ← W − lr·grad` -/
theorem applyOpt_sgd (lr : Rat) (Ws : List Mat) (ss : List Unit) (gs : List Mat) (h : ss.length = Ws.length) :
    (applyOpt (sgd lr) Ws ss gs).1 = List.zipWith (fun W g => msub W (msmul lr g)) Ws gs := by
  induction ss, Ws, h using List.ind₂ generalizing gs with
  | nil => cases gs <;> rfl
  | cons s ss W Ws _ ih =>
    cases gs with
    | nil => rfl
    | cons g gs => exact congrArg (msub W (msmul lr g) :: ·) (ih gs)

theorem applyOpt_length {τ : Type} (opt : Opt τ) (Ws : List Mat) (ss : List τ) (gs : List Mat)
    (h1 : ss.length = Ws.length) (h2 : gs.length = Ws.length) :
    (applyOpt opt Ws ss gs).1.length = Ws.length ∧ (applyOpt opt Ws ss gs).2.length = Ws.length := by
  induction ss, Ws, h1 using List.ind₂ generalizing gs with
  | nil => cases gs <;> exact ⟨rfl, rfl⟩
  | cons s ss W Ws _ ih =>
    cases gs with
    | nil => cases h2
    | cons g gs =>
      have := ih gs (Nat.succ.inj h2)
      exact ⟨congrArg Nat.succ this.1, congrArg Nat.succ this.2⟩

/-- the loop over the predictor's tensors hands the optimiser, tensor by tensor, what the engine's rule computes -/
theorem combineAll_spec (eng : Mat → Mat → Rat → Option Mat) (α : Rat) (as bs gs : List Mat)
    (h : combineAll eng α as bs = some gs) :
    as.length = bs.length ∧ List.Forall₂ (fun ab g => eng ab.1 ab.2 α = some g) (as.zip bs) gs := by
  induction as generalizing bs gs with
  | nil =>
    cases bs with
    | nil => cases h; exact ⟨rfl, .nil⟩
    | cons b bs => cases h
  | cons a as ih =>
    cases bs with
    | nil => cases h
    | cons b bs =>
      rw [combineAll] at h
      split at h
      · next g r he hr =>
        cases h
        exact ⟨congrArg Nat.succ (ih bs r hr).1, .cons he (ih bs r hr).2⟩
      · cases h

/-- a total engine never produces the NaN model -/
theorem combineAll_total (eng : Mat → Mat → Rat → Option Mat) (α : Rat) (htot : ∀ A B, (eng A B α).isSome = true)
    (as bs : List Mat) (h : as.length = bs.length) : ∃ gs, combineAll eng α as bs = some gs ∧ gs.length = as.length := by
  induction as, bs, h using List.ind₂ with
  | nil => exact ⟨[], rfl, rfl⟩
  | cons a as b bs _ ih =>
    obtain ⟨r, hr, hl⟩ := ih
    obtain ⟨g, hg⟩ := Option.isSome_iff_exists.mp (htot a b)
    exact ⟨g :: r, by rw [combineAll, hg, hr], congrArg Nat.succ hl⟩

/-- the NaN model stays NaN -/
theorem foldl_trainStep_none {τP τA : Type} (eng : Mat → Mat → Rat → Option Mat) (α : Rat) (optP : Opt τP)
    (optA : Opt τA) (G : List Mat → List Mat → Nat → Nat → Grads) (L : List Schedule.Step) :
    Schedule.partialFitSeq (trainStep eng α optP optA G) none L = none := by
  unfold Schedule.partialFitSeq
  induction L with
  | nil => rfl
  | cons s L ih => exact ih

/-! ### the table-driven step `trainStepRec` (what the driver op `advstep.fit` folds) -/

section Recorded
variable (eng : Mat → Mat → Rat → Option Mat) (α lrP lrA : Rat)

/-- `trainStepRec` consumes exactly one recorded gradient triple per step and applies `step` (plain SGD) to it -/
theorem trainStepRec_cons (m : Option (Model Unit Unit)) (g : Grads) (rest : List Grads) (lo hi : Nat) :
    trainStepRec eng α lrP lrA (m, g :: rest) lo hi = (stepOpt eng α lrP lrA m g, rest) := by
  cases m <;> rfl

theorem trainStepRec_nil (m : Option (Model Unit Unit)) (lo hi : Nat) :
    trainStepRec eng α lrP lrA (m, []) lo hi = (none, []) := by
  cases m <;> rfl

/-- folding `trainStepRec` over any list of scheduled steps (the slice bounds are not looked at: the recorded gradients
    ARE those of the slice): with enough records, the fold of `step` over the first `steps.length` of them, in order;
    with too few, the NaN model; the unused records remain -/
theorem partialFitSeq_trainStepRec (steps : List Schedule.Step) (gs : List Grads) (m0 : Option (Model Unit Unit)) :
    Schedule.partialFitSeq (trainStepRec eng α lrP lrA) (m0, gs) steps =
      (if steps.length ≤ gs.length then (gs.take steps.length).foldl (stepOpt eng α lrP lrA) m0 else none,
        gs.drop steps.length) := by
  unfold Schedule.partialFitSeq
  induction steps generalizing gs m0 with
  | nil => simp
  | cons s steps ih =>
    cases gs with
    | nil => rw [List.foldl_cons, trainStepRec_nil, ih]; simp
    | cons g rest => rw [List.foldl_cons, trainStepRec_cons, ih]; simp

end Recorded

/-- ERROR BRANCH of the table: with fewer records than steps the result is the NaN model (`none`), never a silently
    shorter training run -/
theorem partialFitSeq_trainStepRec_exhausted (eng : Mat → Mat → Rat → Option Mat) (α lrP lrA : Rat)
    (steps : List Schedule.Step) (gs : List Grads) (m0 : Option (Model Unit Unit)) (h : gs.length < steps.length) :
    (Schedule.partialFitSeq (trainStepRec eng α lrP lrA) (m0, gs) steps).1 = none := by
  rw [partialFitSeq_trainStepRec, if_neg (not_le.mpr h)]

end AdvStep
