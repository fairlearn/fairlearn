import FairModel.Lemmas.AggregateGen
import FairModel.Model.AggregateFrame

/-! Multi-metric frames: column `j` of every frame-level pandas primitive is the single-column
primitive applied to column `j` (no cross-column interaction), for any number of columns, rows and
strata; hence column `j` of every frame aggregate is the single-metric aggregate of `colTab ft j`
(`C02.frame_*_col`). -/

namespace AggFrame
open Frame Aggregate XR

/-- coercing a row commutes with reading a column (a missing cell is NaN on both sides) -/
theorem getD_map_coerce (r : List Cell) (j : Nat) : (r.map coerce).getD j nan = coerce (cellAt j r) := by
  rw [cellAt, List.getD_eq_getElem?_getD, List.getD_eq_getElem?_getD, List.getElem?_map]
  cases r[j]? <;> rfl

theorem any_eq_cellAt_or_eraseIdx (r : List Cell) (j : Nat) :
    r.any isNonscalar = (isNonscalar (cellAt j r) || (r.eraseIdx j).any isNonscalar) := by
  induction r generalizing j with
  | nil => rfl
  | cons a r ih =>
    cases j with
    | zero => rfl
    | succ j => exact (congrArg (isNonscalar a || ·) (ih j)).trans (Bool.or_left_comm _ _ _)

theorem any_or {β : Type} (l : List β) (p q : β → Bool) :
    l.any (fun x => p x || q x) = (l.any p || l.any q) := by
  induction l with
  | nil => rfl
  | cons a l ih =>
    rw [List.any_cons, List.any_cons, List.any_cons, ih]
    ac_rfl

theorem hasNonscalar_colTab (ft : FTables) (j : Nat) :
    hasNonscalar (colTab ft j) = (byNs ft || ovNs ft) := by
  have hsplit : ∀ l : List (Key × List Cell), l.any (fun r => r.2.any isNonscalar) =
      (l.any (fun r => isNonscalar (cellAt j r.2)) || l.any (fun r => (r.2.eraseIdx j).any isNonscalar)) :=
    fun l => (congrArg l.any (funext fun r => any_eq_cellAt_or_eraseIdx r.2 j)).trans (any_or l _ _)
  unfold hasNonscalar colTab byNs ovNs
  rw [hsplit, hsplit, List.any_map, List.any_map]
  simp only [Function.comp_def]
  ac_rfl

theorem rect_mapF (f : XR → XR) {n : Nat} {x : FrameX} (h : Rect n x) : Rect n (mapF f x) :=
  List.forall_mem_map.mpr fun r hr => (List.length_map _).trans (h r hr)

theorem rect_lookup {n : Nat} {y : FrameX} (h : Rect n y) (c : Key) :
    ((y.lookup c).getD (List.replicate n nan)).length = n := by
  cases hl : y.lookup c with
  | none => exact List.length_replicate
  | some row => exact h _ (lookup_mem hl)

theorem rect_bcastF (op : XR → XR → XR) (ncf : Nat) {n : Nat} {x y : FrameX} (hx : Rect n x) (hy : Rect n y) :
    Rect n (bcastF op ncf n x y) :=
  List.forall_mem_map.mpr fun r hr => by rw [List.length_zipWith, hx r hr, rect_lookup hy, Nat.min_self]

theorem rect_coercedF {ft : FTables} (h : WF ft) : Rect ft.ncols (coercedF ft) :=
  List.forall_mem_map.mpr fun r hr => (List.length_map _).trans (h.1 r hr)

theorem rect_overallF {ft : FTables} (h : WF ft) : Rect ft.ncols (overallF ft) :=
  List.forall_mem_map.mpr fun r hr => (List.length_map _).trans (h.2 r hr)

theorem rect_applyGroupingF {g : Grouping} {e : Errors} {ft : FTables} {s : FrameX}
    (h : applyGroupingF g e ft = some s) : Rect ft.ncols s := by
  unfold applyGroupingF at h
  split at h
  · cases h
  · injection h with h; subst h; exact List.forall_mem_map.mpr fun _ _ => (List.length_map _).trans List.length_range

/-! ### column `j` of each frame primitive, and of their composition in `difference` / `ratio(to_overall)` -/

theorem colX_coercedF (ft : FTables) (j : Nat) :
    colX j (coercedF ft) = (colTab ft j).byGroup.map (fun e => (e.1, coerce e.2)) := by
  simp only [colX, coercedF, colTab, List.map_map, Function.comp_def, getD_map_coerce]

theorem colX_overallF (ft : FTables) (j : Nat) :
    colX j (overallF ft) = (colTab ft j).overall.map (fun e => (e.1, coerce e.2)) := by
  simp only [colX, overallF, colTab, List.map_map, Function.comp_def, getD_map_coerce]

theorem lookup_colX_overallF (ft : FTables) (j : Nat) (c : Key) :
    ((colX j (overallF ft)).lookup c).getD nan = overallAt (colTab ft j) c := by
  rw [colX_overallF, overallAt_eq_lookup]

theorem colX_mapF (f : XR → XR) {n : Nat} {x : FrameX} (hx : Rect n x) {j : Nat} (hj : j < n) :
    colX j (mapF f x) = Prim.map f (colX j x) := by
  simp only [colX, mapF, Prim.map, List.map_map, Function.comp_def]
  apply List.map_congr_left
  intro r hr
  rw [List.getD_eq_getElem?_getD, List.getD_eq_getElem?_getD, List.getElem?_map,
    List.getElem?_eq_getElem (by rw [hx r hr]; exact hj)]
  rfl

/-- cell-by-cell `x ∘ y` with the rows of `y` looked up under the label `κ` of the row of `x`, column by
    column (`κ` = the control part of the label for `bcastF`, the label itself for `sameF`) -/
theorem colX_zipLookup (op : XR → XR → XR) (κ : Key → Key) {n : Nat} {x y : FrameX} (hx : Rect n x)
    (hy : Rect n y) {j : Nat} (hj : j < n) :
    colX j (x.map fun r => (r.1, List.zipWith op r.2 ((y.lookup (κ r.1)).getD (List.replicate n nan)))) =
      (colX j x).map fun e => (e.1, op e.2 (((colX j y).lookup (κ e.1)).getD nan)) := by
  simp only [colX, List.map_map, Function.comp_def]
  apply List.map_congr_left
  intro r hr
  -- both rows have a cell `j`; a missing row of `y` is a row of NaN
  obtain ⟨a, ha⟩ : ∃ a, r.2[j]? = some a := ⟨_, List.getElem?_eq_getElem (by rw [hx r hr]; exact hj)⟩
  obtain ⟨b, hb⟩ : ∃ b, ((y.lookup (κ r.1)).getD (List.replicate n nan))[j]? = some b :=
    ⟨_, List.getElem?_eq_getElem (by rw [rect_lookup hy]; exact hj)⟩
  rw [lookup_map_snd (fun row : List XR => row.getD j nan) y]
  simp only [List.getD_eq_getElem?_getD, List.getElem?_zipWith, ha, hb, Option.getD_some]
  cases hl : y.lookup (κ r.1) with
  | none =>
    rw [hl, Option.getD_none, List.getElem?_replicate, if_pos hj] at hb
    cases hb; rfl
  | some row =>
    rw [hl, Option.getD_some] at hb
    rw [Option.map_some, Option.getD_some, hb, Option.getD_some]

theorem colX_bcastF (op : XR → XR → XR) (ft : FTables) {n : Nat} {x y : FrameX} (hx : Rect n x) (hy : Rect n y)
    {j : Nat} (hj : j < n) :
    colX j (bcastF op ft.ncf n x y) = Prim.bcast op (colTab ft j) (colX j x) (colX j y) :=
  colX_zipLookup op (·.take ft.ncf) hx hy hj

theorem colX_sameF (op : XR → XR → XR) {n : Nat} {x y : FrameX} (hx : Rect n x) (hy : Rect n y)
    {j : Nat} (hj : j < n) :
    colX j (sameF op n x y) = Prim.same op (colX j x) (colX j y) :=
  colX_zipLookup op (fun k => k) hx hy hj

theorem colX_aggLevelF (g : Grouping) (ft : FTables) (f : FrameX) {j : Nat} (hj : j < ft.ncols) :
    colX j (aggLevelF g ft.ncf ft.ncols f) = Prim.aggLevel g (colTab ft j) (colX j f) := by
  simp only [colX, aggLevelF, Prim.aggLevel, List.map_map, Function.comp_def, List.filter_map]
  refine List.map_congr_left fun c _ => ?_
  rw [reduceCols, List.getD_eq_getElem?_getD, List.getElem?_map, List.getElem?_range hj]
  simp only [List.map_map, Function.comp_def]
  rfl

/-- column `j` of the frame computation shared by `difference` and `ratio(to_overall)` -/
theorem colX_aggLevelF_mapF_bcastF (g : Grouping) (f : XR → XR) (op : XR → XR → XR) {ft : FTables} (hw : WF ft) {j : Nat}
    (hj : j < ft.ncols) {s : FrameX} (hs : Rect ft.ncols s) :
    colX j (aggLevelF g ft.ncf ft.ncols (mapF f (bcastF op ft.ncf ft.ncols (coercedF ft) s))) =
    (strata (colTab ft j)).map fun c =>
      (c, g.apply ((vals (colTab ft j) c).map fun v => f (op v (((colX j s).lookup c).getD nan)))) := by
  rw [colX_aggLevelF _ ft _ hj, colX_mapF f (rect_bcastF op ft.ncf (rect_coercedF hw) hs) hj,
    colX_bcastF op ft (rect_coercedF hw) hs hj, colX_coercedF]
  exact aggLevel_map_bcast g f op (colTab ft j) (colX j s)

end AggFrame
