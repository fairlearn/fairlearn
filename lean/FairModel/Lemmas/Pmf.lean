/-
Lemmas about `Model/Pmf.lean`, in this order: what the lifted `_pmf_predict` / `predict` text says (`src_*`); one
`ThresholdOperation` and one fitted rule (range, monotonicity); the dict loop of `_pmf_predict`; the Bernoulli draw;
ExponentiatedGradient's mixture; the inverse-cdf `RandomState.choice`.
-/
import FairModel.Lemmas.Prelude
import FairModel.Model.Pmf

namespace Pmf

/-! ### tie to the source: what the definitions LIFTED on every run from `_threshold_operation.py` and
`_interpolated_thresholder.py` (`Generated/ThresholderSrc.lean`) have to say (restated as one statement by `C10.src_predict_path`; the proofs below unfold the one-line generated
definitions where they need them) -/

theorem src_opGt (s t : Rat) : ThresholderSrc.opGt s t = true ↔ t < s := by simp [ThresholderSrc.opGt]
theorem src_opLt (s t : Rat) : ThresholderSrc.opLt s t = true ↔ s < t := by simp [ThresholderSrc.opLt]
theorem src_interp (p0 o0 p1 o1 : Rat) : ThresholderSrc.interp p0 o0 p1 o1 = p0 * o0 + p1 * o1 := rfl
theorem src_withIgnore (pi c v : Rat) : ThresholderSrc.withIgnore pi c v = pi * c + (1 - pi) * v := rfl
theorem src_initialProb (s : Rat) : ThresholderSrc.initialProb s = 0 := by
  unfold ThresholderSrc.initialProb; ring
theorem src_cols (p : Rat) : ThresholderSrc.col0 p = 1 - p ∧ ThresholderSrc.col1 p = p := ⟨rfl, rfl⟩
theorem src_probColumn : ThresholderSrc.probColumn = 1 := rfl
theorem src_drawsOne (p u : Rat) : ThresholderSrc.drawsOne p u = true ↔ u ≤ p := by simp [ThresholderSrc.drawsOne]

theorem ThrOp.apply_zero_or_one (o : ThrOp) (s : Rat) : o.apply s = 0 ∨ o.apply s = 1 := by
  unfold ThrOp.apply
  split <;> first | (split <;> simp) | simp

theorem ThrOp.apply_nonneg (o : ThrOp) (s : Rat) : 0 ≤ o.apply s := by
  rcases ThrOp.apply_zero_or_one o s with h | h <;> rw [h] <;> norm_num

theorem ThrOp.apply_le_one (o : ThrOp) (s : Rat) : o.apply s ≤ 1 := by
  rcases ThrOp.apply_zero_or_one o s with h | h <;> rw [h] <;> norm_num

/-- a `>` threshold is a non-decreasing step function of the score -/
theorem ThrOp.apply_gt_mono (t : XR) (s s' : Rat) (h : s ≤ s') :
    (ThrOp.mk .gt t).apply s ≤ (ThrOp.mk .gt t).apply s' := by
  unfold ThrOp.apply
  cases t with
  | nan => simp
  | ninf => simp
  | pinf => simp
  | fin q =>
    simp only
    by_cases h1 : s > q
    · have h2 : s' > q := lt_of_lt_of_le h1 h
      simp [ThresholderSrc.opGt, h1, h2]
    · by_cases h2 : s' > q <;> simp [ThresholderSrc.opGt, h1, h2]

theorem interp_nonneg (r : Rule) (s : Rat) (h0 : 0 ≤ r.p0) (h1 : 0 ≤ r.p1) : 0 ≤ r.interp s :=
  add_nonneg (mul_nonneg h0 (ThrOp.apply_nonneg r.op0 s)) (mul_nonneg h1 (ThrOp.apply_nonneg r.op1 s))

theorem interp_le (r : Rule) (s : Rat) (h0 : 0 ≤ r.p0) (h1 : 0 ≤ r.p1) : r.interp s ≤ r.p0 + r.p1 :=
  add_le_add (mul_le_of_le_one_right h0 (ThrOp.apply_le_one r.op0 s)) (mul_le_of_le_one_right h1 (ThrOp.apply_le_one r.op1 s))

/-- the propositional content of `Rule.valid eps` -/
structure Rule.Valid (eps : Rat) (r : Rule) : Prop where
  p0 : 0 ≤ r.p0
  p1 : 0 ≤ r.p1
  hi : r.p0 + r.p1 ≤ 1 + eps
  lo : 1 - eps ≤ r.p0 + r.p1
  ign : ∀ pi c, r.ignore = some (pi, c) → 0 ≤ pi ∧ pi ≤ 1 ∧ 0 ≤ c ∧ c ≤ 1

theorem valid_iff (eps : Rat) (r : Rule) : r.valid eps = true ↔ r.Valid eps := by
  unfold Rule.valid
  constructor
  · intro h
    simp only [Bool.and_eq_true, decide_eq_true_eq] at h
    obtain ⟨⟨⟨⟨a, b⟩, c⟩, d⟩, e⟩ := h
    refine ⟨a, b, c, d, ?_⟩
    intro pi cc hi
    rw [hi] at e
    simp only [Bool.and_eq_true, decide_eq_true_eq] at e
    obtain ⟨⟨⟨x, y⟩, z⟩, w⟩ := e
    exact ⟨x, y, z, w⟩
  · intro h
    simp only [Bool.and_eq_true, decide_eq_true_eq]
    refine ⟨⟨⟨⟨h.p0, h.p1⟩, h.hi⟩, h.lo⟩, ?_⟩
    cases hi : r.ignore with
    | none => rfl
    | some pc =>
      obtain ⟨pi, c⟩ := pc
      have := h.ign pi c hi
      simp [this.1, this.2.1, this.2.2.1, this.2.2.2]

theorem positive_nonneg (eps : Rat) (r : Rule) (s : Rat) (h : r.Valid eps) : 0 ≤ r.positive s := by
  unfold Rule.positive
  have hi := interp_nonneg r s h.p0 h.p1
  cases hg : r.ignore with
  | none => exact hi
  | some pc =>
    obtain ⟨a, b, c0, _⟩ := h.ign pc.1 pc.2 hg
    exact add_nonneg (mul_nonneg a c0) (mul_nonneg (sub_nonneg.mpr b) hi)

theorem positive_le (eps : Rat) (heps : 0 ≤ eps) (r : Rule) (s : Rat) (h : r.Valid eps) :
    r.positive s ≤ 1 + eps := by
  unfold Rule.positive
  have hi := (interp_le r s h.p0 h.p1).trans h.hi
  cases hg : r.ignore with
  | none => exact hi
  | some pc =>
    -- a convex combination of two numbers `≤ 1 + eps`
    obtain ⟨a, b, _, c1⟩ := h.ign pc.1 pc.2 hg
    have := add_le_add (mul_le_mul_of_nonneg_left (c1.trans (le_add_of_nonneg_right heps)) a)
      (mul_le_mul_of_nonneg_left hi (sub_nonneg.mpr b))
    rwa [← add_mul, add_sub_cancel, one_mul] at this

theorem positive_mono (eps : Rat) (r : Rule) (s s' : Rat) (h : r.Valid eps) (hgt : r.allGt = true)
    (hs : s ≤ s') : r.positive s ≤ r.positive s' := by
  have hc : r.op0.cmp = .gt ∧ r.op1.cmp = .gt := by
    unfold Rule.allGt at hgt
    simpa using hgt
  have m0 : r.op0.apply s ≤ r.op0.apply s' := by
    have := ThrOp.apply_gt_mono r.op0.thr s s' hs
    rwa [← hc.1] at this
  have m1 : r.op1.apply s ≤ r.op1.apply s' := by
    have := ThrOp.apply_gt_mono r.op1.thr s s' hs
    rwa [← hc.2] at this
  have hi : r.interp s ≤ r.interp s' :=
    add_le_add (mul_le_mul_of_nonneg_left m0 h.p0) (mul_le_mul_of_nonneg_left m1 h.p1)
  unfold Rule.positive
  cases hg : r.ignore with
  | none => exact hi
  | some pc => exact add_le_add_right (mul_le_mul_of_nonneg_left hi (sub_nonneg.mpr (h.ign pc.1 pc.2 hg).2.1)) _

/-- the dict loop of `_pmf_predict` overwrites: the LAST entry with the row's key wins, the start value stays if there is none -/
theorem foldl_select (f : Rule → Rat) (g : String) (dict : List (String × Rule)) (acc : Rat) :
    dict.foldl (fun acc e => if g = e.1 then f e.2 else acc) acc =
      ((dict.filter (fun e => g = e.1)).getLast?.map (fun e => f e.2)).getD acc := by
  induction dict generalizing acc with
  | nil => rfl
  | cons e rest ih =>
    rw [List.foldl_cons, ih, List.filter_cons]
    by_cases h : g = e.1
    · rw [if_pos h, if_pos (decide_eq_true h), List.getLast?_cons]
      cases (rest.filter _).getLast? <;> rfl
    · rw [if_neg h, if_neg (by simpa using h)]

theorem thrPositive_cases (dict : List (String × Rule)) (g : String) (s : Rat) :
    thrPositive dict g s = 0 ∨ ∃ e ∈ dict, g = e.1 ∧ thrPositive dict g s = e.2.positive s := by
  unfold thrPositive
  rw [foldl_select (fun r => r.positive s), src_initialProb]
  cases h : (dict.filter (fun e => g = e.1)).getLast? with
  | none => exact Or.inl rfl
  | some e =>
    have he := List.mem_filter.mp (List.mem_of_getLast? h)
    exact Or.inr ⟨e, he.1, of_decide_eq_true he.2, rfl⟩

/-- with distinct keys (a Python dict) the rule of the row's own group is the one applied -/
theorem thrPositive_of_mem (dict : List (String × Rule)) (g : String) (r : Rule) (s : Rat)
    (hnd : (dict.map (·.1)).Nodup) (hm : (g, r) ∈ dict) : thrPositive dict g s = r.positive s := by
  unfold thrPositive
  rw [foldl_select (fun r => r.positive s)]
  have hin : (g, r) ∈ dict.filter (fun e => g = e.1) := List.mem_filter.mpr ⟨hm, decide_eq_true rfl⟩
  obtain ⟨e, he⟩ := Option.ne_none_iff_exists'.mp (mt List.getLast?_eq_none_iff.mp (List.ne_nil_of_mem hin))
  have hmem := List.mem_filter.mp (List.mem_of_getLast? he)
  rw [he, List.inj_on_of_nodup_map hnd hmem.1 hm (of_decide_eq_true hmem.2).symm]
  rfl

theorem bernoulli_eq_one_iff (p u : Rat) : bernoulli p u = 1 ↔ u ≤ p := by
  unfold bernoulli
  by_cases h : p ≥ u <;> simp [ThresholderSrc.drawsOne, h]

theorem bernoulli_zero_or_one (p u : Rat) : bernoulli p u = 0 ∨ bernoulli p u = 1 := by
  unfold bernoulli
  by_cases h : p ≥ u <;> simp [ThresholderSrc.drawsOne, h]

theorem find_of_mem_nodup (weights : List (Nat × Rat)) (e : Nat × Rat)
    (hnd : (weights.map (·.1)).Nodup) (he : e ∈ weights) :
    weights.find? (fun x => x.1 == e.1) = some e := by
  induction weights with
  | nil => simp at he
  | cons x xs ih =>
    simp only [List.map_cons, List.nodup_cons] at hnd
    rcases List.mem_cons.mp he with h | h
    · subst h; simp
    · have hne : x.1 ≠ e.1 := by
        intro heq
        apply hnd.1
        rw [heq]
        exact List.mem_map.mpr ⟨e, h, rfl⟩
      rw [List.find?_cons]
      have : (x.1 == e.1) = false := by simpa using hne
      rw [this]
      exact ih hnd.2 h

theorem weightOf_of_mem (weights : List (Nat × Rat)) (e : Nat × Rat)
    (hnd : (weights.map (·.1)).Nodup) (he : e ∈ weights) : weightOf weights e.1 = e.2 := by
  unfold weightOf
  rw [find_of_mem_nodup weights e hnd he]

/-- the lifted zero-weight mask of `_pmf_predict` (`EgPredict.egColumn`) in closed form -/
theorem maskedPred_eq_ite (preds : List Rat) (weights : List (Nat × Rat)) (t : Nat) :
    maskedPred preds weights t = if weightOf weights t = 0 then 0 else preds.getD t 0 := by
  unfold maskedPred EgPredict.egColumn
  rfl

/-- with distinct predictor ids the masked mixture is the plain id-aligned mixture -/
theorem egPositive_eq_sum (preds : List Rat) (weights : List (Nat × Rat))
    (hnd : (weights.map (·.1)).Nodup) :
    egPositive preds weights = (weights.map (fun e => preds.getD e.1 0 * e.2)).sum := by
  unfold egPositive
  rw [if_pos (by rfl : EgPredict.dotById = true)]
  congr 1
  apply List.map_congr_left
  intro e he
  unfold maskedPred EgPredict.egColumn
  rw [weightOf_of_mem weights e hnd he]
  by_cases h : e.2 = 0 <;> simp [h]

theorem sum_mul_le_sum_of_le_one (l : List (Rat × Rat)) (h : ∀ x ∈ l, 0 ≤ x.1 ∧ x.1 ≤ 1 ∧ 0 ≤ x.2) :
    0 ≤ (l.map (fun x => x.1 * x.2)).sum ∧ (l.map (fun x => x.1 * x.2)).sum ≤ (l.map (·.2)).sum := by
  induction l with
  | nil => exact ⟨le_refl 0, le_refl 0⟩
  | cons x xs ih =>
    obtain ⟨hx0, hx1, hx2⟩ := h x List.mem_cons_self
    obtain ⟨i0, i1⟩ := ih (fun y hy => h y (List.mem_cons_of_mem _ hy))
    simp only [List.map_cons, List.sum_cons]
    exact ⟨add_nonneg (mul_nonneg hx0 hx2) i0, add_le_add (mul_le_of_le_one_left hx2 hx1) i1⟩

theorem take_sum_nonneg (l : List Rat) (h : ∀ p ∈ l, 0 ≤ p) (k : Nat) : 0 ≤ (l.take k).sum :=
  List.sum_nonneg fun p hp => h p (List.mem_of_mem_take hp)

theorem choiceIdxFrom_cons_pos {acc p u : Rat} (ps : List Rat) (h : acc + p ≤ u) :
    choiceIdxFrom acc (p :: ps) u = 1 + choiceIdxFrom (acc + p) ps u := if_pos h

theorem choiceIdxFrom_cons_neg {acc p u : Rat} (ps : List Rat) (h : ¬ acc + p ≤ u) :
    choiceIdxFrom acc (p :: ps) u = 0 := if_neg h

/-- the inverse-cdf rule: started with `acc` already accumulated, position `i` is returned exactly for
    `acc + Σ_{j<i} p_j ≤ u < acc + Σ_{j≤i} p_j`; every `C10.choice_*` theorem rests on this interval -/
theorem choiceIdxFrom_eq_iff (probs : List Rat) (h : ∀ p ∈ probs, 0 ≤ p) (acc u : Rat) (hacc : acc ≤ u)
    (i : Nat) (hi : i < probs.length) :
    choiceIdxFrom acc probs u = i ↔
      acc + (probs.take i).sum ≤ u ∧ u < acc + (probs.take (i + 1)).sum := by
  induction probs generalizing acc i with
  | nil => exact absurd hi (Nat.not_lt_zero i)
  | cons p ps ih =>
    have hps : ∀ q ∈ ps, 0 ≤ q := fun q hq => h q (List.mem_cons_of_mem _ hq)
    cases i with
    | zero =>
      rw [List.take_zero, List.sum_nil, add_zero, List.take_succ_cons, List.take_zero, List.sum_cons, List.sum_nil,
        add_zero]
      by_cases hle : acc + p ≤ u
      · rw [choiceIdxFrom_cons_pos ps hle]
        exact ⟨fun h0 => absurd h0 (Nat.add_comm _ 1 ▸ Nat.succ_ne_zero _), fun h2 => absurd hle (not_le.mpr h2.2)⟩
      · rw [choiceIdxFrom_cons_neg ps hle]
        exact ⟨fun _ => ⟨hacc, not_le.mp hle⟩, fun _ => rfl⟩
    | succ j =>
      rw [List.take_succ_cons, List.take_succ_cons, List.sum_cons, List.sum_cons, ← add_assoc, ← add_assoc]
      by_cases hle : acc + p ≤ u
      · rw [choiceIdxFrom_cons_pos ps hle, Nat.add_comm 1, Nat.succ_inj]
        exact ih hps (acc + p) hle j (Nat.lt_of_succ_lt_succ hi)
      · -- the first cdf entry already exceeds `u`, and the partial sums only grow
        rw [choiceIdxFrom_cons_neg ps hle]
        exact ⟨fun h0 => absurd h0.symm (Nat.succ_ne_zero j),
          fun h1 => absurd ((le_add_of_nonneg_right (take_sum_nonneg ps hps j)).trans h1.1) hle⟩

/-- a draw below the total mass lands inside the vector -/
theorem choiceIdxFrom_lt (probs : List Rat) (acc u : Rat) (hacc : acc ≤ u) (hu : u < acc + probs.sum) :
    choiceIdxFrom acc probs u < probs.length := by
  induction probs generalizing acc with
  | nil => rw [List.sum_nil, add_zero] at hu; exact absurd hacc (not_le.mpr hu)
  | cons p ps ih =>
    by_cases hle : acc + p ≤ u
    · rw [choiceIdxFrom_cons_pos ps hle, Nat.add_comm 1]
      rw [List.sum_cons, ← add_assoc] at hu
      exact Nat.succ_lt_succ (ih (acc + p) hle hu)
    · rw [choiceIdxFrom_cons_neg ps hle]; exact Nat.succ_pos _

/-- the position `choice` returns lies inside the vector and carries a POSITIVE probability, for every draw
    `0 ≤ u < sum probs` (in particular every `u ∈ [0,1)` for a probability vector) -/
theorem choiceIdx_prob_pos (probs : List Rat) (hp : ∀ p ∈ probs, 0 ≤ p) (u : Rat) (hu0 : 0 ≤ u)
    (hu1 : u < probs.sum) :
    ∃ h : choiceIdx probs u < probs.length, 0 < probs[choiceIdx probs u] := by
  have hlt : choiceIdx probs u < probs.length := by
    unfold choiceIdx
    exact choiceIdxFrom_lt probs 0 u hu0 (by rwa [zero_add])
  refine ⟨hlt, ?_⟩
  have h := (choiceIdxFrom_eq_iff probs hp 0 u hu0 (choiceIdx probs u) hlt).mp rfl
  rw [List.sum_take_succ probs _ hlt, ← add_assoc] at h
  exact (lt_add_iff_pos_right _).mp (h.1.trans_lt h.2)

/-- in a probability vector an entry equal to 1 leaves nothing in front of it -/
theorem take_sum_zero_of_one (probs : List Rat) (hp : ∀ p ∈ probs, 0 ≤ p) (hsum : probs.sum = 1)
    (i : Nat) (hi : i < probs.length) (h1 : probs[i] = 1) : (probs.take i).sum = 0 := by
  have hs : probs.sum = (probs.take i).sum + probs[i] + (probs.drop (i + 1)).sum := by
    rw [← List.sum_take_add_sum_drop probs (i + 1), List.sum_take_succ probs i hi]
  rw [hsum, h1, add_right_comm] at hs
  exact ((add_eq_zero_iff_of_nonneg (take_sum_nonneg probs hp i)
    (List.sum_nonneg fun p hp' => hp p (List.mem_of_mem_drop hp'))).mp (add_eq_right.mp hs.symm)).1

/-- with `weights_.index = 0..T-1` the id-ordered weights are the stored values in order -/
theorem aligned_weights (weights : List (Nat × Rat)) (h : aligned weights = true) :
    (List.range weights.length).map (weightOf weights) = weights.map (·.2) := by
  have hids : weights.map (·.1) = List.range weights.length := by
    unfold aligned at h
    simpa using h
  have hnd : (weights.map (·.1)).Nodup := by rw [hids]; exact List.nodup_range
  apply List.ext_getElem
  · simp
  · intro t h1 h2
    have ht : t < weights.length := by simpa using h2
    simp only [List.getElem_map, List.getElem_range]
    have hid : (weights[t]).1 = t := by
      have : (weights.map (·.1))[t]'(by simpa using ht) = (List.range weights.length)[t]'(by simpa using ht) := by
        simp only [hids]
      simpa using this
    have := weightOf_of_mem weights weights[t] hnd (List.getElem_mem ht)
    rw [hid] at this
    exact this


end Pmf
