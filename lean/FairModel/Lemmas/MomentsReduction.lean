/-
Vector addition `vadd`, gamma as an affine function of the predictor (C06 and C07), the exchange of the two finite sums
behind the reduction identity, the per-group form of `BoundedGroupLoss.gamma` and multiplier lookup, the objective's
identity and the pair structure used by `project_lambda`.
-/
import FairModel.Lemmas.Moments
import FairModel.Lemmas.MomentsRates

namespace Moments

def vadd (a b : List Rat) : List Rat := List.zipWith (· + ·) a b

/-- equal-length vectors are the two projections of their zip, so linearity in a mapped column gives this -/
theorem dot_vadd_left (a b d : List Rat) (hab : a.length = b.length) :
    dot (vadd a b) d = dot a d + dot b d := by
  have := dot_map_add Prod.fst Prod.snd (a.zip b) d
  rw [List.map_fst_zip hab.le, List.map_snd_zip hab.ge] at this
  rw [vadd, ← List.map_uncurry_zip_eq_zipWith]; exact this

theorem dot_vadd_right (v a b : List Rat) (hab : a.length = b.length) :
    dot v (vadd a b) = dot v a + dot v b := by
  rw [dot_comm, dot_vadd_left a b v hab, dot_comm a, dot_comm b]

theorem vadd_nonneg (a b : List Rat) (ha : ∀ x ∈ a, 0 ≤ x) (hb : ∀ x ∈ b, 0 ≤ x) : ∀ x ∈ vadd a b, 0 ≤ x := by
  intro z hz
  rw [vadd, ← List.map_uncurry_zip_eq_zipWith] at hz
  obtain ⟨t, ht, rfl⟩ := List.mem_map.mp hz
  exact add_nonneg (ha _ (List.of_mem_zip ht).1) (hb _ (List.of_mem_zip ht).2)

theorem sum_vadd (a b : List Rat) (hab : a.length = b.length) : (vadd a b).sum = a.sum + b.sum := by
  rw [vadd, sum_zipWith_add (fun x _ => x) (fun _ y => y), zipWith_left_only _ a b hab.symm, List.zipWith_comm,
    zipWith_left_only _ b a hab, List.map_id', List.map_id']

theorem vsub_map_map {α} (A : List α) (f g : α → Rat) : vsub (A.map f) (A.map g) = A.map (fun a => f a - g a) := by
  rw [vsub, List.zipWith_map, List.zipWith_self]

/-! ### the exchange of the two sums -/

/-- the exchange of the two finite sums, `Σ_k λ_k Σ_i F(i,k)·d_i = Σ_i (Σ_k F(i,k)·λ_k)·d_i`: with it a multiplier-weighted
    sum of per-key functionals becomes one functional with per-row weights (the reduction and the loss identity) -/
theorem dot_dot_swap {α β} (F : α → β → Rat) (K : List β) (l : List α) (lam d : List Rat) :
    dot lam (K.map (fun k => dot (l.map (fun r => F r k)) d)) = dot (l.map (fun r => dot (K.map (F r)) lam)) d := by
  induction K generalizing lam with
  | nil => simp only [List.map_nil, dot_nil_right, dot_nil_left, dot_map_zero]
  | cons k K ih =>
    cases lam with
    | nil => simp only [dot_nil_left, dot_nil_right, dot_map_zero]
    | cons x xs =>
      simp only [List.map_cons, dot_cons, ih xs, dot_map_add]
      rw [← dot_map_smul]
      simp only [mul_comm x]

/-! ### reduction identity for an arbitrary list of keys -/

/-- gamma is affine in the predictor: `γ_k(h) = γ_k(0) + linear functional of h`, coefficients `−ud_i·U[i,k]/n` -/
theorem gammaAt_lin (ev : Ev) (rows : List Row) (ratio : Rat) (ut : Util) (h : List Rat) (k : Key)
    (hl : h.length = rows.length) :
    gammaAt ev rows ratio ut h k
      = gammaAt ev rows ratio ut (List.replicate rows.length 0) k
        + -(1 / (rows.length : Rat)) * dot (rows.map (fun r => ut.ud r * uEntry ev rows ratio r k)) h := by
  unfold gammaAt MomentsSrc.gammaOf predOf uCol
  simp only [MomentsSrc.predOf]
  rw [dot_map_affine _ _ _ rows h hl, dot_map_affine _ _ _ rows _ (List.length_replicate ..), dot_zeros]
  ring

/-- the reduction identity over an arbitrary key list `K` (C07 and `Oracle.lagr_sub` take `K = index ev rows`) -/
theorem reduction_keys (ev : Ev) (rows : List Row) (ratio : Rat) (ut : Util) (K : List Key)
    (lam h h' : List Rat) (hl : h.length = rows.length) (hl' : h'.length = rows.length) :
    dot lam (K.map (gammaAt ev rows ratio ut h)) - dot lam (K.map (gammaAt ev rows ratio ut h'))
      = -(1 / (rows.length : Rat)) *
          dot (rows.map (fun r => MomentsSrc.swOf (ut.ud r) (dot (K.map (uEntry ev rows ratio r)) lam)))
            (vsub h h') := by
  rw [dot_sub_right lam _ _ (by rw [List.length_map, List.length_map]), vsub_map_map]
  simp only [gammaAt_lin ev rows ratio ut h _ hl, gammaAt_lin ev rows ratio ut h' _ hl', add_sub_add_left_eq_sub, ← mul_sub,
    dot_sub_right _ h h' (hl.trans hl'.symm)]
  rw [dot_map_smul_right, dot_dot_swap]
  simp only [dot_map_smul, MomentsSrc.swOf]

/-! ### loss moments -/

theorem bglGammaAt_eq (l : Loss) (rows : List LRow) (h : List Rat) (g : String) :
    bglGammaAt l rows h g = dot (rows.map (fun r => ind (r.g == g))) (lossOf l rows h) / (countG rows g : Rat) := by
  rw [bglGammaAt, dot, List.zipWith_map_left]

theorem lookup_cons (k : String) (K : List String) (l : Rat) (ls : List Rat) (g : String) :
    lookup (k :: K) (l :: ls) g = ind (k == g) * l + lookup K ls g := by
  simp [lookup]

theorem lookup_nil_right (K : List String) (g : String) : lookup K [] g = 0 := by simp [lookup]
theorem lookup_nil_left (ls : List Rat) (g : String) : lookup [] ls g = 0 := by simp [lookup]

/-- positional lookup: on a duplicate-free key list the multiplier of the `i`-th key is the `i`-th multiplier -/
theorem lookup_getElem (K : List String) (hnd : K.Nodup) (lam : List Rat) (hlen : lam.length = K.length)
    (i : Nat) (hi : i < K.length) :
    lookup K lam (K[i]) = lam[i]'(by rw [hlen]; exact hi) := by
  induction K generalizing lam i with
  | nil => simp at hi
  | cons k ks ih =>
    cases lam with
    | nil => cases hlen
    | cons l ls =>
      rw [List.nodup_cons] at hnd
      rw [lookup_cons]
      cases i with
      | zero =>
        have hz : ks.map (fun k' => ind (k' == k)) = ks.map (fun _ => (0 : Rat)) :=
          List.map_congr_left fun k' hk' => if_neg (beq_iff_eq.not.mpr fun h : k' = k => hnd.1 (h ▸ hk'))
        simp only [List.getElem_cons_zero, beq_self_eq_true, ind, if_true, one_mul]
        rw [lookup, hz, dot_map_zero, add_zero]
      | succ j =>
        have hj : j < ks.length := Nat.lt_of_succ_lt_succ hi
        have hne : (k == ks[j]) = false := beq_eq_false_iff_ne.mpr fun h : k = ks[j] => hnd.1 (h ▸ List.getElem_mem hj)
        simp only [List.getElem_cons_succ]
        rw [hne, ih hnd.2 ls (Nat.succ.inj hlen) j hj, ind, if_neg Bool.false_ne_true, zero_mul, zero_add]

/-! ### the objective -/

theorem errGamma_sub (fp fn : Rat) (ys h h' : List Rat)
    (hl : h.length = ys.length) (hl' : h'.length = ys.length) (hy : Hard ys) (hh : Soft h) (hh' : Soft h') :
    errGamma fp fn ys h - errGamma fp fn ys h'
      = -(1 / (ys.length : Rat)) * dot (errWeights fp fn ys none) (vsub h h') := by
  -- each summand is affine in the prediction, with slope `−w_i`
  have haff : (fun (y p : Rat) => fn * y * (1 - p) + fp * (1 - y) * p)
      = (fun y p => -1 * MomentsSrc.objWeight fp fn y * p + fn * y) := by
    funext y p; unfold MomentsSrc.objWeight; ring
  rw [errGamma_soft fp fn ys h hy hh, errGamma_soft fp fn ys h' hy hh', ← sub_div, haff,
    sum_zipWith_affine _ _ ys h hl, sum_zipWith_affine _ _ ys h' hl', add_sub_add_right_eq_sub,
    dot_sub_right _ h h' (hl.trans hl'.symm), dot_map_smul, errWeights]
  ring

/-! ### the pair structure of `gamma` and `bound` -/

theorem gamma_split (ev : Ev) (rows : List Row) (ratio : Rat) (ut : Util) (h : List Rat) :
    gamma ev rows ratio ut h
      = (observedPairs ev rows).map (fun p => gammaAt ev rows ratio ut h ⟨.plus, p.1, p.2⟩)
        ++ (observedPairs ev rows).map (fun p => gammaAt ev rows ratio ut h ⟨.minus, p.1, p.2⟩) := by
  rw [gamma, index, List.map_append, List.map_map, List.map_map]; rfl

theorem bound_split (ev : Ev) (rows : List Row) (eps : Rat) :
    bound ev rows eps = (observedPairs ev rows).map (fun _ => eps) ++ (observedPairs ev rows).map (fun _ => eps) := by
  rw [bound, index, List.map_append, List.map_map, List.map_map]; rfl

theorem gammaAt_minus_ratio_one (ev : Ev) (rows : List Row) (ut : Util) (h : List Rat) (e g : String) :
    gammaAt ev rows 1 ut h ⟨.minus, e, g⟩ = - gammaAt ev rows 1 ut h ⟨.plus, e, g⟩ := by
  unfold gammaAt MomentsSrc.gammaOf
  rw [dot_uMinus, dot_uPlus]; ring

/-- for ratio 1 the Lagrangian value of a multiplier vector `λ⁺ ++ λ⁻` reads off the `+` entries `γ⁺` of gamma alone:
    `err + λ⁺·(γ⁺ − ε) + λ⁻·(−γ⁺ − ε)` -/
theorem lagrangianValue_ratio_one (ev : Ev) (rows : List Row) (ut : Util) (h : List Rat) (eps err : Rat)
    (lp lm : List Rat) (h1 : lp.length = (observedPairs ev rows).length) :
    lagrangianValue err (lp ++ lm) (gamma ev rows 1 ut h) (bound ev rows eps)
      = err + (dot lp (((observedPairs ev rows).map
                  (fun q => gammaAt ev rows 1 ut h ⟨.plus, q.1, q.2⟩)).map (fun x => x - eps))
              + dot lm (((observedPairs ev rows).map
                  (fun q => gammaAt ev rows 1 ut h ⟨.plus, q.1, q.2⟩)).map (fun x => -x - eps))) := by
  rw [lagrangianValue, gamma_split, bound_split, vsub, List.zipWith_append (by rw [List.length_map, List.length_map]), ← vsub, ← vsub,
    vsub_map_map, vsub_map_map, dot_append _ _ _ _ (by rw [List.length_map, h1]), List.map_map, List.map_map]
  simp only [gammaAt_minus_ratio_one]
  rfl

end Moments
