/-
Cross-property lemmas on the `Model/Moments.lean` side alone: the dictionary between the entries of
`gamma` and the per-(event, group) means of the utility, the "mixing" step (the event mean is the
frequency-weighted mean of its group means), and the affinity of `gamma` / linearity of the means in
the prediction vector (mixtures of predictors = the `weights_`-randomised classifier of
ExponentiatedGradient).

Everything is stated for an arbitrary event rule `ev`, arbitrary `ratio`, arbitrary utilities and ARBITRARY
rational prediction vectors (hard 0/1, soft, or expected predictions of a randomised classifier).
-/
import FairModel.Properties.C06

namespace Cross
open Moments

/-- every entry of `gamma(h)` is at most `eps` (= `gamma ≤ bound()` entrywise, see `gammaLe_iff_bound`) -/
def GammaLe (ev : Ev) (rows : List Row) (ratio : Rat) (ut : Util) (h : List Rat) (eps : Rat) : Prop :=
  ∀ k ∈ index ev rows, gammaAt ev rows ratio ut h k ≤ eps

instance (ev : Ev) (rows : List Row) (ratio : Rat) (ut : Util) (h : List Rat) (eps : Rat) :
    Decidable (GammaLe ev rows ratio ut h eps) := by
  unfold GammaLe; exact List.decidableBAll _ _

-- `Hard` (Lemmas/Moments.lean) has no instance of its own; the `decide`d examples of the composition files need it
instance (h : List Rat) : Decidable (Hard h) := by
  unfold Hard; exact List.decidableBAll _ _

theorem gammaLe_iff_mem (ev : Ev) (rows : List Row) (ratio : Rat) (ut : Util) (h : List Rat) (eps : Rat) :
    GammaLe ev rows ratio ut h eps ↔ ∀ y ∈ gamma ev rows ratio ut h, y ≤ eps := by
  unfold GammaLe gamma
  rw [List.forall_mem_map]

/-- `GammaLe` is literally "the vector `gamma(h)` is entrywise at most the vector `bound()`" -/
theorem gammaLe_iff_bound (ev : Ev) (rows : List Row) (ratio : Rat) (ut : Util) (h : List Rat) (eps : Rat) :
    GammaLe ev rows ratio ut h eps ↔
      ∀ p ∈ (gamma ev rows ratio ut h).zip (bound ev rows eps), p.1 ≤ p.2 := by
  unfold GammaLe gamma bound
  rw [List.zip_map', List.forall_mem_map]

/-- mean utility of the rows of event `e` in group `g` / of all rows of event `e` -/
def mEG (ev : Ev) (rows : List Row) (ut : Util) (h : List Rat) (e g : String) : Rat :=
  meanOn (inEG ev e g) rows (predOf ut rows h)
def mE (ev : Ev) (rows : List Row) (ut : Util) (h : List Rat) (e : String) : Rat :=
  meanOn (inE ev e) rows (predOf ut rows h)

theorem mEG_default (ev : Ev) (rows : List Row) (h : List Rat) (e g : String) (hl : h.length = rows.length) :
    mEG ev rows defaultUtil h e g = meanOn (inEG ev e g) rows h := by
  unfold mEG; rw [C06.pred_default rows h hl]

theorem mE_default (ev : Ev) (rows : List Row) (h : List Rat) (e : String) (hl : h.length = rows.length) :
    mE ev rows defaultUtil h e = meanOn (inE ev e) rows h := by
  unfold mE; rw [C06.pred_default rows h hl]

theorem observed_of_inE {ev : Ev} {rows : List Row} {e : String} {r : Row} (hr : r ∈ rows)
    (he : inE ev e r = true) : Observed ev rows e r.g :=
  ⟨r, hr, by simpa [inE] using he, rfl⟩

theorem filter_inE_ne_nil {ev : Ev} {rows : List Row} {e : String} (hne : ∃ g, Observed ev rows e g) :
    rows.filter (inE ev e) ≠ [] :=
  let ⟨g, hg⟩ := hne
  List.ne_nil_of_length_pos (countE_pos ev rows e g hg)

theorem meanOn_nonneg (p : Row → Bool) (rows : List Row) (u : List Rat) (hu : ∀ x ∈ u, 0 ≤ x) :
    0 ≤ meanOn p rows u :=
  div_nonneg (dot_nonneg _ _ (fun x hx => by obtain ⟨r, _, rfl⟩ := List.mem_map.mp hx; exact ind_nonneg _) hu)
    (by exact_mod_cast Nat.zero_le _)

/-- **dictionary**: both one-sided constraints of every observed (event, group) pair -/
theorem rates_of_gammaLe {ev : Ev} {rows : List Row} {ratio : Rat} {ut : Util} {h : List Rat} {eps : Rat}
    (hg : GammaLe ev rows ratio ut h eps) {e g : String} (hobs : Observed ev rows e g) :
    ratio * mEG ev rows ut h e g - mE ev rows ut h e ≤ eps ∧
    ratio * mE ev rows ut h e - mEG ev rows ut h e g ≤ eps := by
  have hp := hg ⟨.plus, e, g⟩ ((C06.index_exact ev rows _).mpr hobs)
  have hm := hg ⟨.minus, e, g⟩ ((C06.index_exact ev rows _).mpr hobs)
  rw [C06.gamma_plus ev rows ratio ut h e g hobs] at hp
  rw [C06.gamma_minus ev rows ratio ut h e g hobs] at hm
  exact ⟨hp, hm⟩

/-- the converse: the two families of inequalities are exactly `GammaLe` -/
theorem gammaLe_of_rates {ev : Ev} {rows : List Row} {ratio : Rat} {ut : Util} {h : List Rat} {eps : Rat}
    (hr : ∀ e g, Observed ev rows e g →
      ratio * mEG ev rows ut h e g - mE ev rows ut h e ≤ eps ∧
      ratio * mE ev rows ut h e - mEG ev rows ut h e g ≤ eps) :
    GammaLe ev rows ratio ut h eps := by
  intro k hk
  obtain ⟨s, e, g⟩ := k
  have hobs := (C06.index_exact ev rows _).mp hk
  cases s
  · rw [C06.gamma_plus ev rows ratio ut h e g hobs]; exact (hr e g hobs).1
  · rw [C06.gamma_minus ev rows ratio ut h e g hobs]; exact (hr e g hobs).2

/-- difference bound (`ratio = 1`): every group mean is within `eps` of its event mean -/
theorem abs_le_of_gammaLe {ev : Ev} {rows : List Row} {ut : Util} {h : List Rat} {eps : Rat}
    (hg : GammaLe ev rows 1 ut h eps) {e g : String} (hobs : Observed ev rows e g) :
    |mEG ev rows ut h e g - mE ev rows ut h e| ≤ eps := by
  obtain ⟨h1, h2⟩ := rates_of_gammaLe hg hobs
  rw [one_mul] at h1 h2
  exact abs_sub_le_iff.mpr ⟨h1, h2⟩

/-- … hence any two groups of the same event are within `2·eps` of each other -/
theorem abs_pair_le_of_gammaLe {ev : Ev} {rows : List Row} {ut : Util} {h : List Rat} {eps : Rat}
    (hg : GammaLe ev rows 1 ut h eps) {e g g' : String}
    (hobs : Observed ev rows e g) (hobs' : Observed ev rows e g') :
    |mEG ev rows ut h e g - mEG ev rows ut h e g'| ≤ 2 * eps := by
  refine (abs_sub_le _ (mE ev rows ut h e) _).trans ?_
  rw [two_mul, abs_sub_comm (mE ev rows ut h e)]
  exact add_le_add (abs_le_of_gammaLe hg hobs) (abs_le_of_gammaLe hg hobs')

/-- the slack of a satisfiable difference constraint is non-negative -/
theorem eps_nonneg_of_gammaLe {ev : Ev} {rows : List Row} {ut : Util} {h : List Rat} {eps : Rat}
    (hg : GammaLe ev rows 1 ut h eps) {e g : String} (hobs : Observed ev rows e g) : 0 ≤ eps :=
  le_trans (abs_nonneg _) (abs_le_of_gammaLe hg hobs)

/-! ### mixing: the event mean is the frequency-weighted mean of the group means -/

/-- `Σ_{r ∈ rows, p r} u_r` -/
def sumOn (p : Row → Bool) (rows : List Row) (u : List Rat) : Rat := dot (rows.map (fun r => ind (p r))) u

theorem sumOn_eq_zero_of_filter_nil (p : Row → Bool) (rows : List Row) (u : List Rat)
    (h : rows.filter p = []) : sumOn p rows u = 0 := by
  unfold sumOn
  have : ∀ r ∈ rows, ind (p r) = (fun _ => (0 : Rat)) r := by
    intro r hr
    have := List.filter_eq_nil_iff.mp h r hr
    simp [ind, this]
  rw [dot_map_congr _ _ rows u this, dot_map_zero]

theorem meanOn_mul_count (p : Row → Bool) (rows : List Row) (u : List Rat) :
    meanOn p rows u * ((rows.filter p).length : Rat) = sumOn p rows u := by
  by_cases h : rows.filter p = []
  · rw [sumOn_eq_zero_of_filter_nil p rows u h, h, List.length_nil, Nat.cast_zero, mul_zero]
  · exact div_mul_cancel₀ _ (Nat.cast_ne_zero.mpr (List.length_pos_of_ne_nil h).ne')

theorem sumOn_ones (p : Row → Bool) (rows : List Row) :
    sumOn p rows (rows.map (fun _ => 1)) = ((rows.filter p).length : Rat) := by
  unfold sumOn
  rw [length_filter_cast, ← dot_ones_right, List.length_map, List.map_const']

theorem inEG_fun (ev : Ev) (e g : String) : inEG ev e g = fun r => inE ev e r && (r.g == g) := rfl

/-- the event mean lies between any lower and upper bound of its observed group means (the weighted-mean identity
    over `groupsOf ev rows e`, the observed groups of the event: `sum_groups_event`, `sum_groups_count`) -/
theorem mE_between (ev : Ev) (rows : List Row) (u : List Rat) (e : String) (lo hi : Rat)
    (hb : ∀ g, Observed ev rows e g → lo ≤ meanOn (inEG ev e g) rows u ∧ meanOn (inEG ev e g) rows u ≤ hi)
    (hne : ∃ g, Observed ev rows e g) :
    lo ≤ meanOn (inE ev e) rows u ∧ meanOn (inE ev e) rows u ≤ hi := by
  obtain ⟨g0, hg0⟩ := hne
  have hpos : (0 : Rat) < (countE ev rows e : Rat) := Nat.cast_pos.mpr (countE_pos ev rows e g0 hg0)
  have h1 : ((groupsOf ev rows e).map (fun g => meanOn (inEG ev e g) rows u * (countEG ev rows e g : Rat))).sum
      = meanOn (inE ev e) rows u * (countE ev rows e : Rat) := by
    unfold countE countEG
    simp only [meanOn_mul_count]
    exact sum_groups_event ev rows e u
  have h2 := sum_groups_count ev rows e
  have key : ∀ f f' : String → Rat, (∀ g, Observed ev rows e g → f g ≤ f' g) →
      ((groupsOf ev rows e).map (fun g => f g * (countEG ev rows e g : Rat))).sum
        ≤ ((groupsOf ev rows e).map (fun g => f' g * (countEG ev rows e g : Rat))).sum :=
    fun f f' hff => List.sum_le_sum fun g hg =>
      mul_le_mul_of_nonneg_right (hff g ((mem_groupsOf ev rows e g).mp hg)) (Nat.cast_nonneg _)
  have lo_le := key (fun _ => lo) _ (fun g hg => (hb g hg).1)
  have le_hi := key _ (fun _ => hi) (fun g hg => (hb g hg).2)
  rw [List.sum_map_mul_left, h2, h1] at lo_le
  rw [List.sum_map_mul_left, h2, h1] at le_hi
  exact ⟨le_of_mul_le_mul_right lo_le hpos, le_of_mul_le_mul_right le_hi hpos⟩

/-- all observed group means equal ⇒ the event mean is that common value -/
theorem mE_eq_of_groups_eq (ev : Ev) (rows : List Row) (u : List Rat) (e : String) (c : Rat)
    (hb : ∀ g, Observed ev rows e g → meanOn (inEG ev e g) rows u = c) (hne : ∃ g, Observed ev rows e g) :
    meanOn (inE ev e) rows u = c := by
  obtain ⟨h1, h2⟩ := mE_between ev rows u e c c (fun g hg => by rw [hb g hg]; exact ⟨le_refl _, le_refl _⟩) hne
  exact le_antisymm h2 h1

/-- **parity ⇒ gamma**: if every group of every event has the same mean as the other groups of that event,
    every entry of gamma is `(ratio − 1)·(that mean)`; for `ratio = 1` gamma vanishes entrywise -/
theorem gamma_of_parity (ev : Ev) (rows : List Row) (ratio : Rat) (ut : Util) (h : List Rat) (c : String → Rat)
    (hpar : ∀ e g, Observed ev rows e g → mEG ev rows ut h e g = c e) :
    ∀ k ∈ index ev rows, gammaAt ev rows ratio ut h k = (ratio - 1) * c k.event := by
  intro k hk
  obtain ⟨s, e, g⟩ := k
  have hobs := (C06.index_exact ev rows _).mp hk
  have hE : mE ev rows ut h e = c e :=
    mE_eq_of_groups_eq ev rows _ e (c e) (fun g' hg' => hpar e g' hg') ⟨g, hobs⟩
  have hG := hpar e g hobs
  unfold mEG at hG; unfold mE at hE
  cases s
  · rw [C06.gamma_plus ev rows ratio ut h e g hobs, hG, hE]; ring
  · rw [C06.gamma_minus ev rows ratio ut h e g hobs, hG, hE]; ring

/-- from the two one-sided ratio constraints: every group mean is at least `ratio·m − eps` and at most
    `(m + eps)/ratio`, `m` the event mean -/
theorem ratio_window {ev : Ev} {rows : List Row} {ratio : Rat} {ut : Util} {h : List Rat} {eps : Rat}
    (hr : 0 < ratio) (hg : GammaLe ev rows ratio ut h eps) {e g : String} (hobs : Observed ev rows e g) :
    ratio * mE ev rows ut h e - eps ≤ mEG ev rows ut h e g ∧
    mEG ev rows ut h e g ≤ (mE ev rows ut h e + eps) / ratio := by
  obtain ⟨h1, h2⟩ := rates_of_gammaLe hg hobs
  exact ⟨sub_le_comm.mp h2, (le_div_iff₀ hr).mpr (by rw [mul_comm]; exact sub_le_iff_le_add'.mp h1)⟩

/-- lower bound for the quotient smallest/largest group mean -/
theorem ratio_between_lower {ratio eps m mn mx : Rat} (hr : 0 < ratio)
    (hm : 0 < m + eps) (hmx : 0 < mx) (hmn : 0 ≤ mn)
    (h1 : ratio * m - eps ≤ mn) (h2 : mx ≤ (m + eps) / ratio) :
    ratio * (ratio * m - eps) / (m + eps) ≤ mn / mx := by
  rw [le_div_iff₀ hr] at h2
  rw [div_le_div_iff₀ hm hmx]
  calc ratio * (ratio * m - eps) * mx = (ratio * m - eps) * (mx * ratio) := by ring
    _ ≤ mn * (mx * ratio) := mul_le_mul_of_nonneg_right h1 (mul_pos hmx hr).le
    _ ≤ mn * (m + eps) := mul_le_mul_of_nonneg_left h2 hmn

/-- lower bound for `ratio_sub_one(group mean / overall mean)` (above 1 the quotient is inverted) -/
theorem ratio_overall_lower {ratio eps m v : Rat} (hr : 0 < ratio) (he : 0 ≤ eps) (hm : 0 < m)
    (h1 : ratio * m - eps ≤ v) (h2 : v ≤ (m + eps) / ratio) :
    (ratio * m - eps) / m ≤ (if 1 < v / m then 1 / (v / m) else v / m) := by
  rw [le_div_iff₀ hr] at h2
  split
  · next hgt =>
    have hmv : m < v := (one_lt_div hm).mp hgt
    rw [one_div_div, div_le_div_iff₀ hm (hm.trans hmv)]
    calc (ratio * m - eps) * v = m * (v * ratio) - eps * v := by ring
      _ ≤ m * (m + eps) - eps * v := sub_le_sub_right (mul_le_mul_of_nonneg_left h2 hm.le) _
      _ = m * m - eps * (v - m) := by ring
      _ ≤ m * m := sub_le_self _ (mul_nonneg he (sub_nonneg.mpr hmv.le))
  · exact div_le_div_of_nonneg_right h1 hm.le

/-! ### mixtures of predictors (the `weights_`-randomised classifier) -/

/-- pointwise `Σ_{t<n} Q t · H t` of prediction vectors of length `len`, with weights and predictors indexed by `Nat`
    as the hypotheses of `Saddle.Table` are (`Moments.mix` is the same mixture over a list of weights) -/
def mixN (len : Nat) (Q : Nat → Rat) (H : Nat → List Rat) : Nat → List Rat
  | 0 => List.replicate len 0
  | n + 1 => List.zipWith (· + ·) (mixN len Q H n) ((H n).map (Q n * ·))

theorem mixN_length (len : Nat) (Q : Nat → Rat) (H : Nat → List Rat) (n : Nat)
    (hH : ∀ t < n, (H t).length = len) : (mixN len Q H n).length = len := by
  induction n with
  | zero => simp [mixN]
  | succ n ih =>
    simp only [mixN, List.length_zipWith, List.length_map]
    rw [ih (fun t ht => hH t (by omega)), hH n (by omega)]; simp

theorem zipWith_add_zero_smul (a h : List Rat) (hl : a.length = h.length) :
    List.zipWith (· + ·) a (h.map (0 * ·)) = a := by
  induction a generalizing h with
  | nil => rfl
  | cons x a ih =>
    cases h with
    | nil => cases hl
    | cons y h => rw [List.map_cons, List.zipWith_cons_cons, ih h (Nat.succ.inj hl), zero_mul, add_zero]

theorem zipWith_zeros_add_one_smul (h : List Rat) :
    List.zipWith (· + ·) (List.replicate h.length 0) (h.map (1 * ·)) = h := by
  induction h with
  | nil => rfl
  | cons y h ih =>
    rw [List.length_cons, List.replicate_succ, List.map_cons, List.zipWith_cons_cons, ih, one_mul, zero_add]

/-- weights concentrated on one index: the mixture is that predictor (a deterministic `weights_`) -/
theorem mixN_single (len : Nat) (Q : Nat → Rat) (H : Nat → List Rat) (n i : Nat)
    (hQ : ∀ t, Q t = if t = i then 1 else 0) (hi : i < n) (hH : ∀ t < n, (H t).length = len) :
    mixN len Q H n = H i := by
  have gen : ∀ m, m ≤ n → mixN len Q H m = if i < m then H i else List.replicate len 0 := by
    intro m hm
    induction m with
    | zero => rfl
    | succ m ih =>
      rw [mixN, ih (Nat.le_of_succ_le hm), hQ m]
      rcases lt_trichotomy i m with h | rfl | h
      · rw [if_pos h, if_pos (Nat.lt_succ_of_lt h), if_neg (Nat.ne_of_gt h),
          zipWith_add_zero_smul _ _ (by rw [hH i hi, hH m hm])]
      · rw [if_neg (lt_irrefl _), if_pos (Nat.lt_succ_self _), if_pos rfl, ← hH i hi, zipWith_zeros_add_one_smul]
      · rw [if_neg (Nat.lt_asymm h), if_neg (Nat.not_lt.mpr h), if_neg (Nat.ne_of_lt h),
          zipWith_add_zero_smul _ _ (by rw [List.length_replicate, hH m hm])]
  rw [gen n (le_refl _), if_pos hi]

theorem dot_add_smul (c a h : List Rat) (q : Rat) (la : a.length = c.length) (lh : h.length = c.length) :
    dot c (List.zipWith (· + ·) a (h.map (q * ·))) = dot c a + q * dot c h := by
  rw [← vadd, dot_vadd_right _ _ _ (by rw [List.length_map, la, lh]), dot_smul_right]

open Finset in
/-- the means are LINEAR in the prediction vector: the expected rate of the randomised classifier on any set
    of rows is the `Q`-mixture of the rates of its component predictors -/
theorem meanOn_mixN (p : Row → Bool) (rows : List Row) (Q : Nat → Rat) (H : Nat → List Rat) (n : Nat)
    (hH : ∀ t < n, (H t).length = rows.length) :
    meanOn p rows (mixN rows.length Q H n) = ∑ t ∈ range n, Q t * meanOn p rows (H t) := by
  induction n with
  | zero => simp [mixN, meanOn, dot_zeros]
  | succ n ih =>
    have hH' := fun t ht => hH t (Nat.lt_succ_of_lt ht)
    rw [Finset.sum_range_succ, ← ih hH']
    unfold meanOn
    rw [mixN, dot_add_smul _ _ _ _ ((mixN_length _ _ _ _ hH').trans (List.length_map _).symm)
      ((hH n (Nat.lt_succ_self n)).trans (List.length_map _).symm)]
    ring

/-- binary affinity of one gamma entry -/
theorem gammaAt_add_smul (ev : Ev) (rows : List Row) (ratio : Rat) (ut : Util) (a h : List Rat) (q : Rat) (k : Key)
    (la : a.length = rows.length) (lh : h.length = rows.length) :
    gammaAt ev rows ratio ut (List.zipWith (· + ·) a (h.map (q * ·))) k
      = gammaAt ev rows ratio ut a k
        + q * (gammaAt ev rows ratio ut h k - gammaAt ev rows ratio ut (List.replicate rows.length 0) k) := by
  rw [gammaAt_lin _ _ _ _ _ k (show (List.zipWith (· + ·) a (h.map (q * ·))).length = rows.length by simp [la, lh]),
    gammaAt_lin _ _ _ _ a k la, gammaAt_lin _ _ _ _ h k lh, dot_add_smul _ _ _ _ (by simp [la]) (by simp [lh])]
  ring

open Finset in
/-- **affinity of gamma**: for weights summing to one, gamma of the mixture is the mixture of the gammas
    (entry by entry) — `gamma(Q) = Σ_t Q_t · gamma(h_t)` as `_Lagrangian` computes it from its stored
    `gammas` columns -/
theorem gammaAt_mixN (ev : Ev) (rows : List Row) (ratio : Rat) (ut : Util) (Q : Nat → Rat) (H : Nat → List Rat)
    (n : Nat) (k : Key) (hH : ∀ t < n, (H t).length = rows.length) (hQ : ∑ t ∈ range n, Q t = 1) :
    gammaAt ev rows ratio ut (mixN rows.length Q H n) k = ∑ t ∈ range n, Q t * gammaAt ev rows ratio ut (H t) k := by
  -- gamma is affine, not linear: a partial mixture carries `(1 − Σ_{t<m} Q t)·gamma(0)`, which vanishes at `m = n`
  have gen : ∀ m, m ≤ n →
      gammaAt ev rows ratio ut (mixN rows.length Q H m) k
        = ∑ t ∈ range m, Q t * gammaAt ev rows ratio ut (H t) k
          + (1 - ∑ t ∈ range m, Q t) * gammaAt ev rows ratio ut (List.replicate rows.length 0) k := by
    intro m hm
    induction m with
    | zero => simp [mixN]
    | succ m ih =>
      rw [mixN, gammaAt_add_smul ev rows ratio ut _ _ _ k
        (mixN_length _ _ _ _ (fun t ht => hH t (ht.trans hm))) (hH m hm), ih (Nat.le_of_succ_le hm),
        Finset.sum_range_succ, Finset.sum_range_succ]
      ring
  rw [gen n (le_refl _), hQ]; ring

end Cross
