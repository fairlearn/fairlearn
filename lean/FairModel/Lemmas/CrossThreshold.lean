/-
Cross-property lemmas: the training data of `ThresholdOptimizer` (`Model/Threshold.lean`: one list of
(score, label) rows per sensitive-feature group, one fitted randomised rule per group) read as the rows and the
expected-prediction vector of a reduction moment (`Model/Moments.lean`).
-/
import FairModel.Lemmas.CrossRates
import FairModel.Properties.C04

namespace Cross
open Moments ThresholdGen

/-- a training row of group `nm` as a moment row (no control features) -/
def thrRow (nm : String) (r : Threshold.Row) : Moments.Row := ⟨if r.label then 1 else 0, nm, none⟩

/-- all training rows, group after group -/
def thrRows (names : List String) (groups : List (List Threshold.Row)) : List Moments.Row :=
  (List.zipWith (fun nm g => g.map (thrRow nm)) names groups).flatten

/-- per-row values `pr score`, `pr` the function of the row's group, in the order of `thrRows` -/
def blockVals (probs : List (Rat → Rat)) (groups : List (List Threshold.Row)) : List Rat :=
  (List.zipWith (fun pr g => g.map (fun r => pr r.score)) probs groups).flatten

/-- expected predictions `P(pred = 1 | score, group)` of the fitted rules on the training rows -/
def thrPred (rules : List Threshold.Rule) (groups : List (List Threshold.Row)) : List Rat :=
  blockVals (rules.map Threshold.ruleProb) groups

/-- mean of `prob score` over the rows of one group whose label satisfies `L` -/
def thrMean (L : Bool → Bool) (prob : Rat → Rat) (g : List Threshold.Row) : Rat :=
  Threshold.sumBy (fun r => if L r.label then prob r.score else 0) g /
    Threshold.sumBy (fun r => if L r.label then 1 else 0) g

open Threshold in
theorem sumBy_add (f g : Threshold.Row → Rat) (rows : List Threshold.Row) :
    sumBy f rows + sumBy g rows = sumBy (fun r => f r + g r) rows := by
  have := sumBy_lin 1 1 f g rows
  simp only [one_mul] at this
  exact this.symm

/-- `selection_rate` of METRIC_DICT on expected confusion counts is the mean over all rows; likewise below
    `true_positive_rate` / `false_positive_rate` over the positives / negatives -/
theorem thrMean_selection_rate (prob : Rat → Rat) (g : List Threshold.Row) :
    thrMean (fun _ => true) prob g = Metric.selection_rate.eval (Threshold.expCM prob g) := by
  unfold thrMean Metric.eval CM.predicted_positives CM.n Threshold.expCM
  simp only [if_true]
  congr 1
  · rw [sumBy_add]; apply Threshold.sumBy_congr; intro r _; cases r.label <;> simp
  · rw [sumBy_add, sumBy_add, sumBy_add]; apply Threshold.sumBy_congr; intro r _; cases r.label <;> simp

theorem thrMean_true_positive_rate (prob : Rat → Rat) (g : List Threshold.Row) :
    thrMean (fun b => b) prob g = Metric.true_positive_rate.eval (Threshold.expCM prob g) := by
  unfold thrMean Metric.eval CM.positives Threshold.expCM
  congr 1
  rw [sumBy_add]; apply Threshold.sumBy_congr; intro r _; cases r.label <;> simp

theorem thrMean_false_positive_rate (prob : Rat → Rat) (g : List Threshold.Row) :
    thrMean (fun b => !b) prob g = Metric.false_positive_rate.eval (Threshold.expCM prob g) := by
  unfold thrMean Metric.eval CM.negatives Threshold.expCM
  congr 1
  · apply Threshold.sumBy_congr; intro r _; cases r.label <;> simp
  · rw [sumBy_add]; apply Threshold.sumBy_congr; intro r _; cases r.label <;> simp

/-- the moment-side predicate "label satisfies `L` and group is `nm`" -/
def pL (L : Bool → Bool) (nm : String) : Moments.Row → Bool := fun r => L (r.y == 1) && (r.g == nm)

theorem thrRow_label (nm : String) (r : Threshold.Row) : ((thrRow nm r).y == 1) = r.label := by
  cases h : r.label <;> simp [thrRow, h]

theorem sumOn_block (L : Bool → Bool) (nm nm' : String) (pr : Rat → Rat) (g : List Threshold.Row) :
    sumOn (pL L nm) (g.map (thrRow nm')) (g.map (fun r => pr r.score))
      = if nm' = nm then Threshold.sumBy (fun r => if L r.label then pr r.score else 0) g else 0 := by
  unfold sumOn
  induction g with
  | nil => simp [Threshold.sumBy]
  | cons r rs ih =>
    rw [List.map_cons, List.map_cons, List.map_cons, dot_cons, ih, Threshold.sumBy_cons]
    have hp : pL L nm (thrRow nm' r) = (L r.label && (nm' == nm)) := by
      unfold pL; rw [thrRow_label]; rfl
    rw [hp]
    by_cases hn : nm' = nm
    · subst hn; cases L r.label <;> simp [ind]
    · have : (nm' == nm) = false := by simpa using hn
      simp [hn, this, ind]

theorem sumOn_append (p : Moments.Row → Bool) (a b : List Moments.Row) (u v : List Rat) (h : a.length = u.length) :
    sumOn p (a ++ b) (u ++ v) = sumOn p a u + sumOn p b v := by
  unfold sumOn
  rw [List.map_append, dot_append _ _ _ _ (by simp [h])]

theorem mem_thrRows {names : List String} {groups : List (List Threshold.Row)} {r : Moments.Row}
    (hr : r ∈ thrRows names groups) :
    ∃ (j : Nat) (nm : String) (g : List Threshold.Row) (x : Threshold.Row),
      names[j]? = some nm ∧ groups[j]? = some g ∧ x ∈ g ∧ r = thrRow nm x := by
  induction names generalizing groups with
  | nil => simp [thrRows] at hr
  | cons nm rest ih =>
    cases groups with
    | nil => simp [thrRows] at hr
    | cons g gs =>
      simp only [thrRows, List.zipWith_cons_cons, List.flatten_cons, List.mem_append, List.mem_map] at hr
      rcases hr with ⟨x, hx, rfl⟩ | hr
      · exact ⟨0, nm, g, x, rfl, rfl, hx, rfl⟩
      · obtain ⟨j, nm', g', x, h1, h2, h3, h4⟩ := ih hr
        exact ⟨j + 1, nm', g', x, List.getElem?_cons_succ.trans h1, List.getElem?_cons_succ.trans h2, h3, h4⟩

theorem sumOn_absent (L : Bool → Bool) (nm : String) (names : List String) (groups : List (List Threshold.Row))
    (u : List Rat) (hn : nm ∉ names) : sumOn (pL L nm) (thrRows names groups) u = 0 := by
  apply sumOn_eq_zero_of_filter_nil
  rw [List.filter_eq_nil_iff]
  intro r hr
  obtain ⟨j, nm', g, x, h1, _, _, rfl⟩ := mem_thrRows hr
  have hmem : nm' ∈ names := List.mem_of_getElem? h1
  have : nm' ≠ nm := fun h => hn (h ▸ hmem)
  simp [pL, thrRow, this]

/-- **block sum**: the rows of group `names[j]` with label in `L` contribute exactly their own group's sum -/
theorem sumOn_thr (L : Bool → Bool) (names : List String) (groups : List (List Threshold.Row))
    (probs : List (Rat → Rat)) (hnd : names.Nodup) (j : Nat) (nm : String) (g : List Threshold.Row) (pr : Rat → Rat)
    (h1 : names[j]? = some nm) (h2 : groups[j]? = some g) (h3 : probs[j]? = some pr) :
    sumOn (pL L nm) (thrRows names groups) (blockVals probs groups)
      = Threshold.sumBy (fun r => if L r.label then pr r.score else 0) g := by
  induction names generalizing groups probs j with
  | nil => cases h1
  | cons nm0 rest ih =>
    cases groups with
    | nil => cases h2
    | cons g0 gs =>
      cases probs with
      | nil => cases h3
      | cons pr0 prs =>
        have hn := List.nodup_cons.mp hnd
        simp only [thrRows, blockVals, List.zipWith_cons_cons, List.flatten_cons]
        rw [sumOn_append _ _ _ _ _ (by rw [List.length_map, List.length_map]), sumOn_block]
        cases j with
        | zero =>
          simp only [List.getElem?_cons_zero, Option.some.injEq] at h1 h2 h3
          subst h1; subst h2; subst h3
          have := sumOn_absent L nm0 rest gs (blockVals prs gs) hn.1
          unfold thrRows blockVals at this
          rw [this, if_pos rfl, add_zero]
        | succ j =>
          simp only [List.getElem?_cons_succ] at h1 h2 h3
          have hne : nm0 ≠ nm := fun h => hn.1 (h ▸ List.mem_of_getElem? h1)
          have := ih gs prs hn.2 j h1 h2 h3
          unfold thrRows blockVals at this
          rw [this, if_neg hne, zero_add]

theorem thrRows_ones (names : List String) (groups : List (List Threshold.Row)) :
    (thrRows names groups).map (fun _ => (1 : Rat)) = blockVals (names.map (fun _ => fun _ => 1)) groups := by
  induction names generalizing groups with
  | nil => simp [thrRows, blockVals]
  | cons nm rest ih =>
    cases groups with
    | nil => simp [thrRows, blockVals]
    | cons g gs =>
      have := ih gs
      unfold thrRows blockVals at this ⊢
      simp only [List.map_cons, List.zipWith_cons_cons, List.flatten_cons, List.map_append, this, List.map_map]
      congr 1

theorem blockVals_length (names : List String) (groups : List (List Threshold.Row)) (probs : List (Rat → Rat))
    (hl : names.length = groups.length) (hl' : probs.length = groups.length) :
    (blockVals probs groups).length = (thrRows names groups).length := by
  induction names generalizing groups probs with
  | nil =>
    cases groups with
    | nil => cases probs <;> rfl
    | cons g gs => cases hl
  | cons nm rest ih =>
    cases groups with
    | nil => cases hl
    | cons g gs =>
      cases probs with
      | nil => cases hl'
      | cons pr prs =>
        have := ih gs prs (Nat.succ.inj hl) (Nat.succ.inj hl')
        unfold thrRows blockVals at this ⊢
        simp only [List.zipWith_cons_cons, List.flatten_cons, List.length_append, List.length_map, this]

/-- **group mean on the moment side = group mean on the ThresholdOptimizer side** -/
theorem meanOn_thr (L : Bool → Bool) (names : List String) (groups : List (List Threshold.Row))
    (probs : List (Rat → Rat)) (hnd : names.Nodup) (j : Nat) (nm : String) (g : List Threshold.Row) (pr : Rat → Rat)
    (h1 : names[j]? = some nm) (h2 : groups[j]? = some g) (h3 : probs[j]? = some pr) :
    meanOn (pL L nm) (thrRows names groups) (blockVals probs groups) = thrMean L pr g := by
  unfold meanOn thrMean
  have e1 := sumOn_thr L names groups probs hnd j nm g pr h1 h2 h3
  have e2 := sumOn_thr L names groups (names.map (fun _ => fun _ => 1)) hnd j nm g (fun _ => 1) h1 h2
    (by rw [List.getElem?_map, h1]; rfl)
  rw [← thrRows_ones, sumOn_ones] at e2
  unfold sumOn at e1
  rw [e1, e2]

/-- **generic ThresholdOptimizer ⇒ parity on the moment side**: if on the training rows every event `e` of the moment
    selects the rows whose label satisfies some `L` and every group's rule has `thrMean L = c e`, then every observed
    (event, group) mean of the expected-prediction vector is `c e`.  `hsel` reads: for each event `e` that occurs there
    is a label class `L` (a predicate on "label = 1") with (i) `e` selects exactly the label-`L` training rows and
    (ii) the rule of every group `j` that has a label-`L` row has mean `c e` over those rows (`hj'` only types `rules[j]`) -/
theorem thr_parity (ev : Ev) (names : List String) (groups : List (List Threshold.Row))
    (rules : List Threshold.Rule) (c : String → Rat) (hnd : names.Nodup) (hl' : rules.length = groups.length)
    (hsel : ∀ e, (∃ r ∈ thrRows names groups, ev r = some e) → ∃ L : Bool → Bool,
      (∀ r ∈ thrRows names groups, inE ev e r = L (r.y == 1)) ∧
      ∀ j (hj : j < groups.length) (hj' : j < rules.length), (∃ x ∈ groups[j], L x.label = true) →
        thrMean L (Threshold.ruleProb rules[j]) groups[j] = c e)
    {e g : String} (hobs : Observed ev (thrRows names groups) e g) :
    meanOn (inEG ev e g) (thrRows names groups) (thrPred rules groups) = c e := by
  obtain ⟨r0, hr0, he0, hg0⟩ := hobs
  obtain ⟨L, hL1, hL2⟩ := hsel e ⟨r0, hr0, he0⟩
  obtain ⟨j, nm, gj, x, hj1, hj2, hx, rfl⟩ := mem_thrRows hr0
  obtain ⟨hjg, hgj⟩ := List.getElem?_eq_some_iff.mp hj2
  have hjr : j < rules.length := hl' ▸ hjg
  have hpred : ∀ r ∈ thrRows names groups, inEG ev e g r = pL L nm r := by
    intro r hr
    rw [inEG_eq, hL1 r hr, ← hg0]; rfl
  rw [meanOn_congr _ _ _ _ hpred]
  unfold thrPred
  rw [meanOn_thr L names groups _ hnd j nm gj (Threshold.ruleProb rules[j]) hj1 hj2
    (by rw [List.getElem?_map, List.getElem?_eq_getElem hjr]; rfl)]
  have hLx : L x.label = true := by
    have := hL1 _ hr0
    rw [thrRow_label] at this
    rw [← this, inE, he0, beq_self_eq_true]
  have := hL2 j hjg hjr ⟨x, by rw [hgj]; exact hx, hLx⟩
  rwa [hgj] at this

/-- parity of the expected predictions (every observed (event, group) mean is `c e`) ⇒ gamma (ratio 1) of the fitted
    rules' expected predictions vanishes entrywise; what C04X applies -/
theorem thr_gamma_zero_of_parity (ev : Ev) (names : List String) (groups : List (List Threshold.Row))
    (rules : List Threshold.Rule) (c : String → Rat)
    (hl : names.length = groups.length) (hl' : rules.length = groups.length)
    (hpar : ∀ e g, Observed ev (thrRows names groups) e g →
      meanOn (inEG ev e g) (thrRows names groups) (thrPred rules groups) = c e) :
    ∀ k ∈ index ev (thrRows names groups),
      gammaAt ev (thrRows names groups) 1 defaultUtil (thrPred rules groups) k = 0 := by
  intro k hk
  rw [gamma_of_parity ev _ 1 defaultUtil _ c ?_ k hk, sub_self, zero_mul]
  intro e g hobs
  rw [mEG_default _ _ (thrPred rules groups) _ _ (blockVals_length names groups _ hl (by simp [hl']))]
  exact hpar e g hobs

/-! ### the event rules on `thrRows` (no control features, labels 0/1) -/

theorem thrRows_shape {names : List String} {groups : List (List Threshold.Row)} {r : Moments.Row}
    (hr : r ∈ thrRows names groups) : r.c = none ∧ (r.y = 0 ∨ r.y = 1) := by
  obtain ⟨_, nm, _, x, _, _, _, rfl⟩ := mem_thrRows hr
  cases h : x.label <;> simp [thrRow, h]

end Cross
