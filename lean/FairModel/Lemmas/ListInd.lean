import FairModel.Lemmas.Prelude

/-- simultaneous induction on two lists of equal length -/
@[elab_as_elim]
theorem List.ind₂ {α β : Type} {P : (a : List α) → (b : List β) → a.length = b.length → Prop} (nil : P [] [] rfl)
    (cons : ∀ x xs y ys h, P xs ys h → P (x :: xs) (y :: ys) (congrArg Nat.succ h)) :
    ∀ a b h, P a b h
  | [], [], _ => nil
  | x :: xs, y :: ys, h => cons x xs y ys (Nat.succ.inj h) (List.ind₂ nil cons xs ys (Nat.succ.inj h))

/-- Insertion by a decidable test `ρ` keeps a list sorted for any transitive `σ` that holds where `ρ` does and holds
    the other way round where it does not: `ρ` may be `σ` itself or its strict part, which only says where ties go. -/
theorem List.pairwise_orderedInsert_of {α : Type} {ρ σ : α → α → Prop} [DecidableRel ρ] {a : α} {l : List α}
    (h1 : ∀ b, ρ a b → σ a b) (h2 : ∀ b ∈ l, ¬ ρ a b → σ b a) (htr : ∀ a b c, σ a b → σ b c → σ a c)
    (hl : l.Pairwise σ) : (l.orderedInsert ρ a).Pairwise σ := by
  induction l with
  | nil => exact List.pairwise_singleton _ _
  | cons b l ih =>
    obtain ⟨hb, hl'⟩ := List.pairwise_cons.mp hl
    rw [List.orderedInsert_cons]
    split
    · next hab => exact .cons (List.forall_mem_cons.mpr ⟨h1 b hab, fun z hz => htr _ _ _ (h1 b hab) (hb z hz)⟩) hl
    · next hab =>
      exact .cons (fun z hz => ((List.mem_orderedInsert _).mp hz).elim (· ▸ h2 b List.mem_cons_self hab) (hb z))
        (ih (fun z hz => h2 z (List.mem_cons_of_mem _ hz)) hl')

theorem List.pairwise_insertionSort_of {α : Type} {ρ σ : α → α → Prop} [DecidableRel ρ] (h1 : ∀ a b, ρ a b → σ a b)
    (h2 : ∀ a b, ¬ ρ a b → σ b a) (htr : ∀ a b c, σ a b → σ b c → σ a c) (l : List α) :
    (l.insertionSort ρ).Pairwise σ := by
  induction l with
  | nil => exact .nil
  | cons a l ih => exact pairwise_orderedInsert_of (h1 a) (fun b _ => h2 a b) htr ih
