/-
`set_params` histories: an estimator whose `fit` reads only constructor parameters shows the specification's view for
every history (`view_not_readsDerived_eq_specView`; the 2-operation witness against one whose `fit` reads an
`__init__`-derived attribute is `C19.params_stale_derived_not_spec`).  `Lifecycle.Machine` is a machine over `Lifecycle.Op`;
these histories have `set_params` as a further operation (`POp`), hence the simulation argument is done again here.
-/
import FairModel.Lemmas.Prelude
import FairModel.Model.LifecycleParams

namespace LifecycleParams
open Lifecycle

/-- the parameter value in force after a history: the last `set_params`, else the constructor value -/
def currentParam (p0 : Nat) (ops : List POp) : Nat :=
  ops.foldl (fun p o => match o with | .setParam v => v | _ => p) p0

/-- the states a machine that does not read the derived attribute can be in, relative to the specification -/
def Rel (s : PState) (t : PSpecState) : Prop :=
  s.param = t.param ∧ s.fitted = t.fitted.map (fun p => (p.1, p.2, p.2))

/-- related states step to related states, with the same result and the same observable class -/
theorem Rel.step {s : PState} {t : PSpecState} (h : Rel s t) (o : POp) :
    Rel (pStep false s o).1 (pspecStep t o).1 ∧ (pStep false s o).2 = (pspecStep t o).2 ∧
      pCls (pStep false s o).1 = pspecCls (pspecStep t o).1 := by
  obtain ⟨p, q, _⟩ := s
  obtain ⟨_, f⟩ := t
  obtain ⟨h1, h2⟩ := h
  cases h1; cases h2
  cases o <;> rcases f with _ | ⟨d, v⟩ <;> simp [pStep, pspecStep, Rel, pCls, pspecCls]

theorem view_not_readsDerived_eq_specView (p0 : Nat) (ops : List POp) : view false p0 ops = specView p0 ops := by
  suffices ∀ (s : PState) (t : PSpecState), Rel s t →
      (traceWith (pStep false) s ops).map (fun p => (p.1, pCls p.2)) =
        (traceWith pspecStep t ops).map (fun p => (p.1, pspecCls p.2)) from this _ _ ⟨rfl, rfl⟩
  induction ops with
  | nil => intro _ _ _; rfl
  | cons o os ih =>
    intro s t h
    obtain ⟨h1, h2, h3⟩ := h.step o
    simp only [traceWith, List.map_cons]
    rw [h2, h3, ih _ _ h1]

theorem runWith_snoc {σ : Type} (step : σ → POp → σ × Res) (s : σ) (ops : List POp) (o : POp) :
    runWith step s (ops ++ [o]) = (step (runWith step s ops) o).1 := by
  simp [runWith, List.foldl_append]

/-- the specification's parameter after a history is the one `currentParam` computes -/
theorem runWith_pspecStep_param (ops : List POp) : ∀ (s : PSpecState),
    (runWith pspecStep s ops).param = currentParam s.param ops := by
  induction ops with
  | nil => intro s; rfl
  | cons o os ih =>
    intro s
    simp only [runWith, currentParam, List.foldl_cons] at ih ⊢
    rw [ih]; cases o <;> rfl

end LifecycleParams
