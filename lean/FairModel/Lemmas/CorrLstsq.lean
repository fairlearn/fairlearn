import FairModel.Lemmas.CorrRemover

/-!
The least-squares problem behind `CorrelationRemover.fit`: a solution of the normal equations minimises the squared
error, all solutions have the same fitted values, and the solution is unique exactly for independent columns
(finding F10: `numpy.linalg.lstsq` on a rank-deficient centred block); at the end the bridge from the list model.

Everything is stated for an arbitrary real(rational)-valued "matrix" `S : row → column → Rat` with `n` rows and `ms`
columns and coefficient vectors `Nat → Rat` (only the entries below `ms` matter).
-/

namespace CorrRemover
open Finset

/-! ### vocabulary of the C15 statements -/

/-- `(S·d)_i` -/
def lin (S : Nat → Nat → Rat) (ms : Nat) (d : Nat → Rat) (i : Nat) : Rat := ∑ q ∈ range ms, S i q * d q

/-- entry `(k, q)` of the Gram matrix `SᵀS` -/
def gram (S : Nat → Nat → Rat) (n : Nat) (k q : Nat) : Rat := ∑ i ∈ range n, S i k * S i q

/-- the columns of `S` are linearly independent -/
def ColumnsIndependent (S : Nat → Nat → Rat) (n ms : Nat) : Prop :=
  ∀ d : Nat → Rat, (∀ i, i < n → lin S ms d i = 0) → ∀ q, q < ms → d q = 0

/-- the Gram matrix `SᵀS` is nonsingular (as a linear map: trivial kernel) -/
def GramNonsingular (S : Nat → Nat → Rat) (n ms : Nat) : Prop :=
  ∀ d : Nat → Rat, (∀ k, k < ms → ∑ q ∈ range ms, gram S n k q * d q = 0) → ∀ q, q < ms → d q = 0

/-- normal equations `Sᵀ (z − S w) = 0` for one target column `z` -/
def NormalEq (S : Nat → Nat → Rat) (z : Nat → Rat) (n ms : Nat) (w : Nat → Rat) : Prop :=
  ∀ k, k < ms → ∑ i ∈ range n, S i k * (z i - lin S ms w i) = 0

/-- shape hypotheses of a least-squares problem: `Sc` is `n × ms`, `Z` is `n × mz` -/
def Shaped (Sc Z : Mat) (ms mz : Nat) : Prop :=
  Z.length = Sc.length ∧ ∀ i, i < Sc.length → (Sc.getD i []).length = ms ∧ (Z.getD i []).length = mz

/-! ### the normal equations of an abstract matrix -/

theorem lin_sub (S : Nat → Nat → Rat) (ms : Nat) (w w' : Nat → Rat) (i : Nat) :
    lin S ms (fun q => w q - w' q) i = lin S ms w i - lin S ms w' i := by
  unfold lin
  rw [← Finset.sum_sub_distrib]
  apply Finset.sum_congr rfl; intro q _; ring

theorem lin_add (S : Nat → Nat → Rat) (ms : Nat) (w w' : Nat → Rat) (i : Nat) :
    lin S ms (fun q => w q + w' q) i = lin S ms w i + lin S ms w' i := by
  unfold lin
  rw [← Finset.sum_add_distrib]
  apply Finset.sum_congr rfl; intro q _; ring

/-- `rᵀ (S d) = (Sᵀ r)ᵀ d` -/
theorem sum_mul_lin (S : Nat → Nat → Rat) (n ms : Nat) (r d : Nat → Rat) :
    ∑ i ∈ range n, r i * lin S ms d i = ∑ q ∈ range ms, d q * ∑ i ∈ range n, S i q * r i := by
  unfold lin
  simp only [Finset.mul_sum]
  rw [Finset.sum_comm]
  apply Finset.sum_congr rfl; intro q _
  apply Finset.sum_congr rfl; intro i _; ring

/-- `Sᵀ (S d) = 0` forces `S d = 0`, because `‖S d‖² = dᵀ Sᵀ (S d)` -/
theorem lin_eq_zero_of_normal (S : Nat → Nat → Rat) (n ms : Nat) (d : Nat → Rat)
    (h : ∀ q, q < ms → ∑ i ∈ range n, S i q * lin S ms d i = 0) : ∀ i, i < n → lin S ms d i = 0 := by
  have h0 : ∑ i ∈ range n, lin S ms d i * lin S ms d i = 0 := by
    rw [sum_mul_lin]
    exact Finset.sum_eq_zero (fun q hq => by rw [h q (Finset.mem_range.mp hq), mul_zero])
  intro i hi
  exact mul_self_eq_zero.mp
    ((Finset.sum_eq_zero_iff_of_nonneg (fun i _ => mul_self_nonneg _)).mp h0 i (Finset.mem_range.mpr hi))

/-- `(SᵀS d)_k = Σ_i S_ik (S d)_i` -/
theorem gram_mul_eq (S : Nat → Nat → Rat) (n ms : Nat) (d : Nat → Rat) (k : Nat) :
    ∑ q ∈ range ms, gram S n k q * d q = ∑ i ∈ range n, S i k * lin S ms d i := by
  unfold gram lin
  simp only [Finset.sum_mul, Finset.mul_sum]
  rw [Finset.sum_comm]
  apply Finset.sum_congr rfl; intro i _
  apply Finset.sum_congr rfl; intro q _; ring

/-- the Gram matrix and the matrix itself have the same kernel -/
theorem gram_ker_iff (S : Nat → Nat → Rat) (n ms : Nat) (d : Nat → Rat) :
    (∀ k, k < ms → ∑ q ∈ range ms, gram S n k q * d q = 0) ↔ (∀ i, i < n → lin S ms d i = 0) := by
  simp only [gram_mul_eq]
  exact ⟨lin_eq_zero_of_normal S n ms d, fun h k _ =>
    Finset.sum_eq_zero (fun i hi => by rw [h i (Finset.mem_range.mp hi), mul_zero])⟩

theorem normalEq_congr {S : Nat → Nat → Rat} {z : Nat → Rat} {n ms : Nat} {w w' : Nat → Rat}
    (h : NormalEq S z n ms w) (hw : ∀ q, q < ms → w' q = w q) : NormalEq S z n ms w' := fun k hk => by
  rw [← h k hk]
  exact Finset.sum_congr rfl (fun i _ => by
    rw [lin, lin, Finset.sum_congr rfl (fun q hq => by rw [hw q (Finset.mem_range.mp hq)])])

/-- ANY two solutions of the normal equations have the same fitted values `S w` — hence the same residual `z − S w` -/
theorem normalEq_fitted_unique (S : Nat → Nat → Rat) (z : Nat → Rat) (n ms : Nat) (w w' : Nat → Rat)
    (h : NormalEq S z n ms w) (h' : NormalEq S z n ms w') : ∀ i, i < n → lin S ms w i = lin S ms w' i := by
  intro i hi
  refine sub_eq_zero.mp ((lin_sub S ms w w' i).symm.trans (lin_eq_zero_of_normal S n ms _ (fun k hk => ?_) i hi))
  have e : ∀ i ∈ range n, S i k * lin S ms (fun q => w q - w' q) i
      = S i k * (z i - lin S ms w' i) - S i k * (z i - lin S ms w i) := by
    intro i _; rw [lin_sub]; ring
  rw [Finset.sum_congr rfl e, Finset.sum_sub_distrib, h k hk, h' k hk, sub_zero]

/-- a solution of the normal equations minimises the squared error over ALL coefficient vectors: the error of `w'` is
    that of `w` plus `‖S (w − w')‖²`, the cross term `(z − S w)ᵀ S (w − w')` vanishing by the normal equations -/
theorem normalEq_minimises (S : Nat → Nat → Rat) (z : Nat → Rat) (n ms : Nat) (w : Nat → Rat)
    (h : NormalEq S z n ms w) (w' : Nat → Rat) :
    ∑ i ∈ range n, (z i - lin S ms w i) ^ 2 ≤ ∑ i ∈ range n, (z i - lin S ms w' i) ^ 2 := by
  have hsplit : ∀ i ∈ range n, (z i - lin S ms w' i) ^ 2 = (z i - lin S ms w i) ^ 2
      + 2 * ((z i - lin S ms w i) * lin S ms (fun q => w q - w' q) i)
      + lin S ms (fun q => w q - w' q) i ^ 2 := by
    intro i _; rw [lin_sub]; ring
  have hcross : ∑ i ∈ range n, (z i - lin S ms w i) * lin S ms (fun q => w q - w' q) i = 0 := by
    rw [sum_mul_lin]
    exact Finset.sum_eq_zero (fun q hq => by rw [h q (Finset.mem_range.mp hq), mul_zero])
  rw [Finset.sum_congr rfl hsplit, Finset.sum_add_distrib, Finset.sum_add_distrib, ← Finset.mul_sum, hcross,
    mul_zero, add_zero]
  exact le_add_of_nonneg_right (Finset.sum_nonneg (fun i _ => sq_nonneg _))

/-- relative to a given solution `w0` (existence is not proved, see the header of `Properties/C15.lean`): the solution
    of the normal equations is unique exactly when the columns are linearly independent -/
theorem normalEq_unique_iff (S : Nat → Nat → Rat) (z : Nat → Rat) (n ms : Nat) (w0 : Nat → Rat)
    (h0 : NormalEq S z n ms w0) :
    (∀ w, NormalEq S z n ms w → ∀ q, q < ms → w q = w0 q) ↔ ColumnsIndependent S n ms := by
  constructor
  · intro hu d hd q hq
    -- w0 + d is another solution
    have hs : NormalEq S z n ms (fun q => w0 q + d q) := fun k hk => by
      rw [← h0 k hk]
      exact Finset.sum_congr rfl (fun i hi => by rw [lin_add, hd i (Finset.mem_range.mp hi), add_zero])
    exact add_eq_left.mp (hu _ hs q hq)
  · intro hind w hw q hq
    exact sub_eq_zero.mp (hind (fun q => w q - w0 q)
      (fun i hi => by rw [lin_sub, normalEq_fitted_unique S z n ms w w0 hw h0 i hi, sub_self]) q hq)

/-! ### connection with the list model -/

/-- entry of `Z − Sc·β` -/
theorem ent_residual (Sc Z β : Mat) (ms : Nat) (i j : Nat) (hi : i < Sc.length) (hz : Z.length = Sc.length)
    (hrow : (Sc.getD i []).length = ms) (hj : j < (Z.getD i []).length) :
    ent (residual Sc Z β) i j = ent Z i j - lin (ent Sc) ms (fun q => ent β q j) i := by
  rw [ent, getD_residual Sc Z β i hi (hz ▸ hi), getD_residRow _ _ _ _ hj, hrow]
  rfl

theorem isLstsq_iff_normalEq (Sc Z β : Mat) (ms mz : Nat) (hs : Shaped Sc Z ms mz) :
    isLstsq Sc Z β ms mz = true ↔
      ∀ j, j < mz → NormalEq (ent Sc) (fun i => ent Z i j) Sc.length ms (fun q => ent β q j) := by
  rw [isLstsq_iff]
  have key : ∀ k j, j < mz → normalResid Sc (residual Sc Z β) k j
      = ∑ i ∈ range Sc.length, ent Sc i k * (ent Z i j - lin (ent Sc) ms (fun q => ent β q j) i) := by
    intro k j hj
    unfold normalResid
    rw [sumTo_eq_sum_range]
    apply Finset.sum_congr rfl
    intro i hi
    have hi' := Finset.mem_range.mp hi
    rw [ent_residual Sc Z β ms i j hi' hs.1 (hs.2 i hi').1 (by rw [(hs.2 i hi').2]; exact hj)]
  constructor
  · intro h j hj k hk
    rw [← key k j hj]; exact h k hk j hj
  · intro h k hk j hj
    rw [key k j hj]; exact h j hj k hk

end CorrRemover
