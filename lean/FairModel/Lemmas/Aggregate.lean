import FairModel.Lemmas.XR
import FairModel.Lemmas.Frame
import FairModel.Model.Aggregate

/-! The vocabulary of the C02 statements (`valueAt`, `FiniteCells`, `LeOne`, `NonNeg`), then per-stratum
facts about the aggregates: `vs` is the list of group values of one control stratum (NaN = empty group),
`o` its overall value; at the end every aggregate of a table at a stratum `c` is that per-stratum function of
`vals t c` / `overallAt t c`.  Which grouping function an aggregate uses comes from the generated
`AggregateSpec` and is seen through by unfolding (`diffOf_fin`, `diffOf_nan`, `ratioOverallOf_of_forall`), so
these proofs break when the source changes it. -/

namespace Aggregate
open XR

/-- value of an aggregate result at stratum `c` (`none` = the call raised or has no such row) -/
def valueAt (r : Option (List (Frame.Key × XR))) (c : Frame.Key) : Option XR :=
  match r with
  | none => none
  | some tbl => tbl.lookup c

/-- all cells are scalars that are finite or NaN (no ±inf metric values, nothing non-scalar) -/
def FiniteCells (t : Tables) : Prop :=
  (∀ e ∈ t.byGroup, e.2 = .scalar nan ∨ ∃ q, e.2 = .scalar (fin q)) ∧
  (∀ e ∈ t.overall, e.2 = .scalar nan ∨ ∃ q, e.2 = .scalar (fin q))

/-- "at most one" on extended values: NaN (undefined) and -inf are allowed, +inf is not -/
def LeOne (x : XR) : Prop := x = nan ∨ x = ninf ∨ ∃ r, x = fin r ∧ r ≤ 1

/-- "non-negative" on extended values: NaN and +inf are allowed, -inf is not -/
def NonNeg (x : XR) : Prop := x = nan ∨ x = pinf ∨ ∃ r, x = fin r ∧ 0 ≤ r

theorem maxSkip_eq_nan {l : List XR} (h : FinNan l) (hm : maxSkip l = nan) : fins l = [] := by
  rcases maxSkip_spec h with ⟨h0, _⟩ | ⟨m', hm', _, _⟩
  · exact h0
  · rw [hm'] at hm; cases hm

theorem diffOf_fin {vs : List XR} (h : FinNan vs) (s : Rat) :
    diffOf vs (fin s) = maxSkip (vs.map (mapFin (fun q => |q - s|))) :=
  congrArg maxSkip (List.map_congr_left fun x hx => abs_sub_fin x s (h x hx))

theorem diffOf_nan (vs : List XR) : diffOf vs nan = nan := by
  -- `AggregateSpec.diffAgg` unfolds to `.max`
  show maxSkip (vs.map fun v => XR.abs (XR.sub v nan)) = nan
  induction vs with
  | nil => rfl
  | cons x l ih => rw [List.map_cons, maxSkip_cons, abs_sub_nan, ih]; rfl

theorem fin_of_diffOf_eq_fin {vs : List XR} {s : XR} {d : Rat} (hs : s = nan ∨ ∃ o, s = fin o)
    (hd : diffOf vs s = fin d) : ∃ o, s = fin o :=
  hs.resolve_left fun e => by rw [e, diffOf_nan] at hd; cases hd

theorem diffOf_spec {vs : List XR} (h : FinNan vs) (s : Rat) :
    (fins vs = [] ∧ diffOf vs (fin s) = nan) ∨
    (∃ D, diffOf vs (fin s) = fin D ∧ (∃ q ∈ fins vs, D = |q - s|) ∧ ∀ q ∈ fins vs, |q - s| ≤ D) := by
  rw [diffOf_fin h]
  have hf := fins_map_mapFin (fun q => |q - s|) h
  rcases maxSkip_spec (finNan_map_mapFin (fun q => |q - s|) h) with ⟨h0, hn⟩ | ⟨D, hD, hmem, hle⟩
  · rw [hf, List.map_eq_nil_iff] at h0
    exact Or.inl ⟨h0, hn⟩
  · rw [hf] at hmem hle
    obtain ⟨q, hq, rfl⟩ := List.mem_map.mp hmem
    exact Or.inr ⟨_, hD, ⟨q, hq, rfl⟩, List.forall_mem_map.mp hle⟩

theorem diffOf_eq_fin {vs : List XR} (h : FinNan vs) {s d : Rat} (hd : diffOf vs (fin s) = fin d) :
    (∃ q ∈ fins vs, d = |q - s|) ∧ ∀ q ∈ fins vs, |q - s| ≤ d := by
  rcases diffOf_spec h s with ⟨_, hn⟩ | ⟨D, hD, hspec⟩
  · rw [hn] at hd; cases hd
  · rw [hD] at hd; cases hd; exact hspec

theorem diffOf_nan_or_nonneg {vs : List XR} (h : FinNan vs) {s : XR} (hs : s = nan ∨ ∃ o, s = fin o) :
    diffOf vs s = nan ∨ ∃ d, diffOf vs s = fin d ∧ 0 ≤ d := by
  rcases hs with rfl | ⟨o, rfl⟩
  · exact Or.inl (diffOf_nan vs)
  · rcases diffOf_spec h o with ⟨_, hn⟩ | ⟨D, hD, ⟨q, _, rfl⟩, _⟩
    exacts [Or.inl hn, Or.inr ⟨_, hD, abs_nonneg _⟩]

theorem diffOf_eq_zero_iff {vs : List XR} (h : FinNan vs) (s : Rat) :
    diffOf vs (fin s) = fin 0 ↔ fins vs ≠ [] ∧ ∀ q ∈ fins vs, q = s := by
  rcases diffOf_spec h s with ⟨h0, hn⟩ | ⟨D, hD, ⟨q0, hq0, rfl⟩, hle⟩
  · rw [hn]; exact ⟨nofun, fun ⟨hne, _⟩ => absurd h0 hne⟩
  · rw [hD, fin.injEq]
    refine ⟨fun hz => ⟨List.ne_nil_of_mem hq0, fun q hq => ?_⟩, fun ⟨_, hall⟩ => ?_⟩
    · exact sub_eq_zero.mp (abs_nonpos_iff.mp (hz ▸ hle q hq))
    · rw [hall q0 hq0, sub_self, abs_zero]

/-- between_groups: the subtrahend is the group minimum, and the result is max - min -/
theorem diffOf_min {vs : List XR} (h : FinNan vs) {m M : Rat}
    (hm : minSkip vs = fin m) (hM : maxSkip vs = fin M) : diffOf vs (fin m) = fin (M - m) := by
  obtain ⟨hm1, hm2⟩ := minSkip_eq_fin h hm
  obtain ⟨hM1, hM2⟩ := maxSkip_eq_fin h hM
  rcases diffOf_spec h m with ⟨h0, _⟩ | ⟨D, hD, ⟨q, hq, rfl⟩, hle⟩
  · rw [h0] at hm1; cases hm1
  · refine hD.trans (congrArg fin (le_antisymm ?_ ((le_abs_self _).trans (hle M hM1))))
    rw [abs_of_nonneg (sub_nonneg.mpr (hm2 q hq))]
    exact sub_le_sub_right (hM2 q hq) m

theorem diffOf_le_range {vs : List XR} (h : FinNan vs) {m M o d : Rat}
    (hm : minSkip vs = fin m) (hM : maxSkip vs = fin M) (hmo : m ≤ o) (hoM : o ≤ M)
    (hd : diffOf vs (fin o) = fin d) : d ≤ M - m := by
  obtain ⟨⟨q, hq, rfl⟩, _⟩ := diffOf_eq_fin h hd
  have hlo := (minSkip_eq_fin h hm).2 q hq
  have hhi := (maxSkip_eq_fin h hM).2 q hq
  exact abs_le.mpr ⟨by rw [neg_sub]; exact sub_le_sub hlo hoM, sub_le_sub hhi hmo⟩

theorem ratioSubOne_fin (r : Rat) :
    AggregateSpec.ratioSubOne (fin r) = if 1 < r then fin (1 / r) else fin r := by
  show (if decide (1 < r) = true then XR.div (fin 1) (fin r) else fin r) = _
  by_cases h : 1 < r
  · rw [if_pos (decide_eq_true h), if_pos h, div_fin_of_ne 1 (zero_lt_one.trans h).ne']
  · rw [if_neg fun hd => h (of_decide_eq_true hd), if_neg h]

theorem ratioSubOne_pinf : AggregateSpec.ratioSubOne pinf = fin 0 := by decide +kernel
theorem ratioSubOne_ninf : AggregateSpec.ratioSubOne ninf = ninf := by decide +kernel
theorem ratioSubOne_nan : AggregateSpec.ratioSubOne nan = nan := by decide +kernel

theorem leOne_fin {r : Rat} : LeOne (fin r) ↔ r ≤ 1 :=
  ⟨fun h => by obtain h | h | ⟨_, h, hr⟩ := h <;> cases h; exact hr, fun h => .inr (.inr ⟨r, rfl, h⟩)⟩

theorem ratioSubOne_leOne (x : XR) : LeOne (AggregateSpec.ratioSubOne x) := by
  cases x with
  | nan => exact .inl ratioSubOne_nan
  | ninf => exact .inr (.inl ratioSubOne_ninf)
  | pinf => rw [ratioSubOne_pinf]; exact leOne_fin.mpr zero_le_one
  | fin r =>
    rw [ratioSubOne_fin]
    by_cases h : 1 < r
    · rw [if_pos h]; exact leOne_fin.mpr ((div_le_one (zero_lt_one.trans h)).mpr h.le)
    · rw [if_neg h]; exact leOne_fin.mpr (not_lt.mp h)

/-- A skipping minimum is NaN or one of its entries, so what holds of NaN and of every
    `ratio_sub_one (v / o)` holds of `ratioOverallOf vs o`. -/
theorem ratioOverallOf_of_forall {P : XR → Prop} {vs : List XR} {o : XR} (hnan : P nan)
    (h : ∀ v ∈ vs, P (AggregateSpec.ratioSubOne (XR.div v o))) : P (ratioOverallOf vs o) := by
  rcases minSkip_mem (vs.map fun v => AggregateSpec.ratioSubOne (XR.div v o)) with e | hm
  · exact (show ratioOverallOf vs o = nan from e) ▸ hnan
  · exact List.forall_mem_map.mpr h _ hm

theorem ratioOverallOf_leOne (vs : List XR) (o : XR) : LeOne (ratioOverallOf vs o) :=
  ratioOverallOf_of_forall (.inl rfl) fun _ _ => ratioSubOne_leOne _

theorem ratioOverallOf_nan (vs : List XR) : ratioOverallOf vs nan = nan :=
  ratioOverallOf_of_forall (P := (· = nan)) rfl fun v _ => by cases v <;> exact ratioSubOne_nan

theorem nonNeg_fin {r : Rat} : NonNeg (fin r) ↔ 0 ≤ r :=
  ⟨fun h => by obtain h | h | ⟨_, h, hr⟩ := h <;> cases h; exact hr, fun h => .inr (.inr ⟨r, rfl, h⟩)⟩

theorem ratioSubOne_nonneg {x : XR} (hx : NonNeg x) : NonNeg (AggregateSpec.ratioSubOne x) := by
  rcases hx with rfl | rfl | ⟨r, rfl, hr⟩
  · exact .inl ratioSubOne_nan
  · rw [ratioSubOne_pinf]; exact nonNeg_fin.mpr le_rfl
  · rw [ratioSubOne_fin]
    by_cases h : 1 < r
    · rw [if_pos h]; exact nonNeg_fin.mpr (div_nonneg zero_le_one hr)
    · rw [if_neg h]; exact nonNeg_fin.mpr hr

theorem div_nonneg_fin {a b : Rat} (ha : 0 ≤ a) (hb : 0 ≤ b) : NonNeg (XR.div (fin a) (fin b)) := by
  rcases hb.eq_or_lt with rfl | hb
  · rcases ha.eq_or_lt with rfl | ha
    · exact .inl rfl
    · exact .inr (.inl (div_pos_zero ha))
  · rw [div_fin_of_ne a hb.ne']; exact nonNeg_fin.mpr (div_nonneg ha hb.le)

theorem ratioOverallOf_nonneg {vs : List XR} (h : FinNan vs) (hv : ∀ q ∈ fins vs, 0 ≤ q) {o : Rat}
    (ho : 0 ≤ o) : NonNeg (ratioOverallOf vs (fin o)) :=
  ratioOverallOf_of_forall (.inl rfl) fun v hvm => ratioSubOne_nonneg <| by
    rcases h v hvm with rfl | ⟨q, rfl⟩
    · exact .inl rfl
    · exact div_nonneg_fin (hv q (mem_fins.mpr hvm)) ho

/-- ratio to a non-zero reference value `o`, mirroring `diffOf_spec`: NaN iff there is no non-empty group, otherwise the
    smallest `ratio_sub_one (v / o)`, attained by some group -/
theorem ratioOverallOf_spec {vs : List XR} (h : FinNan vs) {o : Rat} (ho : o ≠ 0) :
    (fins vs = [] ∧ ratioOverallOf vs (fin o) = nan) ∨
    (∃ ρ, ratioOverallOf vs (fin o) = fin ρ ∧
      (∃ q ∈ fins vs, ρ = if 1 < q / o then 1 / (q / o) else q / o) ∧
      ∀ q ∈ fins vs, ρ ≤ if 1 < q / o then 1 / (q / o) else q / o) := by
  have hmap : ratioOverallOf vs (fin o) =
      minSkip (vs.map (mapFin fun q => if 1 < q / o then 1 / (q / o) else q / o)) :=
    congrArg minSkip (List.map_congr_left fun v hv => by
      rcases h v hv with rfl | ⟨q, rfl⟩
      · rfl
      · rw [div_fin_of_ne q ho, ratioSubOne_fin]; exact (apply_ite fin ..).symm)
  rw [hmap]
  have hf := fins_map_mapFin (fun q => if 1 < q / o then 1 / (q / o) else q / o) h
  rcases minSkip_spec (finNan_map_mapFin (fun q => if 1 < q / o then 1 / (q / o) else q / o) h) with
    ⟨h0, hn⟩ | ⟨ρ, hρ, hmem, hle⟩
  · rw [hf, List.map_eq_nil_iff] at h0
    exact Or.inl ⟨h0, hn⟩
  · rw [hf] at hmem hle
    obtain ⟨q, hq, rfl⟩ := List.mem_map.mp hmem
    exact Or.inr ⟨_, hρ, ⟨q, hq, rfl⟩, List.forall_mem_map.mp hle⟩

theorem ratioOverallOf_ge_between {vs : List XR} (h : FinNan vs) (hnn : ∀ q ∈ fins vs, 0 ≤ q)
    {m M o rb ro : Rat} (hm : minSkip vs = fin m) (hM : maxSkip vs = fin M) (hmo : m ≤ o) (hoM : o ≤ M)
    (hb : XR.div (fin m) (fin M) = fin rb) (ho : ratioOverallOf vs (fin o) = fin ro) : rb ≤ ro := by
  obtain ⟨hm1, hm2⟩ := minSkip_eq_fin h hm
  obtain ⟨hM1, hM2⟩ := maxSkip_eq_fin h hM
  obtain ⟨_, rfl⟩ := div_eq_fin_iff.mp hb
  rcases (hnn m hm1).eq_or_lt with rfl | hmpos
  · rw [zero_div]
    exact nonNeg_fin.mp (ho ▸ ratioOverallOf_nonneg h hnn hmo)
  · have hopos := hmpos.trans_le hmo
    rcases ratioOverallOf_spec h hopos.ne' with ⟨_, hn⟩ | ⟨ρ, hρ, ⟨q, hq, rfl⟩, _⟩
    · rw [hn] at ho; cases ho
    · rw [hρ, fin.injEq] at ho
      have hqpos := hmpos.trans_le (hm2 q hq)
      -- `ratio_sub_one (q / o)` is `q / o` or `o / q`, and `min / max` is below both
      rw [← ho]
      split_ifs
      · rw [one_div_div]; exact div_le_div₀ hopos.le hmo hqpos (hM2 q hq)
      · exact div_le_div₀ hqpos.le (hm2 q hq) hopos hoM
/-! ### table level: every aggregate at a stratum is the per-stratum function of `vals` / `overallAt` -/

theorem lookup_strata (t : Tables) (g : Frame.Key → XR) {c : Frame.Key} (hc : c ∈ strata t) :
    ((strata t).map (fun k => (k, g k))).lookup c = some (g c) := by
  rw [Frame.lookup_map_self g (strata t) c, if_pos hc]

theorem lookup_mem {κ β : Type} [BEq κ] [LawfulBEq κ] {l : List (κ × β)} {k : κ} {v : β}
    (h : l.lookup k = some v) : (k, v) ∈ l := by
  obtain ⟨l₁, l₂, rfl, _⟩ := List.lookup_eq_some_iff.mp h
  exact List.mem_append_right _ List.mem_cons_self

theorem lookup_map_snd {κ β γ : Type} [BEq κ] (f : β → γ) (l : List (κ × β)) (k : κ) :
    (l.map (fun e => (e.1, f e.2))).lookup k = (l.lookup k).map f := by
  induction l with
  | nil => rfl
  | cons a l ih =>
    rw [List.map_cons, List.lookup_cons, List.lookup_cons]
    cases k == a.1
    exacts [ih, rfl]

theorem overallAt_finNan {t : Tables} (h : FiniteCells t) (c : Frame.Key) :
    overallAt t c = nan ∨ ∃ o, overallAt t c = fin o := by
  unfold overallAt
  split
  · next cell hl =>
    exact (h.2 _ (lookup_mem hl)).imp (congrArg coerce) fun ⟨q, h'⟩ => ⟨q, congrArg coerce h'⟩
  · exact .inl rfl

theorem finNan_vals {t : Tables} (h : FiniteCells t) (c : Frame.Key) : FinNan (vals t c) :=
  List.forall_mem_map.mpr fun e he =>
    (h.1 e (List.mem_filter.mp he).1).imp (congrArg coerce) fun ⟨q, h'⟩ => ⟨q, congrArg coerce h'⟩

theorem hasNonscalar_of_finiteCells {t : Tables} (h : FiniteCells t) (ho : t.othersNonscalar = false) :
    hasNonscalar t = false := by
  have hns : ∀ {l : List (Frame.Key × Frame.Cell)},
      (∀ e ∈ l, e.2 = .scalar nan ∨ ∃ q, e.2 = .scalar (fin q)) → l.any (fun e => isNonscalar e.2) = false :=
    fun h => List.any_eq_false.mpr fun e he => by
      rcases h e he with h | ⟨q, h⟩ <;> rw [h] <;> exact Bool.false_ne_true
  unfold hasNonscalar
  rw [ho, hns h.1, hns h.2]
  rfl

theorem applyGrouping_eq {g : Grouping} {e : Errors} {t : Tables}
    (h : e = .coerce ∨ hasNonscalar t = false) :
    applyGrouping g e t = some ((strata t).map (fun c => (c, g.apply (vals t c)))) := by
  unfold applyGrouping
  rw [if_neg]
  rintro ⟨h1, h2⟩
  rcases h with h | h
  · rw [h] at h1; cases h1
  · rw [h] at h2; cases h2

theorem applyGrouping_at (g : Grouping) {e : Errors} {t : Tables} (h : e = .coerce ∨ hasNonscalar t = false)
    {c : Frame.Key} (hc : c ∈ strata t) :
    valueAt (applyGrouping g e t) c = some (g.apply (vals t c)) := by
  rw [applyGrouping_eq h]
  exact lookup_strata t _ hc

theorem groupMin_at {e : Errors} {t : Tables} (h : e = .coerce ∨ hasNonscalar t = false)
    {c : Frame.Key} (hc : c ∈ strata t) : valueAt (groupMin e t) c = some (minSkip (vals t c)) :=
  applyGrouping_at .min h hc

theorem groupMax_at {e : Errors} {t : Tables} (h : e = .coerce ∨ hasNonscalar t = false)
    {c : Frame.Key} (hc : c ∈ strata t) : valueAt (groupMax e t) c = some (maxSkip (vals t c)) :=
  applyGrouping_at .max h hc

theorem difference_between_at {e : Errors} {t : Tables} (h : e = .coerce ∨ hasNonscalar t = false)
    {c : Frame.Key} (hc : c ∈ strata t) :
    valueAt (difference .between e t) c = some (diffOf (vals t c) (minSkip (vals t c))) := by
  unfold difference
  rw [applyGrouping_eq h]
  -- look `c` up in the result table, then in the table of subtrahends inside its entry
  refine (lookup_strata t _ hc).trans ?_
  rw [lookup_strata t _ hc]
  rfl

theorem difference_overall_at {e : Errors} {t : Tables} (h : hasNonscalar t = false)
    {c : Frame.Key} (hc : c ∈ strata t) :
    valueAt (difference .toOverall e t) c = some (diffOf (vals t c) (overallAt t c)) := by
  unfold difference
  simp only [h, Bool.false_eq_true, if_false, valueAt]
  exact lookup_strata t _ hc

theorem ratio_between_at {e : Errors} {t : Tables} (h : e = .coerce ∨ hasNonscalar t = false)
    {c : Frame.Key} (hc : c ∈ strata t) :
    valueAt (ratio .between e t) c = some (XR.div (minSkip (vals t c)) (maxSkip (vals t c))) := by
  unfold ratio
  rw [applyGrouping_eq (g := AggregateSpec.ratioBetweenNum) h,
    applyGrouping_eq (g := AggregateSpec.ratioBetweenDen) h]
  -- the result maps over the table of numerators: look `c` up in it, then in the table of denominators
  refine (congrArg (List.lookup c) (List.map_map ..)).trans ((lookup_strata t _ hc).trans ?_)
  rw [lookup_strata t _ hc]
  rfl

theorem ratio_overall_at {e : Errors} {t : Tables} (h : hasNonscalar t = false)
    {c : Frame.Key} (hc : c ∈ strata t) :
    valueAt (ratio .toOverall e t) c = some (ratioOverallOf (vals t c) (overallAt t c)) := by
  unfold ratio
  simp only [h, Bool.false_eq_true, if_false, valueAt]
  exact lookup_strata t _ hc

end Aggregate
