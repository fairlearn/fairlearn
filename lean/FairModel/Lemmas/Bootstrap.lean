/-
Helper lemmas for C18.  numpy's linear quantile of k values is the piecewise-linear interpolation `interp` of the
sorted values at the virtual index `(k−1)·q` (`quantileLinear_eq`); every fact about `quantileLinear` is proved on
`interp`, cell by cell, from facts about one interpolation step `a + (b − a)·g`.
-/
import FairModel.Lemmas.Weights
import FairModel.Model.Bootstrap

namespace Bootstrap
open BaseMetrics Weights

/-! ### vocabulary of the C18 statements -/

/-- the resampling mean of a column of sample values -/
def mean (xs : List Rat) : Rat := xs.sum / xs.length

/-- order of two CI entries: both NaN, or both finite and ordered -/
def XRle (a b : XR) : Prop := (a = .nan ∧ b = .nan) ∨ ∃ x y, a = .fin x ∧ b = .fin y ∧ x ≤ y

/-- a CI entry list is shaped and ordered like the quantile list -/
def Ordered (qs : List Rat) (l : List XR) : Prop :=
  l.length = qs.length ∧
  ∀ (i j : Nat) (hi : i < qs.length) (hj : j < qs.length) (hi' : i < l.length) (hj' : j < l.length),
    qs[i] ≤ qs[j] → XRle l[i] l[j]

/-! ### sorting -/

theorem insertR_eq (x : Rat) (l : List Rat) : insertR x l = l.orderedInsert (· ≤ ·) x := by
  induction l with
  | nil => rfl
  | cons y ys ih => unfold insertR; rw [List.orderedInsert_cons, ih]

theorem sortR_eq (l : List Rat) : sortR l = l.insertionSort (· ≤ ·) :=
  congrArg (List.foldr · [] l) (funext₂ insertR_eq)

theorem sortR_sorted (l : List Rat) : (sortR l).Pairwise (· ≤ ·) :=
  sortR_eq l ▸ List.pairwise_insertionSort _ l

theorem sortR_perm (l : List Rat) : (sortR l).Perm l := sortR_eq l ▸ List.perm_insertionSort _ l

@[simp] theorem sortR_length (l : List Rat) : (sortR l).length = l.length := (sortR_perm l).length_eq

theorem mem_sortR (x : Rat) (l : List Rat) : x ∈ sortR l ↔ x ∈ l := (sortR_perm l).mem_iff

theorem sortR_ne_nil (l : List Rat) (h : l ≠ []) : sortR l ≠ [] := by
  intro e
  have := sortR_length l
  rw [e] at this
  exact h (List.length_eq_zero_iff.mp this.symm)

theorem getD_eq_getElem (s : List Rat) (i : Nat) (hi : i < s.length) : s.getD i 0 = s[i] := by
  simp [List.getD_eq_getElem?_getD, hi]

theorem sorted_getD_le (s : List Rat) (hs : s.Pairwise (· ≤ ·)) (i j : Nat) (hij : i ≤ j)
    (hj : j < s.length) : s.getD i 0 ≤ s.getD j 0 := by
  rw [getD_eq_getElem _ _ hj, getD_eq_getElem _ _ (lt_of_le_of_lt hij hj)]
  rcases Nat.lt_or_eq_of_le hij with h | h
  · exact (List.pairwise_iff_getElem.mp hs) i j (lt_of_le_of_lt hij hj) hj h
  · subst h; exact le_refl _

theorem length_sub_one_lt (s : List Rat) (hne : s ≠ []) : s.length - 1 < s.length :=
  Nat.sub_lt (List.length_pos_iff.mpr hne) Nat.one_pos

theorem sorted_getD_zero_le (s : List Rat) (hs : s.Pairwise (· ≤ ·)) (x : Rat) (hx : x ∈ s) : s.getD 0 0 ≤ x := by
  obtain ⟨i, hi, rfl⟩ := List.getElem_of_mem hx
  rw [← getD_eq_getElem s i hi]
  exact sorted_getD_le s hs 0 i (Nat.zero_le _) hi

theorem sorted_le_getD_last (s : List Rat) (hs : s.Pairwise (· ≤ ·)) (x : Rat) (hx : x ∈ s) :
    x ≤ s.getD (s.length - 1) 0 := by
  obtain ⟨i, hi, rfl⟩ := List.getElem_of_mem hx
  rw [← getD_eq_getElem s i hi]
  exact sorted_getD_le s hs i _ (Nat.le_sub_one_of_lt hi) (length_sub_one_lt s (List.ne_nil_of_mem hx))

/-! ### floor of a non-negative rational -/

theorem floor_toNat_bounds (h : Rat) (h0 : 0 ≤ h) :
    ((h.floor.toNat : Nat) : Rat) ≤ h ∧ h < ((h.floor.toNat : Nat) : Rat) + 1 := by
  have e : ((h.floor.toNat : Nat) : Rat) = ((h.floor : Int) : Rat) := by
    rw [← Int.cast_natCast, Int.toNat_of_nonneg (Rat.le_floor_iff.mpr (by rwa [Int.cast_zero]))]
  rw [e]
  exact ⟨Rat.floor_le h, by have := Rat.lt_floor_add_one h; rwa [Int.cast_add, Int.cast_one] at this⟩

theorem floor_toNat_le (h : Rat) (h0 : 0 ≤ h) (m : Nat) (hm : h ≤ (m : Rat)) : h.floor.toNat ≤ m := by
  exact_mod_cast le_trans (floor_toNat_bounds h h0).1 hm

theorem floor_toNat_eq (h : Rat) (j : Nat) (h1 : (j : Rat) ≤ h) (h2 : h < (j : Rat) + 1) :
    h.floor.toNat = j := by
  have e : h.floor = (j : Int) :=
    le_antisymm (Int.lt_add_one_iff.mp (Rat.floor_lt_iff.mpr (by simpa using h2)))
      (Rat.le_floor_iff.mpr (by simpa using h1))
  rw [e, Int.toNat_natCast]

/-! ### interpolation between two values `a ≤ b` at a fraction `g` -/

theorem add_sub_mul_bounds {a b g : Rat} (hab : a ≤ b) (g0 : 0 ≤ g) (g1 : g ≤ 1) :
    a ≤ a + (b - a) * g ∧ a + (b - a) * g ≤ b :=
  ⟨le_add_of_nonneg_right (mul_nonneg (sub_nonneg.2 hab) g0),
    le_sub_iff_add_le'.1 (mul_le_of_le_one_right (sub_nonneg.2 hab) g1)⟩

/-- `(b − a)·g ≤ (M − a)·g < M − a` -/
theorem add_sub_mul_lt {a b g M : Rat} (ha : a < M) (hb : b ≤ M) (g0 : 0 ≤ g) (g1 : g < 1) : a + (b - a) * g < M :=
  lt_sub_iff_add_lt'.1 (lt_of_le_of_lt (mul_le_mul_of_nonneg_right (sub_le_sub_right hb a) g0)
    (mul_lt_of_lt_one_right (sub_pos.2 ha) g1))

/-- `m − a ≤ (m − a)·g < (b − a)·g` -/
theorem lt_add_sub_mul {a b g m : Rat} (ha : m ≤ a) (hb : m < b) (g0 : 0 < g) (g1 : g ≤ 1) : m < a + (b - a) * g :=
  sub_lt_iff_lt_add'.1 (lt_of_le_of_lt (le_mul_of_le_one_right (sub_nonpos.2 ha) g1)
    (mul_lt_mul_of_pos_right (sub_lt_sub_right hb a) g0))

/-! ### the interpolation function -/

/-- value at virtual index `h`: by definition `quantileSorted s q = interp s ((k−1)·q)` for `k` values -/
def interp (s : List Rat) (h : Rat) : Rat :=
  s.getD h.floor.toNat 0 +
    (s.getD (min (h.floor.toNat + 1) (s.length - 1)) 0 - s.getD h.floor.toNat 0) * (h - (h.floor.toNat : Rat))

theorem interp_natCast (s : List Rat) (j : Nat) : interp s (j : Rat) = s.getD j 0 := by
  unfold interp
  rw [floor_toNat_eq (j : Rat) j (le_refl _) (lt_add_one _), sub_self, mul_zero, add_zero]

theorem interp_cell (s : List Rat) (j : Nat) (hj : j + 1 < s.length) (h : Rat) (h1 : (j : Rat) ≤ h)
    (h2 : h ≤ (j : Rat) + 1) :
    interp s h = s.getD j 0 + (s.getD (j + 1) 0 - s.getD j 0) * (h - (j : Rat)) := by
  rcases eq_or_lt_of_le h2 with rfl | hlt
  · rw [← Nat.cast_succ, interp_natCast, Nat.cast_succ, add_sub_cancel_left, mul_one, add_sub_cancel]
  · unfold interp
    rw [floor_toNat_eq h j h1 hlt, Nat.min_eq_left (Nat.le_sub_one_of_lt hj)]

theorem sorted_getD_le_next (s : List Rat) (hs : s.Pairwise (· ≤ ·)) (hne : s ≠ []) (j : Nat) (hj : j ≤ s.length - 1) :
    s.getD j 0 ≤ s.getD (min (j + 1) (s.length - 1)) 0 :=
  sorted_getD_le s hs _ _ (Nat.le_min.2 ⟨Nat.le_succ j, hj⟩) (lt_of_le_of_lt (Nat.min_le_right _ _) (length_sub_one_lt s hne))

/-- at virtual index `h ∈ [0, k-1]` the value lies between the two neighbouring order statistics -/
theorem interp_bounds (s : List Rat) (hs : s.Pairwise (· ≤ ·)) (hne : s ≠ []) (h : Rat) (h0 : 0 ≤ h)
    (hk : h ≤ ((s.length - 1 : Nat) : Rat)) :
    s.getD h.floor.toNat 0 ≤ interp s h ∧
    interp s h ≤ s.getD (min (h.floor.toNat + 1) (s.length - 1)) 0 := by
  obtain ⟨f1, f2⟩ := floor_toNat_bounds h h0
  exact add_sub_mul_bounds (sorted_getD_le_next s hs hne _ (floor_toNat_le h h0 _ hk)) (sub_nonneg.2 f1)
    (sub_left_lt_of_lt_add f2).le

theorem interp_mono (s : List Rat) (hs : s.Pairwise (· ≤ ·)) (hne : s ≠ []) (h1 h2 : Rat)
    (h0 : 0 ≤ h1) (h12 : h1 ≤ h2) (hk : h2 ≤ ((s.length - 1 : Nat) : Rat)) :
    interp s h1 ≤ interp s h2 := by
  have h02 : 0 ≤ h2 := le_trans h0 h12
  have hj2 : h2.floor.toNat ≤ s.length - 1 := floor_toNat_le h2 h02 _ hk
  rcases Nat.lt_or_eq_of_le (Int.toNat_le_toNat (Rat.floor_monotone h12)) with hlt | heq
  · -- different cells: interp h1 ≤ s[j1+1] ≤ s[j2] ≤ interp h2
    exact le_trans (interp_bounds s hs hne h1 h0 (le_trans h12 hk)).2
      (le_trans (sorted_getD_le s hs _ _ (le_trans (Nat.min_le_left _ _) hlt) (lt_of_le_of_lt hj2 (length_sub_one_lt s hne)))
        (interp_bounds s hs hne h2 h02 hk).1)
  · -- same cell: same end points, larger fraction
    unfold interp
    rw [heq]
    exact (add_le_add_iff_left _).2
      (mul_le_mul_of_nonneg_left (sub_le_sub_right h12 _) (sub_nonneg.2 (sorted_getD_le_next s hs hne _ hj2)))

/-! ### the quantile of an arbitrary non-empty list -/

theorem quantileLinear_eq (xs : List Rat) (q : Rat) :
    quantileLinear xs q = interp (sortR xs) (((xs.length - 1 : Nat) : Rat) * q) := by
  rw [← sortR_length xs]; rfl

theorem virtualIndex_bounds (k : Nat) (q : Rat) (q0 : 0 ≤ q) (q1 : q ≤ 1) :
    0 ≤ ((k - 1 : Nat) : Rat) * q ∧ ((k - 1 : Nat) : Rat) * q ≤ ((k - 1 : Nat) : Rat) :=
  ⟨mul_nonneg (Nat.cast_nonneg _) q0, mul_le_of_le_one_right (Nat.cast_nonneg _) q1⟩

theorem quantileLinear_mono (xs : List Rat) (hne : xs ≠ []) (q1 q2 : Rat) (h0 : 0 ≤ q1) (h12 : q1 ≤ q2)
    (h1 : q2 ≤ 1) : quantileLinear xs q1 ≤ quantileLinear xs q2 := by
  rw [quantileLinear_eq, quantileLinear_eq]
  apply interp_mono _ (sortR_sorted xs) (sortR_ne_nil xs hne)
  · exact (virtualIndex_bounds _ q1 h0 (le_trans h12 h1)).1
  · exact mul_le_mul_of_nonneg_left h12 (Nat.cast_nonneg _)
  · rw [sortR_length]; exact (virtualIndex_bounds _ q2 (le_trans h0 h12) h1).2

theorem quantileLinear_mem_bounds (xs : List Rat) (hne : xs ≠ []) (q : Rat) (q0 : 0 ≤ q) (q1 : q ≤ 1) :
    ∃ a ∈ xs, ∃ b ∈ xs, a ≤ quantileLinear xs q ∧ quantileLinear xs q ≤ b := by
  rw [quantileLinear_eq]
  have hne' := sortR_ne_nil xs hne
  obtain ⟨r0, r1⟩ := virtualIndex_bounds xs.length q q0 q1
  have hk : ((xs.length - 1 : Nat) : Rat) * q ≤ (((sortR xs).length - 1 : Nat) : Rat) := by
    rw [sortR_length]; exact r1
  obtain ⟨a, b⟩ := interp_bounds _ (sortR_sorted xs) hne' _ r0 hk
  have mem : ∀ i, i ≤ (sortR xs).length - 1 → (sortR xs).getD i 0 ∈ xs := fun i hi => by
    have hi' := lt_of_le_of_lt hi (length_sub_one_lt _ hne')
    rw [getD_eq_getElem _ i hi']; exact (mem_sortR _ _).mp (List.getElem_mem hi')
  exact ⟨_, mem _ (floor_toNat_le _ r0 _ hk), _, mem _ (Nat.min_le_right _ _), a, b⟩

theorem quantileLinear_between (xs : List Rat) (hne : xs ≠ []) (q : Rat) (q0 : 0 ≤ q) (q1 : q ≤ 1)
    (lo hi : Rat) (hb : ∀ x ∈ xs, lo ≤ x ∧ x ≤ hi) :
    lo ≤ quantileLinear xs q ∧ quantileLinear xs q ≤ hi := by
  obtain ⟨a, ha, b, hb', h1, h2⟩ := quantileLinear_mem_bounds xs hne q q0 q1
  exact ⟨le_trans (hb a ha).1 h1, le_trans h2 (hb b hb').2⟩

theorem quantileLinear_const (xs : List Rat) (hne : xs ≠ []) (c : Rat) (hc : ∀ x ∈ xs, x = c)
    (q : Rat) (q0 : 0 ≤ q) (q1 : q ≤ 1) : quantileLinear xs q = c := by
  have := quantileLinear_between xs hne q q0 q1 c c (fun x hx => by rw [hc x hx]; exact ⟨le_refl _, le_refl _⟩)
  exact le_antisymm this.2 this.1

/-! ### positive width for a non-constant sample list -/

theorem interp_first_cell_lt_last_cell (s : List Rat) (hs : s.Pairwise (· ≤ ·)) (k : Nat) (hk : s.length = k + 2)
    (hmM : s.getD 0 0 < s.getD (k + 1) 0) (h1 h2 : Rat) (h10 : 0 ≤ h1) (h11 : h1 < 1) (h12 : h1 < h2)
    (hlo : (k : Rat) < h2) (hhi : h2 ≤ (k : Rat) + 1) : interp s h1 < interp s h2 := by
  have h1k : 0 + 1 < s.length := hk ▸ Nat.succ_lt_succ (Nat.succ_pos k)
  have hkk : k + 1 < s.length := hk ▸ Nat.lt_succ_self (k + 1)
  have e1 := interp_cell s 0 h1k h1 (Nat.cast_zero (R := ℚ) ▸ h10) (by rw [Nat.cast_zero, zero_add]; exact h11.le)
  rw [e1, interp_cell s k hkk h2 hlo.le hhi, Nat.cast_zero, sub_zero]
  rcases Nat.eq_zero_or_pos k with rfl | hkpos
  · -- both in the one cell: same end points, larger fraction
    rw [Nat.cast_zero, sub_zero]
    exact (add_lt_add_iff_left _).2 (mul_lt_mul_of_pos_left h12 (sub_pos.2 hmM))
  · -- first and last cell: s[0] < value₂ and s[1] ≤ s[k] ≤ value₂
    have s0k := sorted_getD_le s hs 0 k (Nat.zero_le k) (Nat.lt_of_succ_lt hkk)
    have s1k := sorted_getD_le s hs 1 k hkpos (Nat.lt_of_succ_lt hkk)
    have skk := sorted_getD_le s hs k (k + 1) (Nat.le_succ k) hkk
    have g2 : h2 - (k : Rat) ≤ 1 := sub_le_iff_le_add'.2 hhi
    exact add_sub_mul_lt (lt_add_sub_mul s0k hmM (sub_pos.2 hlo) g2)
      (le_trans s1k (add_sub_mul_bounds skk (sub_pos.2 hlo).le g2).1) h10 h11

/-! ### the extreme quantiles are the minimum and the maximum -/

theorem quantileLinear_zero_le (xs : List Rat) (x : Rat) (hx : x ∈ xs) : quantileLinear xs 0 ≤ x := by
  rw [quantileLinear_eq, mul_zero, ← Nat.cast_zero, interp_natCast]
  exact sorted_getD_zero_le _ (sortR_sorted xs) x ((mem_sortR x xs).mpr hx)

theorem le_quantileLinear_one (xs : List Rat) (x : Rat) (hx : x ∈ xs) : x ≤ quantileLinear xs 1 := by
  rw [quantileLinear_eq, mul_one, interp_natCast, ← sortR_length xs]
  exact sorted_le_getD_last _ (sortR_sorted xs) x ((mem_sortR x xs).mpr hx)

/-! ### the resampling mean lies between the bounds of the list, strictly so if one member does -/

theorem cast_length_pos (xs : List Rat) (hne : xs ≠ []) : (0 : Rat) < xs.length :=
  Nat.cast_pos.2 (List.length_pos_iff.2 hne)

theorem le_mean (xs : List Rat) (hne : xs ≠ []) (lo : Rat) (h : ∀ x ∈ xs, lo ≤ x) : lo ≤ mean xs := by
  have := List.card_nsmul_le_sum xs lo h
  rw [nsmul_eq_mul, mul_comm] at this
  rwa [mean, le_div_iff₀ (cast_length_pos xs hne)]

theorem mean_le (xs : List Rat) (hne : xs ≠ []) (hi : Rat) (h : ∀ x ∈ xs, x ≤ hi) : mean xs ≤ hi := by
  have := List.sum_le_card_nsmul xs hi h
  rw [nsmul_eq_mul, mul_comm] at this
  rwa [mean, div_le_iff₀ (cast_length_pos xs hne)]

theorem lt_mean (xs : List Rat) (lo : Rat) (h : ∀ x ∈ xs, lo ≤ x) (a : Rat) (ha : a ∈ xs) (hla : lo < a) :
    lo < mean xs := by
  have := List.sum_lt_sum (fun _ => lo) id h ⟨a, ha, hla⟩
  rw [List.map_id, List.map_const', List.sum_replicate, nsmul_eq_mul, mul_comm] at this
  rwa [mean, lt_div_iff₀ (cast_length_pos xs (List.ne_nil_of_mem ha))]

theorem mean_lt (xs : List Rat) (hi : Rat) (h : ∀ x ∈ xs, x ≤ hi) (b : Rat) (hb : b ∈ xs) (hbh : b < hi) :
    mean xs < hi := by
  have := List.sum_lt_sum id (fun _ => hi) h ⟨b, hb, hbh⟩
  rw [List.map_id, List.map_const', List.sum_replicate, nsmul_eq_mul, mul_comm] at this
  rwa [mean, div_lt_iff₀ (cast_length_pos xs (List.ne_nil_of_mem hb))]

/-! ### `mapM` on `Option` -/

theorem mapM_some_get {α β} (f : α → Option β) (l : List α) (l' : List β) (h : l.mapM f = some l') :
    l'.length = l.length ∧ ∀ (i : Nat) (hi : i < l.length) (hi' : i < l'.length), f l[i] = some l'[i] := by
  induction l generalizing l' with
  | nil => cases h; exact ⟨rfl, fun i hi => absurd hi (Nat.not_lt_zero i)⟩
  | cons a t ih =>
    rw [List.mapM_cons] at h
    obtain ⟨b, hb, h⟩ := Option.bind_eq_some_iff.mp h
    obtain ⟨t', ht, h⟩ := Option.bind_eq_some_iff.mp h
    cases h
    obtain ⟨hl, hg⟩ := ih t' ht
    refine ⟨congrArg (· + 1) hl, fun i hi hi' => ?_⟩
    cases i with
    | zero => exact hb
    | succ n => exact hg n (Nat.lt_of_succ_lt_succ hi) (Nat.lt_of_succ_lt_succ hi')

theorem mapM_some_mem {α β} (f : α → Option β) (l : List α) (l' : List β) (h : l.mapM f = some l')
    (b : β) (hb : b ∈ l') : ∃ a ∈ l, f a = some b := by
  obtain ⟨hl, hg⟩ := mapM_some_get f l l' h
  obtain ⟨i, hi, rfl⟩ := List.getElem_of_mem hb
  exact ⟨l[i]'(hl ▸ hi), List.getElem_mem _, hg i (hl ▸ hi) hi⟩

theorem mapM_some_of_mem {α β} (f : α → Option β) (l : List α) (l' : List β) (h : l.mapM f = some l')
    (a : α) (ha : a ∈ l) : ∃ b ∈ l', f a = some b := by
  obtain ⟨hl, hg⟩ := mapM_some_get f l l' h
  obtain ⟨i, hi, rfl⟩ := List.getElem_of_mem ha
  exact ⟨l'[i]'(hl ▸ hi), List.getElem_mem _, hg i hi (hl ▸ hi)⟩

/-! ### quantiles of extended values -/

theorem finOnly_map_fin (l : List Rat) : finOnly (l.map .fin) = some l := by
  induction l with
  | nil => rfl
  | cons a t ih => simp only [List.map_cons, finOnly, ih, Option.map_some]

theorem finOnly_eq_some (xs : List XR) (l : List Rat) (h : finOnly xs = some l) : xs = l.map .fin := by
  induction xs generalizing l with
  | nil => cases h; rfl
  | cons x rest ih =>
    cases x with
    | fin q =>
      obtain ⟨r, hr, rfl⟩ := Option.map_eq_some_iff.mp h
      rw [List.map_cons, ← ih r hr]
    | _ => cases h

theorem finOnly_mem : ∀ (xs : List XR) (l : List Rat), finOnly xs = some l → ∀ x ∈ l, XR.fin x ∈ xs := by
  intro xs l h x hx
  rw [finOnly_eq_some xs l h]
  exact List.mem_map_of_mem hx

/-- the common last step of `quantileProp` and `quantileSkip`: the linear quantile of the finite values of a
    non-empty column -/
theorem finQuantile_mono (ys : List XR) (hne : ys ≠ []) (q1 q2 : Rat) (h0 : 0 ≤ q1) (h12 : q1 ≤ q2) (h1 : q2 ≤ 1)
    (v1 v2 : XR) (e1 : (finOnly ys).map (fun l => XR.fin (quantileLinear l q1)) = some v1)
    (e2 : (finOnly ys).map (fun l => XR.fin (quantileLinear l q2)) = some v2) : XRle v1 v2 := by
  obtain ⟨l, hf, rfl⟩ := Option.map_eq_some_iff.mp e1
  rw [hf] at e2
  cases e2
  have hl : l ≠ [] := fun e => hne (by rw [finOnly_eq_some ys l hf, e]; rfl)
  exact Or.inr ⟨_, _, rfl, rfl, quantileLinear_mono l hl q1 q2 h0 h12 h1⟩

theorem quantileXR_mono (skip : Bool) (xs : List XR) (q1 q2 : Rat) (h0 : 0 ≤ q1) (h12 : q1 ≤ q2) (h1 : q2 ≤ 1)
    (v1 v2 : XR) (e1 : quantileXR skip xs q1 = some v1) (e2 : quantileXR skip xs q2 = some v2) : XRle v1 v2 := by
  -- on either path the guards do not look at `q`: both answers are NaN, or both come from `finQuantile_mono`
  cases skip
  · simp only [quantileXR, Bool.false_eq_true, if_false, quantileProp] at e1 e2
    by_cases hE : xs.isEmpty = true
    · rw [if_pos hE] at e1; cases e1
    · rw [if_neg hE] at e1 e2
      by_cases hN : xs.any isNaN = true
      · rw [if_pos hN] at e1 e2; cases e1; cases e2; exact Or.inl ⟨rfl, rfl⟩
      · rw [if_neg hN] at e1 e2
        exact finQuantile_mono xs (fun e => hE (by rw [e]; rfl)) q1 q2 h0 h12 h1 v1 v2 e1 e2
  · simp only [quantileXR, if_true, quantileSkip] at e1 e2
    by_cases hE : (xs.filter (fun x => !isNaN x)).isEmpty = true
    · rw [if_pos hE] at e1 e2; cases e1; cases e2; exact Or.inl ⟨rfl, rfl⟩
    · rw [if_neg hE] at e1 e2
      exact finQuantile_mono _ (fun e => hE (by rw [e]; rfl)) q1 q2 h0 h12 h1 v1 v2 e1 e2

theorem ciOf_ordered (skip : Bool) (samples : List XR) (qs : List Rat) (hq : ∀ q ∈ qs, 0 ≤ q ∧ q ≤ 1)
    (l : List XR) (h : ciOf skip samples qs = some l) : Ordered qs l := by
  obtain ⟨hl, hg⟩ := mapM_some_get _ qs l h
  refine ⟨hl, ?_⟩
  intro i j hi hj hi' hj' hij
  exact quantileXR_mono skip samples qs[i] qs[j] (hq _ (List.getElem_mem _)).1 hij
    (hq _ (List.getElem_mem _)).2 _ _ (hg i hi hi') (hg j hj hj')

/-- all samples equal to one finite value: every quantile is that value -/
theorem quantileXR_const (skip : Bool) (xs : List XR) (hne : xs ≠ []) (c : Rat) (hc : ∀ x ∈ xs, x = .fin c)
    (q : Rat) (q0 : 0 ≤ q) (q1 : q ≤ 1) : quantileXR skip xs q = some (.fin c) := by
  obtain ⟨l, rfl, hl⟩ : ∃ l : List Rat, xs = l.map .fin ∧ ∀ y ∈ l, y = c :=
    ⟨List.replicate xs.length c, by rw [List.map_replicate]; exact List.eq_replicate_iff.2 ⟨rfl, hc⟩,
      fun _ => List.eq_of_mem_replicate⟩
  have hl0 : l ≠ [] := fun e => hne (by rw [e]; rfl)
  have hnan : (l.map XR.fin).any isNaN = false := by
    rw [List.any_map]; exact List.any_eq_false.2 (fun _ _ => Bool.false_ne_true)
  have hfilt : (l.map XR.fin).filter (fun x => !isNaN x) = l.map XR.fin :=
    List.filter_eq_self.2 (fun x hx => by obtain ⟨y, _, rfl⟩ := List.mem_map.1 hx; rfl)
  have hE : (l.map XR.fin).isEmpty = false := by
    rw [List.isEmpty_eq_false_iff]; exact fun e => hl0 (List.map_eq_nil_iff.1 e)
  cases skip <;>
    simp only [quantileXR, quantileSkip, quantileProp, hfilt, hE, hnan, finOnly_map_fin,
      quantileLinear_const l hl0 c hl q q0 q1, Option.map_some, Bool.false_eq_true, if_false, if_true]

/-! ### resamples -/

theorem ne_nil_of_length_eq {n : Nat} (hn : 0 < n) {idx : List Nat} (h : idx.length = n) : idx ≠ [] :=
  fun e => Nat.ne_of_gt hn (by rw [← h, e]; rfl)

theorem pick_length (rows : List WRow) (idx : List Nat) (rs : List WRow) (h : pick rows idx = some rs) :
    rs.length = idx.length := (mapM_some_get _ idx rs h).1

theorem pick_subset (rows : List WRow) (idx : List Nat) (rs : List WRow) (h : pick rows idx = some rs) :
    ∀ r ∈ rs, r ∈ rows := by
  intro r hr
  obtain ⟨i, _, hi⟩ := mapM_some_mem _ idx rs h r hr
  exact List.mem_of_getElem? hi

theorem frameOf_fields (m : BMetric) (rs : List WRow) (f : Frame) (h : frameOf m rs = .ok f) :
    f.keys = keys rs ∧ evalB m rs = .ok f.overall := by
  unfold frameOf at h
  split at h
  · cases h
  · next ov hov =>
    split at h
    · cases h
    · next vals hv =>
      cases h
      exact ⟨rfl, hov⟩

/-- a resample that contributes a frame is non-empty, and the frame is that of the picked rows -/
theorem sampleFrame_some (m : BMetric) (rows : List WRow) (idx : List Nat) (f : Frame)
    (h : sampleFrame m rows idx = some (some f)) :
    ∃ rs, pick rows idx = some rs ∧ rs ≠ [] ∧ frameOf m rs = .ok f := by
  unfold sampleFrame at h
  split at h
  · cases h
  · cases h
  · next rs hne hp =>
    split at h
    · cases h
    · next f' hf =>
      cases h
      exact ⟨_, hp, by intro e; exact hne e, hf⟩

theorem sampleFrame_none (m : BMetric) (rows : List WRow) (idx : List Nat)
    (h : sampleFrame m rows idx = some none) : idx = [] := by
  unfold sampleFrame at h
  split at h
  · cases h
  · next hp =>
    have := pick_length rows idx [] hp
    exact List.length_eq_zero_iff.mp this.symm
  · split at h <;> cases h

/-! ### the CI record -/

theorem ci_fields (skip : Bool) (m : BMetric) (rows : List WRow) (idxs : List (List Nat)) (qs : List Rat)
    (c : CI) (h : ci skip m rows idxs qs = some c) :
    ∃ samples, samplesOf m rows idxs = some samples ∧ c.keys = ciKeys samples ∧
      ciOf skip (column fOverall samples) qs = some c.overall ∧
      byGroupCI samples qs = some c.byGroup ∧
      ciOf skip (column fMin samples) qs = some c.gmin ∧
      ciOf skip (column fMax samples) qs = some c.gmax ∧
      ciOf skip (column fDiffB samples) qs = some c.diffBetween ∧
      ciOf skip (column fDiffO samples) qs = some c.diffOverall ∧
      ciOf skip (column Frame.ratioBetween samples) qs = some c.ratioBetween ∧
      ciOf skip (column Frame.ratioOverall samples) qs = some c.ratioOverall := by
  unfold ci at h
  split at h
  · cases h
  · next samples hs =>
    split at h
    · next ov bg mn mx db dO rb ro e1 e2 e3 e4 e5 e6 e7 e8 =>
      cases h
      exact ⟨samples, hs, rfl, e1, e2, e3, e4, e5, e6, e7, e8⟩
    · cases h

/-! ### group keys and the index of `by_group_ci` -/

theorem mem_keys {key : Int} {rows : List WRow} : key ∈ keys rows ↔ ∃ r ∈ rows, r.g = key := by
  rw [keys, mem_uniqueSorted, List.mem_map]

theorem mem_ciKeys {key : Int} {samples : List (Option Frame)} :
    key ∈ ciKeys samples ↔ ∃ f, some f ∈ samples ∧ key ∈ f.keys := by
  rw [ciKeys, mem_uniqueSorted, List.mem_flatMap]
  constructor
  · rintro ⟨s, hs, hk⟩
    cases s with
    | none => cases hk
    | some f => exact ⟨f, hs, hk⟩
  · rintro ⟨f, hf, hk⟩; exact ⟨some f, hf, hk⟩

/-! ### control features: the per-level computation is the resampled frame filtered by level -/

theorem levelRows_cons (L : Nat) (a : TRow) (t : List TRow) :
    levelRows L (a :: t) = if a.1 = L then a.2 :: levelRows L t else levelRows L t := by
  simp only [levelRows, List.filter_cons, beq_iff_eq]
  split <;> rfl

theorem levelRows_rank (L : Nat) (tr : List TRow) (i : Nat) (p : TRow) (h : tr[i]? = some p) (hp : p.1 = L) :
    (levelRows L tr)[rank L tr i]? = some p.2 := by
  induction tr generalizing i with
  | nil => cases h
  | cons a t ih =>
    cases i with
    | zero =>
      cases h
      rw [levelRows_cons, if_pos hp]; rfl
    | succ i =>
      rw [levelRows_cons, rank, List.take_succ_cons, List.filter_cons]
      by_cases ha : a.1 = L <;> simp only [ha, beq_self_eq_true, beq_iff_eq, ↓reduceIte] <;> exact ih i h

theorem restrict_cons (L : Nat) (tr : List TRow) (i : Nat) (rest : List Nat) (p : TRow) (hp : tr[i]? = some p) :
    restrict L tr (i :: rest) = if p.1 = L then rank L tr i :: restrict L tr rest else restrict L tr rest := by
  simp only [restrict, List.filter_cons, hp, Option.map_some, Option.getD_some, beq_iff_eq]
  split <;> rfl

/-- `restrict` reads the data only through the control tags -/
theorem restrict_eq_tags (L : Nat) (tr : List TRow) (idx : List Nat) :
    restrict L tr idx = (idx.filter (fun i => (((tr.map (·.1))[i]?).map (· == L)).getD false)).map
      (fun i => (((tr.map (·.1)).take i).filter (· == L)).length) := by
  unfold restrict
  simp only [List.getElem?_map, Option.map_map]
  congr 1
  funext i
  rw [rank, ← List.map_take, List.filter_map, List.length_map]; rfl

end Bootstrap
