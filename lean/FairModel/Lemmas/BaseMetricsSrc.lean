/-
The generated translation of `_base_metrics.py` (`Generated/BaseMetricsSrc.lean`) equals the
hand-written model (`Model/BaseMetrics.lean`): `*_eq_model`.  These proofs are re-checked against the
regenerated file on every run; a source edit that changes what the functions compute breaks them.
All statements are over the COLUMNS of an arbitrary row list, so they need no length hypotheses.
-/
import FairModel.Lemmas.BaseMetrics
import FairModel.Model.BaseMetricsSrc

-- the simp sets below are deliberately generous so that the proofs survive harmless source refactors
set_option linter.unusedSimpArgs false

namespace BaseMetricsGen
open BaseMetrics NumpySk

/-- `sample_weight=None`: the rows with unit weights -/
def unitW (rows : List Row) : List Row := rows.map (fun r => { r with w := 1 })
def unitP (rows : List PRow) : List PRow := rows.map (fun r => { r with w := 1 })

/-! ### `Except` do-notation -/
theorem throw_eq {α ε : Type} (e : ε) : (throw e : Except ε α) = Except.error e := rfl
theorem throwOf_eq {α ε : Type} (e : ε) : (MonadExceptOf.throw e : Except ε α) = Except.error e := rfl
theorem pure_eq {α ε : Type} (a : α) : (pure a : Except ε α) = Except.ok a := rfl
theorem bind_ok {α β ε : Type} (a : α) (f : α → Except ε β) : (Except.ok a >>= f) = f a := rfl
theorem bind_err {α β ε : Type} (e : ε) (f : α → Except ε β) : (Except.error e >>= f) = Except.error e := rfl

/-! ### `_get_labels_for_confusion_matrix` -/

/-- `pos_label=None` in the translated function: after the check of the label set it is `pos_label=1` -/
theorem labels_none (labels : List Int) :
    BaseMetricsSrc.get_labels_for_confusion_matrix labels none =
      if (uniqueSorted labels).all (fun x => x = 0 || x = 1) || (uniqueSorted labels).all (fun x => x = -1 || x = 1)
      then BaseMetricsSrc.get_labels_for_confusion_matrix labels (some 1) else .error .restricted := by
  have e : ∀ a b : Int, issuperset [a, b] (uniqueSorted labels) =
      (uniqueSorted labels).all (fun x => x = a || x = b) := fun a b => by simp [issuperset]
  rw [← e, ← e]
  unfold BaseMetricsSrc.get_labels_for_confusion_matrix
  dsimp only
  cases (issuperset [0, 1] (uniqueSorted labels) || issuperset [-1, 1] (uniqueSorted labels)) <;> rfl

theorem labels_eq_model (labels : List Int) (p : Option Int) :
    BaseMetricsSrc.get_labels_for_confusion_matrix labels p =
      (labelsForCM labels p).map (fun np => [np.1, np.2]) := by
  have hsome : ∀ q : Int, BaseMetricsSrc.get_labels_for_confusion_matrix labels (some q) =
      (labelsForCM labels (some q)).map (fun np => [np.1, np.2]) := by
    intro q
    rw [labelsForCM_some]
    unfold BaseMetricsSrc.get_labels_for_confusion_matrix
    generalize uniqueSorted labels = u
    rcases u with _ | ⟨a, _ | ⟨b, _ | ⟨c, t⟩⟩⟩
    · rfl
    · simp [throw_eq, throwOf_eq, pure_eq, bind_ok, bind_err]; split_ifs <;> rfl
    · simp [throw_eq, throwOf_eq, pure_eq, bind_ok, bind_err]; split_ifs <;> rfl
    · rfl
  cases p with
  | some q => exact hsome q
  | none =>
    rw [labels_none, labelsForCM_none, hsome]
    split_ifs <;> rfl

/-! ### numpy / sklearn primitives on the columns of a row list -/

theorem cmCount_rows (rows : List Row) (a b : Int) :
    cmCount (rows.map (·.yt)) (rows.map (·.yp)) (rows.map (·.w)) a b = cell rows a b := by
  simp only [cmCount, cell, wsum, List.zip_map', List.filter_map, List.map_map]; rfl

theorem cm_true_ravel (rows : List Row) (neg pos : Int) :
    ravel (confusionMatrix (rows.map (·.yt)) (rows.map (·.yp)) (some (rows.map (·.w))) [neg, pos] .true_) =
      [tnrOf rows neg pos, fprOf rows neg pos, fnrOf rows neg pos, tprOf rows neg pos] := by
  simp [confusionMatrix, ravel, cmCount_rows, tnrOf, fprOf, fnrOf, tprOf, rowTot]

theorem vstack_rows (rows : List Row) :
    vstack [rows.map (·.yt), rows.map (·.yp)] = allLabels rows := by
  simp [vstack, allLabels]

/-- the four generated rate functions, on the columns of any row list, are the model's `rate` -/
theorem rate_eq_model (k : Kind) (rows : List Row) (p : Option Int) :
    rate k (rows.map (·.yt)) (rows.map (·.yp)) (some (rows.map (·.w))) p = BaseMetrics.rate k rows p := by
  cases k <;>
    simp only [rate, BaseMetricsSrc.true_positive_rate, BaseMetricsSrc.false_negative_rate,
      BaseMetricsSrc.false_positive_rate, BaseMetricsSrc.true_negative_rate, BaseMetrics.rate,
      vstack_rows, labels_eq_model] <;>
    cases labelsForCM (allLabels rows) p <;>
    simp only [Except.map, bind_ok, bind_err, pure_eq, cm_true_ravel, rateOf, List.getD_cons_succ,
      List.getD_cons_zero]

theorem unitW_cols (rows : List Row) :
    (unitW rows).map (·.yt) = rows.map (·.yt) ∧ (unitW rows).map (·.yp) = rows.map (·.yp) ∧
    (unitW rows).map (·.w) = ones (rows.map (·.yt)).length := by
  refine ⟨?_, ?_, ?_⟩ <;> simp [unitW, ones, Function.comp_def]

theorem rate_none_eq_ones (k : Kind) (yt yp : List Int) (p : Option Int) :
    rate k yt yp none p = rate k yt yp (some (ones yt.length)) p := by
  cases k <;> rfl

/-- `sample_weight=None`: the model's `rate` on the rows with unit weights -/
theorem rate_none_eq_model (k : Kind) (rows : List Row) (p : Option Int) :
    rate k (rows.map (·.yt)) (rows.map (·.yp)) none p = BaseMetrics.rate k (unitW rows) p := by
  rw [rate_none_eq_ones, ← rate_eq_model]
  obtain ⟨h1, h2, h3⟩ := unitW_cols rows
  rw [h1, h2, h3]

theorem dot_eqInd_rows (rows : List Row) (pos : Int) :
    dot (eqInd (rows.map (·.yp)) pos) (rows.map (·.w)) = wsum (fun r => r.yp == pos) rows := by
  induction rows with
  | nil => rfl
  | cons r rs ih =>
    rw [wsum_cons, ← ih]
    simp only [dot, eqInd, List.map_cons, List.zip_cons_cons, List.sum_cons, ite_mul, one_mul, zero_mul]

theorem selection_rate_eq_model (rows : List Row) (pos : Int) :
    BaseMetricsSrc.selection_rate (rows.map (·.yt)) (rows.map (·.yp)) pos (some (rows.map (·.w))) =
      selectionRate rows pos := by
  rw [selectionRate, ← dot_eqInd_rows]
  cases rows <;> rfl

theorem selection_rate_none_eq_model (rows : List Row) (pos : Int) :
    BaseMetricsSrc.selection_rate (rows.map (·.yt)) (rows.map (·.yp)) pos none =
      selectionRate (unitW rows) pos := by
  rw [← selection_rate_eq_model]
  obtain ⟨h1, h2, h3⟩ := unitW_cols rows
  rw [h1, h2, h3]
  simp [BaseMetricsSrc.selection_rate, eqInd]

theorem dot_prows (rows : List PRow) :
    dot (rows.map (·.pred)) (rows.map (·.w)) = (rows.map (fun r => r.pred * r.w)).sum := by
  simp only [dot, List.zip_map', List.map_map]; rfl

theorem mean_prediction_eq_model (yt : List Rat) (rows : List PRow) :
    BaseMetricsSrc.mean_prediction yt (rows.map (·.pred)) (some (rows.map (·.w))) =
      .ok (meanPrediction rows) := by
  simp only [BaseMetricsSrc.mean_prediction, meanPrediction, pure_eq, vsum, Option.isSome_some, if_true,
    Option.getD_some, bind_ok, dot_prows]

theorem mean_prediction_none_eq_model (yt : List Rat) (rows : List PRow) :
    BaseMetricsSrc.mean_prediction yt (rows.map (·.pred)) none = .ok (meanPrediction (unitP rows)) := by
  rw [← mean_prediction_eq_model yt]
  have h1 : (unitP rows).map (·.pred) = rows.map (·.pred) := by simp [unitP, Function.comp_def]
  have h2 : (unitP rows).map (·.w) = ones (rows.map (·.pred)).length := by simp [unitP, ones, Function.comp_def]
  rw [h1, h2]
  simp [BaseMetricsSrc.mean_prediction]

theorem count_eq_model (rows : List Row) :
    BaseMetricsSrc.count (rows.map (·.yt)) (rows.map (·.yp)) = .ok (BaseMetrics.count rows) := by
  simp [BaseMetricsSrc.count, BaseMetrics.count, pure_eq]

theorem unitW_replicate (rows : List (Row × Nat)) : unitW (replicate rows) = replicate rows := by
  unfold unitW replicate
  rw [List.map_flatMap]
  apply List.flatMap_congr
  intro p _
  simp [List.map_replicate]

theorem unitP_replicateP (rows : List (PRow × Nat)) : unitP (replicateP rows) = replicateP rows := by
  unfold unitP replicateP
  rw [List.map_flatMap]
  apply List.flatMap_congr
  intro p _
  simp [List.map_replicate]

end BaseMetricsGen
