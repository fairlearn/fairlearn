/-
The Grid model's combined sample weights and `dot`, tied to the Lagrangian of `Lemmas/Oracle.lean` (C07):
`combineWeights false` is C07's total signed weight vector, a 0/1 labeling is `Moments.Hard`, and on such a labeling
the real `objective + λ·γ` is affine in `Σ wᵢhᵢ` (`lagr_affine`), so the best-response clause of C09 is about the
REAL Lagrangian instead of an abstract affine `F`.
-/
import FairModel.Lemmas.GridMore
import FairModel.Lemmas.Oracle

namespace Grid

/-- `weights = constraints.signed_weights(λ) + objective.signed_weights()` (objective NOT in the span) is the total
    signed weight vector of C07 -/
theorem combineWeights_false : ∀ (w ow : List Rat), combineWeights false w ow = Moments.vadd ow w
  | [], ow => by cases ow <;> simp [combineWeights, Moments.vadd]
  | _ :: _, [] => by simp [combineWeights, Moments.vadd]
  | x :: w, y :: ow => by
    have ih := combineWeights_false w ow
    simp only [combineWeights, Moments.vadd, List.zipWith_cons_cons, List.cons.injEq] at ih ⊢
    exact ⟨by simp [GridSrc.combine, add_comm], ih⟩

theorem combineWeights_totalW (ev : Moments.Ev) (rows : List Moments.Row) (ratio : Rat) (ut : Moments.Util)
    (fp fn : Rat) (lam : List Rat) :
    combineWeights false (Moments.signedWeights ev rows ratio ut lam)
        (Moments.errWeights fp fn (Moments.labelsOf rows) none)
      = Oracle.totalW ev rows ratio ut fp fn lam := by
  rw [combineWeights_false]; rfl

theorem toRat_hard (p : List Nat) (hp : ∀ x ∈ p, x = 0 ∨ x = 1) : Moments.Hard (toRat p) := by
  induction p with
  | nil => intro x hx; simp at hx
  | cons a p ih =>
    intro x hx
    rw [toRat_cons] at hx
    rcases List.mem_cons.mp hx with rfl | hx'
    · rcases hp a (by simp) with rfl | rfl <;> simp
    · exact ih (fun y hy => hp y (by simp [hy])) x hx'

/-- for a HARD labeling of the right length the real `objective + λ·γ` is affine in `Σ wᵢhᵢ` with slope `−1/n`,
    `w` = the combined signed weights GridSearch relabels from (C07's `dot_totalW`) -/
theorem lagr_affine (ev : Moments.Ev) (rows : List Moments.Row) (ratio : Rat) (ut : Moments.Util) (fp fn : Rat)
    (lam : List Rat) (h : List Nat) (hne : rows ≠ []) (hl : h.length = rows.length)
    (hy : Moments.Hard (Moments.labelsOf rows)) (hh : ∀ x ∈ h, x = 0 ∨ x = 1) :
    Oracle.lagr ev rows ratio ut fp fn lam (toRat h)
      = Oracle.lagr ev rows ratio ut fp fn lam (List.replicate rows.length 0)
        - (1 / (rows.length : Rat)) * Grid.dot (Oracle.totalW ev rows ratio ut fp fn lam) (toRat h) := by
  have hn : (rows.length : Rat) ≠ 0 := by
    have := List.length_pos_of_ne_nil hne
    exact_mod_cast this.ne'
  have := Oracle.dot_totalW ev rows ratio ut fp fn lam (toRat h) hne (by simp [toRat, hl]) hy
    (toRat_hard h hh).soft
  rw [show Grid.dot _ _ = Moments.dot _ _ from rfl, this]
  field_simp
  ring

end Grid
