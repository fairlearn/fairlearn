/-
The threshold sweep of `_calculate_tradeoff_points` (model: `sweepSteps`, `rawPoints`): every emitted point carries
exactly the confusion counts of its own `ThresholdOperation` on the group's rows (ties included).
-/
import FairModel.Lemmas.ListInd
import FairModel.Lemmas.ThresholdSrc

namespace Threshold
open ThresholdGen

@[simp] theorem sumBy_nil (f : Row → Rat) : sumBy f [] = 0 := rfl

@[simp] theorem sumBy_cons (f : Row → Rat) (r : Row) (rs : List Row) :
    sumBy f (r :: rs) = f r + sumBy f rs := by simp [sumBy]

theorem sumBy_congr {f g : Row → Rat} {rows : List Row} (h : ∀ r ∈ rows, f r = g r) :
    sumBy f rows = sumBy g rows := by
  induction rows with
  | nil => rfl
  | cons r rs ih =>
    rw [sumBy_cons, sumBy_cons, h r (by simp), ih (fun x hx => h x (by simp [hx]))]

theorem sumBy_lin (a b : Rat) (F G : Row → Rat) (rows : List Row) :
    sumBy (fun r => a * F r + b * G r) rows = a * sumBy F rows + b * sumBy G rows := by
  induction rows with
  | nil => simp
  | cons r rs ih => simp only [sumBy_cons, ih]; ring

theorem sumBy_ind (p : Row → Bool) (rows : List Row) :
    sumBy (fun r => if p r then 1 else 0) rows = (rows.countP p : Rat) := by
  induction rows with
  | nil => simp
  | cons r rs ih =>
    rw [sumBy_cons, ih, List.countP_cons]
    by_cases h : p r <;> simp [h]; ring

theorem sumBy_const (p : Row → Bool) (c : Rat) (rows : List Row) :
    sumBy (fun r => if p r then c else 0) rows = c * (rows.countP p : Rat) := by
  rw [← sumBy_ind, sumBy, sumBy, ← List.sum_map_mul_left]
  exact sumBy_congr fun r _ => by split <;> simp

theorem insertDesc_eq_orderedInsert (r : Row) (l : List Row) :
    insertDesc r l = l.orderedInsert (fun a b => scoreBefore b a) r := by
  induction l with
  | nil => rfl
  | cons y ys ih => unfold insertDesc; rw [List.orderedInsert_cons, ih]

theorem sortDesc_eq_insertionSort (rows : List Row) :
    sortDesc rows = rows.insertionSort (fun a b => scoreBefore b a) :=
  congrArg (List.foldr · [] rows) (funext₂ insertDesc_eq_orderedInsert)

theorem sortDesc_perm (rows : List Row) : (sortDesc rows).Perm rows :=
  sortDesc_eq_insertionSort rows ▸ List.perm_insertionSort _ rows

def DescSorted (l : List Row) : Prop := l.Pairwise (fun a b => b.score ≤ a.score)

theorem sortDesc_sorted (rows : List Row) : DescSorted (sortDesc rows) :=
  sortDesc_eq_insertionSort rows ▸ List.pairwise_insertionSort_of (fun a b h => ((src_scoreBefore b a).mp h).le)
    (fun a b h => not_lt.mp (mt (src_scoreBefore b a).mpr h)) (fun _ _ _ h h' => h'.trans h) rows

/-- what a sweep step `(thr, c0, c1)` must say about the full row list `L` -/
def StepSound (L : List Row) (s : Thr × Nat × Nat) : Prop :=
  s.2.1 = L.countP (fun r => !r.label && s.1.below r.score) ∧
  s.2.2 = L.countP (fun r => r.label && s.1.below r.score) ∧
  ∀ r ∈ L, s.1.above r.score = !s.1.below r.score

theorem countP_eq_of_forall {p q : Row → Bool} {l : List Row} (h : ∀ r ∈ l, p r = q r) :
    l.countP p = l.countP q := by
  induction l with
  | nil => rfl
  | cons r rs ih =>
    simp only [List.countP_cons, h r List.mem_cons_self, ih (fun x hx => h x (List.mem_cons_of_mem _ hx))]

/-- a threshold that separates the rows into a front part (all above it) and a back part (all below it) counts exactly
    the front part; covers the initial point (empty front), every midpoint and the final `-inf` (empty back) -/
theorem StepSound.of_split (thr : Thr) (A B : List Row)
    (hA : ∀ x ∈ A, thr.below x.score = true ∧ thr.above x.score = false)
    (hB : ∀ x ∈ B, thr.below x.score = false ∧ thr.above x.score = true) :
    StepSound (A ++ B) (thr, A.countP (fun r => !r.label), A.countP (fun r => r.label)) := by
  have key : ∀ c : Row → Bool, A.countP c = (A ++ B).countP (fun r => c r && thr.below r.score) := by
    intro c
    rw [List.countP_append, (List.countP_eq_zero (l := B)).mpr fun x hx => by rw [(hB x hx).1, Bool.and_false]; exact Bool.false_ne_true,
      Nat.add_zero]
    exact countP_eq_of_forall fun x hx => by rw [(hA x hx).1, Bool.and_true]
  refine ⟨key _, key _, fun x hx => ?_⟩
  rcases List.mem_append.mp hx with hx | hx
  · show thr.above x.score = !thr.below x.score
    rw [(hA x hx).1, (hA x hx).2]; rfl
  · show thr.above x.score = !thr.below x.score
    rw [(hB x hx).1, (hB x hx).2]; rfl

/-- loop invariant of the sweep: `pre` are the rows already passed, `c0` / `c1` the negatives / positives among them;
    every step emitted for the rest `suf` is sound for the whole sorted list `pre ++ suf` -/
theorem sweepAux_sound (suf : List Row) : ∀ (pre : List Row) (c0 c1 : Nat),
    DescSorted (pre ++ suf) →
    c0 = pre.countP (fun r => !r.label) → c1 = pre.countP (fun r => r.label) →
    ∀ s ∈ sweepAux suf c0 c1, StepSound (pre ++ suf) s := by
  induction suf with
  | nil => intro pre c0 c1 _ _ _ s hs; cases hs
  | cons r rest ih =>
    intro pre c0 c1 hsort h0 h1 s hs
    have hc0 : (if r.label then c0 else c0 + 1) = (pre ++ [r]).countP (fun r => !r.label) := by
      rw [List.countP_append, List.countP_singleton, ← h0]; cases r.label <;> rfl
    have hc1 : (if r.label then c1 + 1 else c1) = (pre ++ [r]).countP (fun r => r.label) := by
      rw [List.countP_append, List.countP_singleton, ← h1]; cases r.label <;> rfl
    rw [List.append_cons] at hsort ⊢
    unfold sweepAux at hs
    cases rest with
    | nil =>
      -- the last block meets the `-inf` sentinel: everything is above it
      simp only [List.mem_singleton, src_thrSentinel] at hs
      rw [hs, hc0, hc1]
      exact StepSound.of_split .ninf _ [] (fun _ _ => ⟨rfl, rfl⟩) (fun _ h => absurd h List.not_mem_nil)
    | cons r' rest' =>
      have hrec := ih (pre ++ [r]) _ _ hsort hc0 hc1
      simp only at hs
      split at hs
      · exact hrec s hs
      · next hne =>
        rcases List.mem_cons.mp hs with rfl | hs
        · -- the emitted point: a threshold strictly between `r'.score` and `r.score`
          obtain ⟨hA, hB, hAB⟩ := List.pairwise_append.mp hsort
          have hlt : r'.score < r.score :=
            lt_of_le_of_ne (hAB r (List.mem_append_right _ (List.mem_singleton_self r)) r' List.mem_cons_self) hne
          obtain ⟨hθ1, hθ2⟩ := midThreshold_between hlt
          have hpre : ∀ x ∈ pre ++ [r], r.score ≤ x.score := by
            intro x hx
            rcases List.mem_append.mp hx with hx | hx
            · exact (List.pairwise_append.mp hA).2.2 x hx r (List.mem_singleton_self r)
            · rw [List.mem_singleton.mp hx]
          have hsuf : ∀ x ∈ r' :: rest', x.score ≤ r'.score := by
            intro x hx
            rcases List.mem_cons.mp hx with rfl | hx
            · exact le_refl _
            · exact (List.pairwise_cons.mp hB).1 x hx
          rw [hc0, hc1]
          refine StepSound.of_split _ _ _ (fun x hx => ?_) (fun x hx => ?_)
          · rw [Thr.below_fin, Thr.above_fin]
            exact ⟨decide_eq_true (hθ2.trans_le (hpre x hx)), decide_eq_false (not_lt.mpr (hθ2.le.trans (hpre x hx)))⟩
          · rw [Thr.below_fin, Thr.above_fin]
            exact ⟨decide_eq_false (not_lt.mpr ((hsuf x hx).trans hθ1.le)), decide_eq_true ((hsuf x hx).trans_lt hθ1)⟩
        · exact hrec s hs

theorem StepSound.of_perm {L L' : List Row} (h : L.Perm L') {s : Thr × Nat × Nat} (hs : StepSound L s) :
    StepSound L' s :=
  ⟨by rw [hs.1]; exact h.countP_eq _, by rw [hs.2.1]; exact h.countP_eq _,
   fun r hr => hs.2.2 r (h.mem_iff.mpr hr)⟩

/-- every sweep step counts exactly the rows above its threshold, and no score equals a threshold -/
theorem sweepSteps_sound (rows : List Row) : ∀ s ∈ sweepSteps rows, StepSound rows s := by
  intro s hs
  unfold sweepSteps at hs
  rw [src_thrInitial] at hs
  rcases List.mem_cons.mp hs with rfl | hs
  · exact StepSound.of_split .pinf [] rows (fun _ h => absurd h List.not_mem_nil) (fun _ _ => ⟨rfl, rfl⟩)
  · exact (sweepAux_sound (sortDesc rows) [] 0 0 (sortDesc_sorted rows) rfl rfl s hs).of_perm (sortDesc_perm rows)

theorem CM.ext' {a b : CM} (h1 : a.true_positives = b.true_positives) (h2 : a.false_positives = b.false_positives)
    (h3 : a.true_negatives = b.true_negatives) (h4 : a.false_negatives = b.false_negatives) : a = b := by
  cases a; cases b; simp_all

theorem expCM_positives (prob : Rat → Rat) (rows : List Row) :
    (expCM prob rows).positives = (nPos rows : Rat) := by
  simp only [expCM, CM.positives, nPos, sumBy]
  rw [← sumBy_ind, ← List.sum_map_add]
  exact sumBy_congr fun r _ => by split <;> ring

theorem expCM_negatives (prob : Rat → Rat) (rows : List Row) :
    (expCM prob rows).negatives = (nNeg rows : Rat) := by
  simp only [expCM, CM.negatives, nNeg, sumBy]
  rw [← sumBy_ind, ← List.sum_map_add]
  exact sumBy_congr fun r _ => by cases r.label <;> simp

/-- the confusion counts of an operation are `actual_counts` of the negatives / positives it selects -/
theorem confusion_eq_actualCounts (o : Op) (rows : List Row) :
    confusion o rows = actualCounts (rows.countP (fun r => !r.label && o.apply r.score))
      (rows.countP (fun r => r.label && o.apply r.score)) (nNeg rows) (nPos rows) := by
  have hP := expCM_positives (fun s => ind (o.apply s)) rows
  have hN := expCM_negatives (fun s => ind (o.apply s)) rows
  have htp : (confusion o rows).true_positives = (rows.countP (fun r => r.label && o.apply r.score) : Rat) := by
    rw [← sumBy_ind]
    exact sumBy_congr fun r _ => by cases r.label <;> simp [ind]
  have hfp : (confusion o rows).false_positives = (rows.countP (fun r => !r.label && o.apply r.score) : Rat) := by
    rw [← sumBy_ind]
    exact sumBy_congr fun r _ => by cases r.label <;> simp [ind]
  exact CM.ext' htp hfp (hfp ▸ eq_sub_of_add_eq hN) (htp ▸ eq_sub_of_add_eq' hP)

/-- the counts the code hands to the metric are the confusion counts of the point's own operation -/
theorem stepCounts_eq (rows : List Row) (s : Thr × Nat × Nat) (hs : StepSound rows s)
    (o : Bool × Bool) (ho : o = (true, true) ∨ o = (false, false)) :
    stepCounts (nNeg rows) (nPos rows) s.2.1 s.2.2 o.2 = confusion ⟨o.1, s.1⟩ rows := by
  obtain ⟨h0, h1, h2⟩ := hs
  rw [confusion_eq_actualCounts]
  rcases ho with rfl | rfl
  · show actualCounts _ _ _ _ = actualCounts (rows.countP fun r => !r.label && s.1.below r.score)
      (rows.countP fun r => r.label && s.1.below r.score) _ _
    rw [← h0, ← h1]
  · -- on the group's scores `s < thr` is the negation of `s > thr`: "<" selects the complement, hence `flipped_counts`
    have hc : ∀ c : Row → Bool, (rows.countP (fun r => c r && (⟨false, s.1⟩ : Op).apply r.score) : Rat) =
        rows.countP c - rows.countP (fun r => c r && s.1.below r.score) := by
      intro c
      rw [List.countP_eq_countP_filter_add rows c (fun r => s.1.below r.score), List.countP_filter, List.countP_filter,
        countP_eq_of_forall
        (q := fun r => c r && !s.1.below r.score) fun r hr => by show (c r && s.1.above r.score) = _; rw [h2 r hr]]
      push_cast; ring
    rw [hc, hc, ← h0, ← h1]
    exact CM.ext' rfl rfl (sub_sub_cancel _ _).symm (sub_sub_cancel _ _).symm

/-- membership in `rawPoints`, unfolded -/
theorem mem_rawPoints {flip : Bool} {xm ym : Metric} {rows : List Row} {p : Pt} :
    p ∈ rawPoints flip xm ym rows ↔
      ∃ s ∈ sweepSteps rows, ∃ o ∈ operations flip,
        p = { x := xm.eval (stepCounts (nNeg rows) (nPos rows) s.2.1 s.2.2 o.2),
              y := ym.eval (stepCounts (nNeg rows) (nPos rows) s.2.1 s.2.2 o.2), op := ⟨o.1, s.1⟩ } := by
  rw [rawPoints_eq]; unfold stepPoints
  simp only [List.mem_flatMap, List.mem_map]
  constructor
  · rintro ⟨s, hs, o, ho, rfl⟩; exact ⟨s, hs, o, ho, rfl⟩
  · rintro ⟨s, hs, o, ho, rfl⟩; exact ⟨s, hs, o, ho, rfl⟩

/-- each tradeoff point's (x, y) is the metric pair of its own ThresholdOperation applied
    to the group's rows -/
theorem rawPoints_sound (flip : Bool) (xm ym : Metric) (rows : List Row) (p : Pt)
    (hp : p ∈ rawPoints flip xm ym rows) :
    p.x = xm.eval (confusion p.op rows) ∧ p.y = ym.eval (confusion p.op rows) := by
  obtain ⟨s, hs, o, ho, rfl⟩ := mem_rawPoints.mp hp
  -- the operations list of the source pairs ">" with the actual and "<" with the flipped counts
  have := stepCounts_eq rows s (sweepSteps_sound rows s hs) o
    (by cases flip <;> simp [operations, operationsFlip, operationsNoFlip] at ho <;> simp [ho])
  simp only [this, and_self]

end Threshold
