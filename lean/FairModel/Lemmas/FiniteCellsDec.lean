import FairModel.Lemmas.Aggregate

/-! A Boolean (decidable) form of `Aggregate.FiniteCells`, so that non-vacuity examples can discharge
the hypothesis by `decide +kernel`. -/

namespace Aggregate
open XR

def cellFinNan : Frame.Cell → Bool
  | .scalar .nan => true
  | .scalar (.fin _) => true
  | _ => false

/-- decidable form of `FiniteCells` -/
def finiteCellsB (t : Tables) : Bool :=
  t.byGroup.all (fun e => cellFinNan e.2) && t.overall.all (fun e => cellFinNan e.2)

theorem cellFinNan_iff (c : Frame.Cell) :
    cellFinNan c = true ↔ (c = .scalar nan ∨ ∃ q, c = .scalar (fin q)) := by
  cases c with
  | scalar x => cases x <;> simp [cellFinNan]
  | nonscalar => simp [cellFinNan]
  | raised => simp [cellFinNan]

theorem finiteCells_of_B {t : Tables} (h : finiteCellsB t = true) : FiniteCells t := by
  simp only [finiteCellsB, Bool.and_eq_true, List.all_eq_true] at h
  exact ⟨fun e he => (cellFinNan_iff e.2).mp (h.1 e he), fun e he => (cellFinNan_iff e.2).mp (h.2 e he)⟩

end Aggregate
