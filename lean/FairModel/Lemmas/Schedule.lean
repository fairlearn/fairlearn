/-
Lemmas on `Model/Schedule.lean`, in this order: `ceilDiv`; the slices of one epoch and of all epochs (`Covers`); the flat
schedule `run`, step by step (`run_cons`) and its length up to the first halting step (`run_length`); the nested loops
`fitLoop` as a fold over `run`; `maxOf` / `argmaxFirst` of `predict`.
-/
import FairModel.Lemmas.Prelude
import FairModel.Model.Schedule

namespace Schedule

/-- consecutive, non-empty slices from `a` to `e` -/
inductive Covers : Nat → List (Nat × Nat) → Nat → Prop
  | nil (a : Nat) : Covers a [] a
  | cons {lo hi e : Nat} {rest : List (Nat × Nat)} : lo < hi → Covers hi rest e → Covers lo ((lo, hi) :: rest) e

/-! ### `ceilDiv` -/

theorem lt_ceilDiv_iff (n b k : Nat) (hb : 0 < b) : k < ceilDiv n b ↔ k * b < n := by
  rw [ceilDiv, Nat.lt_iff_add_one_le, Nat.le_div_iff_mul_le hb, Nat.succ_mul,
    Nat.le_sub_one_iff_lt (Nat.add_pos_right n hb), Nat.add_lt_add_iff_right]

theorem ceilDiv_pos (n b : Nat) (hn : 0 < n) (hb : 0 < b) : 0 < ceilDiv n b :=
  (lt_ceilDiv_iff n b 0 hb).mpr (by omega)

theorem le_ceilDiv_mul (n b : Nat) (hb : 0 < b) : n ≤ ceilDiv n b * b :=
  Nat.le_of_not_lt fun h => Nat.lt_irrefl _ ((lt_ceilDiv_iff n b _ hb).mpr h)

theorem ceilDiv_mul_lt (n b : Nat) (hb : 0 < b) : ceilDiv n b * b < n + b :=
  Nat.lt_of_le_of_lt (Nat.div_mul_le_self (n + b - 1) b) (Nat.sub_lt (Nat.add_pos_right n hb) Nat.one_pos)

theorem ceilDiv_eq_one (n b : Nat) (hn : 0 < n) (hb : n ≤ b) : ceilDiv n b = 1 :=
  have hb0 := Nat.lt_of_lt_of_le hn hb
  Nat.le_antisymm (Nat.le_of_not_lt fun h => Nat.not_lt.mpr hb (Nat.one_mul b ▸ (lt_ceilDiv_iff n b 1 hb0).mp h))
    (ceilDiv_pos n b hn hb0)

/-! ### slices -/

theorem batchSizeOf_pos (n : Nat) (bs : Option Nat) (hn : 0 < n) (hbs : ∀ k, bs = some k → 0 < k) :
    0 < batchSizeOf n bs := by
  cases bs with
  | none => exact hn
  | some k => exact hbs k rfl

theorem length_epochSlices (n b : Nat) : (epochSlices n b).length = batchesOf n b := by
  simp [epochSlices]

theorem sliceOf_lo (n b k : Nat) : (sliceOf n b k).1 = k * b := rfl

theorem sliceOf_hi_inner (n b k : Nat) (hb : 0 < b) (h : k + 1 < batchesOf n b) :
    (sliceOf n b k).2 = (k + 1) * b :=
  Nat.min_eq_left (Nat.le_of_lt ((lt_ceilDiv_iff n b (k + 1) hb).mp h))

theorem sliceOf_hi_last (n b k : Nat) (hb : 0 < b) (h : k + 1 = batchesOf n b) :
    (sliceOf n b k).2 = n :=
  Nat.min_eq_right (h ▸ le_ceilDiv_mul n b hb)

theorem sliceOf_nonempty (n b k : Nat) (hb : 0 < b) (h : k < batchesOf n b) :
    (sliceOf n b k).1 < (sliceOf n b k).2 :=
  lt_min (Nat.succ_mul k b ▸ Nat.lt_add_of_pos_right hb) ((lt_ceilDiv_iff n b k hb).mp h)

theorem sliceOf_size_le (n b k : Nat) : (sliceOf n b k).2 - (sliceOf n b k).1 ≤ b :=
  Nat.sub_le_iff_le_add'.mpr (Nat.le_trans (Nat.min_le_left _ _) (Nat.succ_mul k b).le)

/-- a list of slices `f k, f (k+1), …` whose bounds are consecutive values of a strictly increasing `g` covers
    `g k .. g (k + m)` -/
theorem covers_map_range' (f : Nat → Nat × Nat) (g : Nat → Nat) (k m : Nat)
    (h : ∀ i, k ≤ i → i < k + m → f i = (g i, g (i + 1)) ∧ g i < g (i + 1)) :
    Covers (g k) ((List.range' k m).map f) (g (k + m)) := by
  induction m generalizing k with
  | zero => exact Covers.nil _
  | succ m ih =>
    obtain ⟨hf, hlt⟩ := h k le_rfl (Nat.lt_add_of_pos_right (Nat.succ_pos m))
    rw [List.range'_succ, List.map_cons, hf, ← Nat.add_assoc, Nat.add_right_comm]
    exact Covers.cons hlt (ih (k + 1) fun i hi hi' => h i (Nat.le_of_succ_le hi) (by omega))

theorem length_allSlices (n b e : Nat) : (allSlices n b e).length = e * batchesOf n b := by
  unfold allSlices
  induction e with
  | zero => simp
  | succ e ih =>
    rw [List.range_succ, List.flatMap_append, List.length_append, ih]
    simp [length_epochSlices]; ring

theorem allSlices_eq_map (n b e : Nat) :
    allSlices n b e = ((List.range e).flatMap (fun _ => List.range (batchesOf n b))).map (sliceOf n b) := by
  simp [allSlices, epochSlices, List.map_flatMap]

/-! ### the flat schedule `run` -/

section Run
variable (mi : Option Nat) (cb : Bool) (stop : Nat → Bool)

/-- one step of the flat schedule: the step is made; the callbacks fire unless it exhausts `max_iter`; the run goes on
    unless it exhausts `max_iter` or a callback says True -/
theorem run_cons (d lo hi : Nat) (L : List (Nat × Nat)) :
    run mi cb stop d ((lo, hi) :: L) = ⟨lo, hi, d + 1, cb && !hitMax mi (d + 1)⟩ ::
      (if hitMax mi (d + 1) || cb && stop (d + 1) then [] else run mi cb stop (d + 1) L) := by
  rw [run]
  cases hitMax mi (d + 1)
  · cases h : cb && stop (d + 1)
    · simp
    · simp [(Bool.and_eq_true_iff.mp h).1]
  · simp

theorem run_stepNo (d : Nat) (L : List (Nat × Nat)) :
    (run mi cb stop d L).map (·.stepNo) = List.range' (d + 1) (run mi cb stop d L).length := by
  induction L generalizing d with
  | nil => rfl
  | cons p L ih =>
    rw [run_cons]
    split
    · rfl
    · rw [List.map_cons, List.length_cons, List.range'_succ, ih]

theorem run_prefix (d : Nat) (L : List (Nat × Nat)) :
    (run mi cb stop d L).map (fun s => (s.lo, s.hi)) <+: L := by
  induction L generalizing d with
  | nil => exact List.prefix_refl _
  | cons p L ih =>
    rw [run_cons, List.map_cons]
    refine List.prefix_cons_iff.mpr (Or.inr ⟨_, rfl, ?_⟩)
    split
    · exact List.nil_prefix
    · exact ih (d + 1)

theorem run_callbackFired (d : Nat) (L : List (Nat × Nat)) :
    ∀ s ∈ run mi cb stop d L, s.callbackFired = (cb && !hitMax mi s.stepNo) := by
  induction L generalizing d with
  | nil => intro s hs; cases hs
  | cons p L ih =>
    rw [run_cons]
    intro s hs
    rcases List.mem_cons.mp hs with rfl | hs
    · rfl
    · split at hs
      · cases hs
      · exact ih (d + 1) s hs

/-- the run ends with the first step that exhausts `max_iter` or whose callback says True: if no step before `k` does,
    and step `k` does whenever the plan reaches it, `k - d` steps are made (or all planned ones, if fewer) -/
theorem run_length (d k : Nat) (L : List (Nat × Nat)) (hdk : d < k)
    (hbefore : ∀ j, d < j → j < k → (hitMax mi j || cb && stop j) = false)
    (hk : k ≤ d + L.length → (hitMax mi k || cb && stop k) = true) :
    (run mi cb stop d L).length = min L.length (k - d) := by
  induction L generalizing d with
  | nil => rfl
  | cons p L ih =>
    rw [run_cons, List.length_cons, List.length_cons]
    rcases Nat.eq_or_lt_of_le hdk with rfl | hlt
    · rw [if_pos (hk (Nat.add_le_add_left (Nat.succ_pos _) d))]
      show 1 = min (L.length + 1) (d + 1 - d)
      rw [Nat.add_sub_cancel_left, Nat.min_eq_right (Nat.succ_pos _)]
    · rw [if_neg (Bool.eq_false_iff.mp (hbefore _ (Nat.lt_succ_self d) hlt)),
        ih (d + 1) hlt (fun j h1 => hbefore j (Nat.lt_of_succ_lt h1))
          (fun h => hk (by rwa [Nat.add_assoc, Nat.add_comm 1] at h)),
        ← Nat.succ_sub_succ k d, Nat.succ_sub (Nat.le_of_lt hlt), Nat.succ_min_succ]

theorem run_length_le (d k : Nat) (L : List (Nat × Nat)) (hdk : d < k)
    (hk : (hitMax mi k || cb && stop k) = true) : (run mi cb stop d L).length ≤ k - d := by
  induction L generalizing d with
  | nil => exact Nat.zero_le _
  | cons p L ih =>
    rw [run_cons, List.length_cons]
    split
    · exact Nat.sub_pos_of_lt hdk
    · next h =>
      exact Nat.succ_le_of_lt (Nat.lt_of_le_of_lt (ih (d + 1) (lt_of_le_of_ne hdk fun e => h (e ▸ hk)))
        (Nat.sub_succ_lt_self k d hdk))

theorem hitMax_eq_false (j : Nat) (hmi : ∀ m, mi = some m → j < m) : hitMax mi j = false := by
  cases mi with
  | none => rfl
  | some m => exact decide_eq_false (Nat.not_le.mpr (hmi m rfl))

theorem run_length_pos (d : Nat) (L : List (Nat × Nat))
    (h : 0 < L.length) : 0 < (run mi cb stop d L).length := by
  cases L with
  | nil => cases h
  | cons p L => rw [run_cons]; exact Nat.succ_pos _

/-- nobody stops: all planned steps, capped by max_iter -/
theorem run_length_no_stop (d : Nat) (L : List (Nat × Nat))
    (hstop : ∀ k, (cb && stop k) = false) (hmi : ∀ m, mi = some m → d < m) :
    (run mi cb stop d L).length = match mi with
      | none => L.length
      | some m => min L.length (m - d) := by
  cases mi with
  | none =>
    rw [run_length none cb stop d (d + L.length + 1) L (Nat.lt_succ_of_le (Nat.le_add_right d _))
      (fun j _ _ => by rw [hstop]; rfl) (fun h => absurd h (Nat.not_succ_le_self _)), Nat.add_assoc,
      Nat.add_sub_cancel_left]
    exact Nat.min_eq_left (Nat.le_succ _)
  | some m =>
    exact run_length (some m) cb stop d m L (hmi m rfl)
      (fun j _ hj => by rw [hstop, hitMax_eq_false _ _ (fun m' h => by cases h; exact hj)]; rfl)
      (fun _ => by rw [hstop, hitMax, decide_eq_true (Nat.le_refl m)]; rfl)

end Run

theorem schedule_eq_some {n : Nat} {bs ep mi : Option Nat} {cb : Bool} {stop : Nat → Bool} {steps : List Step}
    (h : schedule n bs ep mi cb stop = some steps) :
    ∃ e, epochsOf ep mi (batchesOf n (batchSizeOf n bs)) = some e ∧
      steps = run mi cb stop 0 (allSlices n (batchSizeOf n bs) e) := by
  simp only [schedule] at h
  split at h
  · cases h
  · next e he => cases h; exact ⟨e, he, rfl⟩

/-! ### the nested loops of `fitLoop` are the fold over `run` -/

section Fold
variable {σ : Type} (mi : Option Nat) (cb : Bool) (stop : Nat → Bool) (ts : σ → Nat → Nat → σ)

theorem foldl_batchBody_returned (L : List (Nat × Nat)) (st : Loop σ) (h : st.returned = true) :
    L.foldl (batchBody mi cb stop ts) st = st := by
  induction L with
  | nil => rfl
  | cons p L ih => rwa [List.foldl_cons, batchBody, if_pos h]

theorem batchBody_live (s : σ) (d : Nat) (sl : Nat × Nat) :
    batchBody mi cb stop ts ⟨s, d, false⟩ sl = ⟨ts s sl.1 sl.2, d + 1, hitMax mi (d + 1) || cb && stop (d + 1)⟩ := by
  simp only [batchBody]
  cases hitMax mi (d + 1) <;> cases cb && stop (d + 1) <;> rfl

theorem foldl_batchBody_run (L : List (Nat × Nat)) (s : σ) (d : Nat) :
    (L.foldl (batchBody mi cb stop ts) ⟨s, d, false⟩).state = partialFitSeq ts s (run mi cb stop d L) ∧
    (L.foldl (batchBody mi cb stop ts) ⟨s, d, false⟩).nIter = d + (run mi cb stop d L).length := by
  induction L generalizing s d with
  | nil => exact ⟨rfl, rfl⟩
  | cons p L ih =>
    rw [List.foldl_cons, batchBody_live, run_cons]
    cases hitMax mi (d + 1) || cb && stop (d + 1)
    · exact ⟨(ih _ _).1, (ih _ _).2.trans (Nat.add_right_comm d 1 _)⟩
    · rw [foldl_batchBody_returned _ _ _ _ _ _ rfl]; exact ⟨rfl, rfl⟩

theorem foldl_epochBody (n b : Nat) (l : List Nat) (st : Loop σ) :
    l.foldl (epochBody n b mi cb stop ts) st =
      (l.flatMap (fun _ => epochSlices n b)).foldl (batchBody mi cb stop ts) st := by
  induction l generalizing st with
  | nil => rfl
  | cons e l ih => rw [List.foldl_cons, List.flatMap_cons, List.foldl_append, ih]; rfl

end Fold

/-! ### `predict`: `maxOf`, `argmaxFirst` -/

theorem le_maxOf (o : List Rat) : ∀ v ∈ o, v ≤ maxOf o := by
  induction o with
  | nil => simp
  | cons x xs ih =>
    cases xs with
    | nil => simp [maxOf]
    | cons y r =>
      intro v hv
      simp only [maxOf]
      rcases List.mem_cons.mp hv with rfl | hv
      · split
        · next h => exact le_of_lt h
        · exact le_refl _
      · have := ih v hv
        split
        · exact this
        · next h => exact le_trans this (not_lt.mp h)

theorem maxOf_mem (o : List Rat) (h : o ≠ []) : maxOf o ∈ o := by
  induction o with
  | nil => exact absurd rfl h
  | cons x xs ih =>
    cases xs with
    | nil => simp [maxOf]
    | cons y r =>
      simp only [maxOf]
      split
      · exact List.mem_cons_of_mem _ (ih (by simp))
      · exact List.mem_cons_self

theorem argmaxFirst_lt (o : List Rat) (h : o ≠ []) : argmaxFirst o < o.length :=
  List.findIdx_lt_length_of_exists ⟨maxOf o, maxOf_mem o h, beq_self_eq_true _⟩

theorem getElem_argmaxFirst (o : List Rat) (h : o ≠ []) :
    o[argmaxFirst o]'(argmaxFirst_lt o h) = maxOf o :=
  eq_of_beq (List.findIdx_getElem (p := fun v => v == maxOf o) (w := argmaxFirst_lt o h))

theorem argmaxFirst_first (o : List Rat) (j : Nat) (hj : j < argmaxFirst o) (hl : j < o.length) :
    o[j] < maxOf o :=
  lt_of_le_of_ne (le_maxOf o o[j] (List.getElem_mem hl)) (by simpa using List.not_of_lt_findIdx hj)

end Schedule
