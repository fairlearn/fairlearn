import FairModel.Lemmas.Prelude
import FairModel.Model.Saddle

namespace Saddle
open Finset

/-! ### lists, and lists read through `vec` -/

theorem getD_mem {α : Type} (l : List α) (k : Nat) (d : α) (hk : k < l.length) : l.getD k d ∈ l := by
  rw [List.getD_eq_getElem?_getD, List.getElem?_eq_getElem hk]
  exact List.getElem_mem hk

theorem getD_snoc {α : Type} (l : List α) (a d : α) : (l ++ [a]).getD l.length d = a := by
  rw [List.getD_eq_getElem?_getD, List.getElem?_append_right (Nat.le_refl _), Nat.sub_self]; rfl

theorem getD_append_lt {α : Type} (l l' : List α) (d : α) {k : Nat} (hk : k < l.length) :
    (l ++ l').getD k d = l.getD k d := by
  rw [List.getD_eq_getElem?_getD, List.getD_eq_getElem?_getD, List.getElem?_append_left hk]

theorem vec_nonneg {l : List Rat} (h : ∀ x ∈ l, 0 ≤ x) (i : Nat) : 0 ≤ vec l i := by
  rw [vec, List.getD_eq_getElem?_getD]
  cases hi : l[i]? with
  | none => exact le_rfl
  | some x => exact h x (List.mem_of_getElem? hi)

theorem sum_vec : ∀ (l : List Rat), ∑ i ∈ range l.length, vec l i = l.sum
  | [] => rfl
  | a :: l => by
    rw [List.length_cons, Finset.sum_range_succ', List.sum_cons, ← sum_vec l, add_comm]
    rfl

theorem sumTo_eq (n : Nat) (f : Nat → Rat) : sumTo n f = ∑ i ∈ range n, f i := rfl

/-! the LIFTED `_eval` expressions (`EGGen.lagrOf`, `lagrTerm`, `violOf`, `violAgg`) in the closed form every proof below
    uses; an edit of `L = error + np.sum(lambda_vec * (gamma - bound))` or of `(gamma - bound).max()` in the source
    changes the generated text and breaks `viol_def`, `lagr_def`, `maxViol_def` (hence every C08 theorem about `lagr`, `viol`,
    `lHigh`) -/

theorem viol_def (T : Table) (Q : Nat → Rat) (j : Nat) : viol T Q j = gamQ T Q j - T.c j := rfl

theorem lagr_def (T : Table) (Q lam : Nat → Rat) :
    lagr T Q lam = errQ T Q + sumTo T.nC (fun j => lam j * viol T Q j) := rfl

theorem max2_eq_max (a b : Rat) : EGGen.max2 a b = max a b := by
  unfold EGGen.max2
  split
  · next h => exact (max_eq_right h.le).symm
  · next h => exact (max_eq_left (not_lt.mp h)).symm

theorem violAgg_eq (a b : Rat) : EGGen.violAgg a b = EGGen.max2 a b := by
  unfold EGGen.violAgg; rfl

theorem maxViol_def (T : Table) (Q : Nat → Rat) :
    maxViol T Q = (List.range T.nC).foldl (fun acc j => max acc (viol T Q j)) (viol T Q 0) := by
  unfold maxViol EGGen.violAgg
  simp only [max2_eq_max]

theorem gapOf_parts (L a H : Rat) : L - a ≤ EGGen.gapOf L a H ∧ H - L ≤ EGGen.gapOf L a H := by
  rw [EGGen.gapOf, max2_eq_max]; exact ⟨le_max_left _ _, le_max_right _ _⟩

theorem gapOf_le {L a H g : Rat} (h1 : L - a ≤ g) (h2 : H - L ≤ g) : EGGen.gapOf L a H ≤ g := by
  rw [EGGen.gapOf, max2_eq_max]; exact max_le h1 h2

theorem gapOf_anti_low (L a b H : Rat) (h : a ≤ b) : EGGen.gapOf L b H ≤ EGGen.gapOf L a H :=
  gapOf_le ((sub_le_sub_left h L).trans (gapOf_parts L a H).1) (gapOf_parts L a H).2

theorem gap_parts {T : Table} {B g : Rat} {Q lam : Nat → Rat} {cands : List Nat}
    (h : gap T B Q lam cands ≤ g) :
    lagr T Q lam - lLow T Q lam cands ≤ g ∧ lHigh T B Q - lagr T Q lam ≤ g :=
  ⟨(gapOf_parts _ _ _).1.trans h, (gapOf_parts _ _ _).2.trans h⟩

theorem sumTo_unit (n i : Nat) (hi : i < n) (f : Nat → Rat) : sumTo n (fun k => unit i k * f k) = f i := by
  rw [sumTo_eq]
  simp only [unit, ite_mul, one_mul, zero_mul]
  rw [Finset.sum_ite_eq' (range n) i, if_pos (Finset.mem_range.mpr hi)]

theorem errQ_unit (T : Table) (i : Nat) (hi : i < T.nH) : errQ T (unit i) = T.err i := sumTo_unit T.nH i hi T.err

theorem gamQ_unit (T : Table) (i j : Nat) (hi : i < T.nH) : gamQ T (unit i) j = T.gam j i :=
  sumTo_unit T.nH i hi (T.gam j)

theorem lPure_eq (T : Table) (lam : Nat → Rat) (i : Nat) (hi : i < T.nH) :
    lPure T lam i = T.err i + ∑ j ∈ range T.nC, lam j * (T.gam j i - T.c j) := by
  rw [lPure, lagr_def, errQ_unit T i hi, sumTo_eq]
  simp only [viol_def, gamQ_unit T i _ hi]

/-- for weights summing to one the violation of the mixture is the mixture of the violations -/
theorem viol_mix (T : Table) (Q : Nat → Rat) (hQ : ∑ i ∈ range T.nH, Q i = 1) (j : Nat) :
    viol T Q j = ∑ i ∈ range T.nH, Q i * (T.gam j i - T.c j) := by
  rw [viol_def, gamQ, sumTo_eq]; simp only [mul_sub]; rw [Finset.sum_sub_distrib, ← Finset.sum_mul, hQ, one_mul]

/-- The Lagrangian is affine in `Q`: for weights summing to one it is the mixture of the pure values. -/
theorem lagr_mix (T : Table) (Q lam : Nat → Rat) (hQ : ∑ i ∈ range T.nH, Q i = 1) :
    lagr T Q lam = ∑ i ∈ range T.nH, Q i * lPure T lam i := by
  rw [lagr_def, errQ, sumTo_eq, sumTo_eq]
  simp only [viol_mix T Q hQ, Finset.mul_sum]
  rw [Finset.sum_comm, ← Finset.sum_add_distrib]
  refine Finset.sum_congr rfl fun i hi => ?_
  rw [lPure_eq T lam i (Finset.mem_range.mp hi), mul_add, Finset.mul_sum]
  exact congrArg _ (Finset.sum_congr rfl fun j _ => by ring)

theorem le_lagr_of_le_pure (T : Table) (Q lam : Nat → Rat) (m : Rat) (hsum : ∑ i ∈ range T.nH, Q i = 1)
    (hnn : ∀ i < T.nH, 0 ≤ Q i) (hm : ∀ i < T.nH, m ≤ lPure T lam i) : m ≤ lagr T Q lam := by
  rw [lagr_mix T Q lam hsum, ← one_mul m, ← hsum, Finset.sum_mul]
  exact Finset.sum_le_sum fun i hi =>
    mul_le_mul_of_nonneg_left (hm i (Finset.mem_range.mp hi)) (hnn i (Finset.mem_range.mp hi))

/-! ### L_high : the best response of the lambda player -/

theorem foldMax_ge_init (f : Nat → Rat) : ∀ (l : List Nat) (init : Rat),
    init ≤ l.foldl (fun acc j => max acc (f j)) init
  | [], _ => le_refl _
  | _ :: l, _ => le_trans (le_max_left _ _) (foldMax_ge_init f l _)

theorem foldMax_ge_mem (f : Nat → Rat) : ∀ (l : List Nat) (init : Rat), ∀ j ∈ l,
    f j ≤ l.foldl (fun acc j => max acc (f j)) init
  | k :: l, init, j, hj => by
    rcases List.mem_cons.mp hj with rfl | hj
    · exact le_trans (le_max_right _ _) (foldMax_ge_init f l _)
    · exact foldMax_ge_mem f l _ j hj

theorem viol_le_maxViol (T : Table) (Q : Nat → Rat) (j : Nat) (hj : j < T.nC) :
    viol T Q j ≤ maxViol T Q := by
  rw [maxViol_def]; exact foldMax_ge_mem _ _ _ j (List.mem_range.mpr hj)

theorem foldMax_mem (f : Nat → Rat) : ∀ (l : List Nat) (init : Rat),
    l.foldl (fun acc j => max acc (f j)) init = init ∨ ∃ j ∈ l, l.foldl (fun acc j => max acc (f j)) init = f j
  | [], _ => Or.inl rfl
  | k :: l, init => by
    rw [List.foldl_cons]
    rcases foldMax_mem f l (max init (f k)) with h | ⟨j, hj, h⟩
    · rw [h]
      rcases max_choice init (f k) with h' | h'
      · exact Or.inl h'
      · exact Or.inr ⟨k, List.mem_cons_self, h'⟩
    · exact Or.inr ⟨j, List.mem_cons_of_mem _ hj, h⟩

theorem maxViol_attained (T : Table) (Q : Nat → Rat) (h : 0 < T.nC) : ∃ j < T.nC, maxViol T Q = viol T Q j := by
  rw [maxViol_def]
  rcases foldMax_mem (viol T Q) (List.range T.nC) (viol T Q 0) with h1 | ⟨j, hj, h1⟩
  · exact ⟨0, h, h1⟩
  · exact ⟨j, List.mem_range.mp hj, h1⟩

theorem posPart_of_nonneg {q : Rat} (h : 0 ≤ q) : posPart q = q := if_neg (not_lt.mpr h)

theorem posPart_of_nonpos {q : Rat} (h : q ≤ 0) : posPart q = 0 := by
  rcases h.lt_or_eq with h | h
  · exact if_pos h
  · rw [h]; rfl

theorem posPart_eq_max (q : Rat) : posPart q = max q 0 := by
  rcases le_total 0 q with h | h
  · rw [posPart_of_nonneg h, max_eq_left h]
  · rw [posPart_of_nonpos h, max_eq_right h]

theorem posPart_nonneg (q : Rat) : 0 ≤ posPart q := by rw [posPart_eq_max]; exact le_max_right _ _

theorem le_posPart (q : Rat) : q ≤ posPart q := by rw [posPart_eq_max]; exact le_max_left _ _

theorem posPart_le {q t : Rat} (h : q ≤ t) (h0 : 0 ≤ t) : posPart q ≤ t := by rw [posPart_eq_max]; exact max_le h h0

/-- `L_high = error; if max_constraint > 0: L_high += B * max_constraint` adds `B` times the positive part of the largest
    violation -/
theorem lHigh_eq (T : Table) (B : Rat) (Q : Nat → Rat) : lHigh T B Q = errQ T Q + B * posPart (maxViol T Q) := by
  unfold lHigh EGGen.lHigh
  split
  · next h => rw [posPart_of_nonneg (of_decide_eq_true h).le]
  · next h => rw [posPart_of_nonpos (not_lt.mp fun hh => h (decide_eq_true hh)), mul_zero, add_zero]

/-- `L_high` dominates the error and `error + B * violation_j` for every constraint (`B ≥ 0`). -/
theorem lHigh_ge (T : Table) (B : Rat) (hB : 0 ≤ B) (Q : Nat → Rat) :
    errQ T Q ≤ lHigh T B Q ∧ ∀ j < T.nC, errQ T Q + B * viol T Q j ≤ lHigh T B Q := by
  rw [lHigh_eq]
  refine ⟨le_add_of_nonneg_right (mul_nonneg hB (posPart_nonneg _)), fun j hj => ?_⟩
  exact add_le_add le_rfl (mul_le_mul_of_nonneg_left ((viol_le_maxViol T Q j hj).trans (le_posPart _)) hB)

/-- the step from the `L_high` chain to both guarantees: callers put `e' = error(Q')` and `u = 2 g (+ _PRECISION)` -/
theorem both_guarantees_of_lHigh_le (T : Table) (B : Rat) (hB : 0 < B) (Q : Nat → Rat) (e' u : Rat)
    (h : lHigh T B Q ≤ e' + u) :
    errQ T Q ≤ e' + u ∧ (0 ≤ errQ T Q → e' ≤ 1 → ∀ j < T.nC, gamQ T Q j - T.c j ≤ (1 + u) / B) := by
  obtain ⟨h1, h2⟩ := lHigh_ge T B hB.le Q
  refine ⟨h1.trans h, fun he0 he1 j hj => ?_⟩
  rw [le_div_iff₀ hB, mul_comm]
  exact (le_add_of_nonneg_left he0).trans ((h2 j hj).trans (h.trans (add_le_add he1 le_rfl)))

/-- against a mixture all of whose violations are at most `t ≥ 0`, no multiplier `λ ≥ 0` with `‖λ‖₁ ≤ B` gets more than
    `error + B t` -/
theorem lagr_le_of_viol_le (T : Table) (B : Rat) (Q lam : Nat → Rat) (hl : ∀ j < T.nC, 0 ≤ lam j)
    (hB : ∑ j ∈ range T.nC, lam j ≤ B) (t : Rat) (ht : 0 ≤ t) (hv : ∀ j < T.nC, viol T Q j ≤ t) :
    lagr T Q lam ≤ errQ T Q + B * t := by
  rw [lagr_def, sumTo_eq]
  refine add_le_add le_rfl (le_trans ?_ (mul_le_mul_of_nonneg_right hB ht))
  rw [Finset.sum_mul]
  exact Finset.sum_le_sum fun j hj =>
    mul_le_mul_of_nonneg_left (hv j (Finset.mem_range.mp hj)) (hl j (Finset.mem_range.mp hj))

/-- `L_high` really is the value of the best response of the multiplier player:
    `L(Q, λ) ≤ L_high` for every `λ ≥ 0` with `‖λ‖₁ ≤ B`. -/
theorem lagr_le_lHigh (T : Table) (B : Rat) (Q lam : Nat → Rat)
    (hl : ∀ j < T.nC, 0 ≤ lam j) (hB : ∑ j ∈ range T.nC, lam j ≤ B) :
    lagr T Q lam ≤ lHigh T B Q := by
  rw [lHigh_eq]
  exact lagr_le_of_viol_le T B Q lam hl hB _ (posPart_nonneg _) fun j hj =>
    (viol_le_maxViol T Q j hj).trans (le_posPart _)

/-! ### project_lambda -/

theorem posPart_sub (a b : Rat) : posPart (a - b) - posPart (b - a) = a - b := by
  rcases le_total a b with h | h
  · rw [posPart_of_nonpos (sub_nonpos.mpr h), posPart_of_nonneg (sub_nonneg.mpr h)]; ring
  · rw [posPart_of_nonneg (sub_nonneg.mpr h), posPart_of_nonpos (sub_nonpos.mpr h)]; ring

theorem posPart_add_le (a b : Rat) (ha : 0 ≤ a) (hb : 0 ≤ b) : posPart (a - b) + posPart (b - a) ≤ a + b := by
  rcases le_total a b with h | h
  · rw [posPart_of_nonpos (sub_nonpos.mpr h), posPart_of_nonneg (sub_nonneg.mpr h), zero_add]
    exact (sub_le_self b ha).trans (le_add_of_nonneg_left ha)
  · rw [posPart_of_nonneg (sub_nonneg.mpr h), posPart_of_nonpos (sub_nonpos.mpr h), add_zero]
    exact (sub_le_self a hb).trans (le_add_of_nonneg_right hb)

/-- the lifted `+` entry of `project_lambda` is the positive part of the pair's difference … -/
theorem src_posOf (a b : Rat) : ProjectLambdaSrc.posOf a b = posPart (a - b) := rfl

/-- … and the lifted `-` entry is the positive part of the opposite difference (this is where the data flow of the
    source — `lambda_neg` negates the UNCLIPPED `lambda_pos` — and its signs enter the C08 proofs) -/
theorem src_negOf (a b : Rat) : ProjectLambdaSrc.negOf a b = posPart (b - a) := by
  rw [← neg_sub a b]; rfl

theorem project_lo (m : Nat) (lam : Nat → Rat) (j : Nat) (hj : j < m) :
    project m lam j = posPart (lam j - lam (j + m)) := if_pos hj

theorem project_hi (m : Nat) (lam : Nat → Rat) (j : Nat) :
    project m lam (m + j) = posPart (lam (m + j) - lam j) := by
  rw [project, if_neg (Nat.not_lt.mpr (Nat.le_add_right m j)), src_negOf, Nat.add_sub_cancel_left]

theorem project_nonneg (m : Nat) (lam : Nat → Rat) (j : Nat) : 0 ≤ project m lam j := by
  unfold project; split
  · exact posPart_nonneg _
  · rw [src_negOf]; exact posPart_nonneg _

/-- `project_lambda` does not change `λ·γ` when the `-` entries of `γ` are the negated `+` entries
    (true for every UtilityParity moment with ratio 1), so a best response to `λ` is a best response to
    the projected vector: `best_h(λ̂)` may be called with the unprojected multipliers. -/
theorem project_dot (m : Nat) (lam gam : Nat → Rat) (hg : ∀ j < m, gam (m + j) = -gam j) :
    ∑ j ∈ range (m + m), project m lam j * gam j = ∑ j ∈ range (m + m), lam j * gam j := by
  rw [Finset.sum_range_add, Finset.sum_range_add, ← Finset.sum_add_distrib, ← Finset.sum_add_distrib]
  apply Finset.sum_congr rfl
  intro j hj
  have hj' := Finset.mem_range.mp hj
  rw [project_lo m lam j hj', project_hi, hg j hj', add_comm j m, mul_neg, mul_neg, ← sub_eq_add_neg, ← sub_eq_add_neg,
    ← sub_mul, ← sub_mul, posPart_sub]

theorem project_l1_le (m : Nat) (lam : Nat → Rat) (hl : ∀ j < m + m, 0 ≤ lam j) :
    ∑ j ∈ range (m + m), project m lam j ≤ ∑ j ∈ range (m + m), lam j := by
  rw [Finset.sum_range_add, Finset.sum_range_add, ← Finset.sum_add_distrib, ← Finset.sum_add_distrib]
  apply Finset.sum_le_sum
  intro j hj
  have hj' := Finset.mem_range.mp hj
  rw [project_lo m lam j hj', project_hi, add_comm j m]
  exact posPart_add_le _ _ (hl j (Nat.lt_add_right m hj')) (hl (m + j) (Nat.add_lt_add_left hj' m))

/-! ### running minima: `minL`, and the fold that computes `L_low` -/

theorem minL_le_init : ∀ (x : Rat) (xs : List Rat), minL x xs ≤ x
  | _, [] => le_refl _
  | x, y :: ys => by
    rw [minL]
    split
    · next h => exact le_trans (minL_le_init y ys) (le_of_lt h)
    · exact minL_le_init x ys

theorem minL_le_mem : ∀ (x : Rat) (xs : List Rat), ∀ y ∈ xs, minL x xs ≤ y
  | x, z :: zs, y, hy => by
    rw [minL]
    rcases List.mem_cons.mp hy with rfl | hy
    · split
      · exact minL_le_init _ _
      · next h => exact le_trans (minL_le_init x zs) (not_lt.mp h)
    · exact minL_le_mem _ zs y hy

theorem le_minL (m : Rat) : ∀ (x : Rat) (xs : List Rat), m ≤ x → (∀ y ∈ xs, m ≤ y) → m ≤ minL x xs
  | _, [], h, _ => h
  | x, y :: ys, h, hl => by
    have hl := List.forall_mem_cons.mp hl
    rw [minL]
    refine le_minL m _ ys ?_ hl.2
    split
    · exact hl.1
    · exact h

theorem minL_mem : ∀ (x : Rat) (xs : List Rat), minL x xs ∈ x :: xs
  | _, [] => List.mem_cons_self
  | x, y :: ys => by
    rw [minL]
    split
    · exact List.mem_cons_of_mem _ (minL_mem y ys)
    · rcases List.mem_cons.mp (minL_mem x ys) with h | h
      · rw [h]; exact List.mem_cons_self
      · exact List.mem_cons_of_mem _ (List.mem_cons_of_mem _ h)

theorem foldMin_eq_minL (f : Nat → Rat) : ∀ (l : List Nat) (init : Rat),
    l.foldl (fun acc i => if f i < acc then f i else acc) init = minL init (l.map f)
  | [], _ => rfl
  | _ :: l, _ => foldMin_eq_minL f l _

theorem foldMin_le_init (f : Nat → Rat) (l : List Nat) (init : Rat) :
    l.foldl (fun acc i => if f i < acc then f i else acc) init ≤ init := by
  rw [foldMin_eq_minL]; exact minL_le_init _ _

theorem foldMin_le_mem (f : Nat → Rat) (l : List Nat) (init : Rat) (i : Nat) (hi : i ∈ l) :
    l.foldl (fun acc i => if f i < acc then f i else acc) init ≤ f i := by
  rw [foldMin_eq_minL]; exact minL_le_mem _ _ _ (List.mem_map_of_mem hi)

theorem le_foldMin (f : Nat → Rat) (m : Rat) (l : List Nat) (init : Rat) (h : m ≤ init) (hl : ∀ i ∈ l, m ≤ f i) :
    m ≤ l.foldl (fun acc i => if f i < acc then f i else acc) init := by
  rw [foldMin_eq_minL]
  exact le_minL m _ _ h (List.forall_mem_map.mpr hl)

theorem lLow_le_L (T : Table) (Q lam : Nat → Rat) (cands : List Nat) :
    lLow T Q lam cands ≤ lagr T Q lam := foldMin_le_init _ _ _

theorem lLow_le_pure (T : Table) (Q lam : Nat → Rat) (cands : List Nat) (i : Nat) (hi : i ∈ cands) :
    lLow T Q lam cands ≤ lPure T lam i := foldMin_le_mem _ _ _ i hi

theorem lLow_mono (T : Table) (Q lam : Nat → Rat) {cands cands' : List Nat}
    (h : ∀ i ∈ cands', ∃ j ∈ cands, lPure T lam j ≤ lPure T lam i) : lLow T Q lam cands ≤ lLow T Q lam cands' :=
  le_foldMin _ _ _ _ (lLow_le_L T Q lam cands) fun i hi =>
    let ⟨j, hj, hji⟩ := h i hi; (lLow_le_pure T Q lam cands j hj).trans hji

/-- every mixture over the class has Lagrangian value at least `L_low` computed over the whole class -/
theorem lLow_le_mix (T : Table) (Q lam Q' : Nat → Rat) (hsum : ∑ i ∈ range T.nH, Q' i = 1)
    (hnn : ∀ i < T.nH, 0 ≤ Q' i) :
    lLow T Q lam (List.range T.nH) ≤ lagr T Q' lam :=
  le_lagr_of_le_pure T Q' lam _ hsum hnn fun i hi => lLow_le_pure T Q lam _ i (List.mem_range.mpr hi)

/-! ### selection of the returned iterate -/

/-- the minimum of a gap list (0 for the empty list, which never occurs) -/
def minOf : List Rat → Rat
  | [] => 0
  | g :: gs => minL g gs

theorem minOf_le (gaps : List Rat) (k : Nat) (hk : k < gaps.length) : minOf gaps ≤ gaps.getD k 0 := by
  cases gaps with
  | nil => simp at hk
  | cons g gs =>
    rcases List.mem_cons.mp (getD_mem (g :: gs) k 0 hk) with h | h
    · rw [h]; exact minL_le_init g gs
    · exact minL_le_mem g gs _ h

theorem getLast?_filter_range {p : Nat → Bool} {n i : Nat} (h : ((List.range n).filter p).getLast? = some i) :
    i < n ∧ p i = true ∧ ∀ k < n, p k = true → k ≤ i := by
  have hmem := List.mem_filter.mp (List.mem_of_getLast? h)
  refine ⟨List.mem_range.mp hmem.1, hmem.2, fun k hk hpk => ?_⟩
  have hk' : k ∈ (List.range n).filter p := List.mem_filter.mpr ⟨List.mem_range.mpr hk, hpk⟩
  rw [List.getLast?_eq_some_getLast (List.ne_nil_of_mem hk')] at h
  exact ((((List.pairwise_lt_range (n := n)).filter p).imp (fun {a b} (hab : a < b) => hab.le)).rel_getLast hk').trans_eq
    (Option.some.inj h)

/-- `best_iter_` is the LAST iteration whose gap is within `_PRECISION` of the smallest gap. -/
theorem bestIter_spec (gaps : List Rat) (i : Nat) (h : bestIter gaps = some i) :
    i < gaps.length ∧ EGGen.keep (gaps.getD i 0) (minOf gaps) = true ∧
    ∀ k < gaps.length, EGGen.keep (gaps.getD k 0) (minOf gaps) = true → k ≤ i := by
  cases gaps with
  | nil => cases h
  | cons g gs => exact getLast?_filter_range h

theorem precision_nonneg : (0 : Rat) ≤ EGGen.precision := by norm_num [EGGen.precision]

theorem bestIter_isSome (gaps : List Rat) (hne : gaps ≠ []) : ∃ i, bestIter gaps = some i := by
  cases gaps with
  | nil => exact absurd rfl hne
  | cons g gs =>
    rw [bestIter, if_pos (show EGGen.pickLast = true from rfl)]
    obtain ⟨k, hk, hkv⟩ := List.getElem_of_mem (minL_mem g gs)
    have hkept : k ∈ (List.range (g :: gs).length).filter
        (fun i => EGGen.keep ((g :: gs).getD i 0) (minL g gs)) := by
      rw [List.mem_filter, List.mem_range, List.getD_eq_getElem?_getD, List.getElem?_eq_getElem hk, Option.getD_some, hkv]
      exact ⟨hk, decide_eq_true (le_add_of_nonneg_right precision_nonneg)⟩
    exact ⟨_, List.getLast?_eq_some_getLast (List.ne_nil_of_mem hkept)⟩

/-- either the last gap is kept, then it is the best iterate; or it exceeds `min + _PRECISION`, then the best iterate's
    gap is at most `min + _PRECISION <` last `< nu` -/
theorem bestIter_lt_of_last_lt (gaps : List Rat) (g nu : Rat) (hlast : gaps.getLast? = some g) (hg : g < nu) :
    ∃ i, bestIter gaps = some i ∧ gaps.getD i 0 < nu := by
  have hne : gaps ≠ [] := fun h => by rw [h] at hlast; cases hlast
  obtain ⟨i, hi⟩ := bestIter_isSome gaps hne
  obtain ⟨h1, h2, h3⟩ := bestIter_spec gaps i hi
  refine ⟨i, hi, ?_⟩
  have hgl : gaps.getD (gaps.length - 1) 0 = g := by
    rw [List.getD_eq_getElem?_getD, ← List.getLast?_eq_getElem?, hlast]; rfl
  by_cases hk : EGGen.keep g (minOf gaps) = true
  · have hle := h3 (gaps.length - 1) (Nat.sub_lt (List.length_pos_iff.mpr hne) Nat.one_pos) (hgl.symm ▸ hk)
    rw [Nat.le_antisymm (Nat.le_sub_one_of_lt h1) hle, hgl]; exact hg
  · exact ((of_decide_eq_true h2).trans_lt (not_le.mp fun h => hk (decide_eq_true h))).trans hg

end Saddle
