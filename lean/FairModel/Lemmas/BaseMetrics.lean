/-
Lemmas about `Model/BaseMetrics.lean`: the algebra of `wsum` / `ratio` / `cell` / `rowTot`; `uniqueSorted` is
`np.unique` (membership, order; `sorted_ext` is also used by the bootstrap lemmas); the case analysis of
`labelsForCM` (`_get_labels_for_confusion_matrix`; `labelsForCM_01` serves `Lemmas/Fairness.lean`); division-free
characterisations of `selectionRate` / `meanPrediction` under a positive total weight and the totalisation
artefacts at total weight 0 (numpy: NaN; sklearn: ValueError).
-/
import FairModel.Lemmas.Prelude
import FairModel.Lemmas.WeightedMean
import FairModel.Model.BaseMetrics

namespace BaseMetrics

/-- every row weight is strictly positive (the quantifier of C14) -/
def PosW (rows : List Row) : Prop := ∀ r ∈ rows, 0 < r.w

instance (rows : List Row) : Decidable (PosW rows) := by unfold PosW; infer_instance

/-- total weight / positivity of the weights of `mean_prediction` rows -/
def totalP (rows : List PRow) : Rat := (rows.map (·.w)).sum
def PosP (rows : List PRow) : Prop := ∀ r ∈ rows, 0 < r.w

instance (rows : List PRow) : Decidable (PosP rows) := by unfold PosP; infer_instance

@[simp] theorem wsum_nil (p : Row → Bool) : wsum p [] = 0 := rfl

theorem wsum_cons (p : Row → Bool) (r : Row) (rs : List Row) :
    wsum p (r :: rs) = (if p r then r.w else 0) + wsum p rs := by
  unfold wsum
  rw [List.filter_cons]
  split
  · rw [List.map_cons, List.sum_cons]
  · rw [zero_add]

theorem wsum_append (p : Row → Bool) (a b : List Row) :
    wsum p (a ++ b) = wsum p a + wsum p b := by
  unfold wsum
  rw [List.filter_append, List.map_append, List.sum_append]

theorem wsum_nonneg (p : Row → Bool) (rows : List Row) (hw : ∀ r ∈ rows, 0 ≤ r.w) :
    0 ≤ wsum p rows :=
  List.sum_nonneg fun _ hx =>
    let ⟨r, hr, e⟩ := List.mem_map.mp hx
    e ▸ hw r (List.mem_of_mem_filter hr)

theorem wsum_pos_of_mem (p : Row → Bool) (rows : List Row) (hw : ∀ r ∈ rows, 0 ≤ r.w)
    (r : Row) (hr : r ∈ rows) (hp : p r = true) (hpos : 0 < r.w) : 0 < wsum p rows :=
  lt_of_lt_of_le hpos (List.single_le_sum
    (fun x hx => by obtain ⟨r', hr', rfl⟩ := List.mem_map.mp hx; exact hw r' (List.mem_of_mem_filter hr')) _
    (List.mem_map_of_mem (List.mem_filter.mpr ⟨hr, hp⟩)))

theorem ratio_nonneg {n d : Rat} (hn : 0 ≤ n) (hd : 0 ≤ d) : 0 ≤ ratio n d := by
  unfold ratio; split
  · exact le_refl _
  · exact div_nonneg hn hd

theorem ratio_le_one {n d : Rat} (hd : 0 ≤ d) (hnd : n ≤ d) : ratio n d ≤ 1 := by
  unfold ratio; split
  · exact zero_le_one
  · next h => exact (div_le_one (lt_of_le_of_ne hd (Ne.symm h))).mpr hnd

/-- a non-negative part of a non-negative total, as a `ratio`, is in [0,1] -/
theorem ratio_left_unit {a b : Rat} (ha : 0 ≤ a) (hb : 0 ≤ b) :
    0 ≤ ratio a (a + b) ∧ ratio a (a + b) ≤ 1 :=
  ⟨ratio_nonneg ha (add_nonneg ha hb), ratio_le_one (add_nonneg ha hb) (le_add_of_nonneg_right hb)⟩

theorem ratio_right_unit {a b : Rat} (ha : 0 ≤ a) (hb : 0 ≤ b) :
    0 ≤ ratio b (a + b) ∧ ratio b (a + b) ≤ 1 :=
  ⟨ratio_nonneg hb (add_nonneg ha hb), ratio_le_one (add_nonneg ha hb) (le_add_of_nonneg_left ha)⟩

theorem ratio_add {a b : Rat} (h : a + b ≠ 0) : ratio a (a + b) + ratio b (a + b) = 1 := by
  unfold ratio
  rw [if_neg h, if_neg h, ← add_div, div_self h]

theorem ratio_zero_den (n : Rat) : ratio n 0 = 0 := if_pos rfl

theorem ratio_zero_num (d : Rat) : ratio 0 d = 0 := by unfold ratio; split <;> simp

/-! ### `np.unique` as insertion sort: membership and order -/

theorem mem_insertSorted (x y : Int) (l : List Int) :
    y ∈ insertSorted x l ↔ y = x ∨ y ∈ l := by
  induction l with
  | nil => rw [insertSorted, List.mem_singleton]; exact (or_iff_left List.not_mem_nil).symm
  | cons a as ih =>
    rw [insertSorted]
    split_ifs with h1 h2
    · exact List.mem_cons
    · exact (or_iff_right_of_imp fun h => h ▸ h2 ▸ List.mem_cons_self).symm
    · rw [List.mem_cons, ih, List.mem_cons]; exact or_left_comm

theorem sorted_insertSorted (x : Int) (l : List Int) (hl : l.Pairwise (· < ·)) :
    (insertSorted x l).Pairwise (· < ·) := by
  induction l with
  | nil => exact List.pairwise_singleton _ _
  | cons a as ih =>
    have ⟨ha, has⟩ := List.pairwise_cons.mp hl
    rw [insertSorted]
    split_ifs with h1 h2
    · exact List.pairwise_cons.mpr
        ⟨fun b hb => (List.mem_cons.mp hb).elim (· ▸ h1) (fun hb => h1.trans (ha b hb)), hl⟩
    · exact hl
    · refine List.pairwise_cons.mpr ⟨fun b hb => ?_, ih has⟩
      rcases (mem_insertSorted x b as).mp hb with rfl | hb
      · exact lt_of_le_of_ne (not_lt.mp h1) (Ne.symm h2)
      · exact ha b hb

theorem sorted_uniqueSorted (l : List Int) : (uniqueSorted l).Pairwise (· < ·) := by
  induction l with
  | nil => exact List.Pairwise.nil
  | cons a as ih => exact sorted_insertSorted a _ ih

theorem mem_uniqueSorted (x : Int) (l : List Int) : x ∈ uniqueSorted l ↔ x ∈ l := by
  induction l with
  | nil => exact Iff.rfl
  | cons a as ih =>
    rw [uniqueSorted, List.foldr_cons, mem_insertSorted, List.mem_cons, ← uniqueSorted, ih]

theorem sorted_ext (a b : List Int) (ha : a.Pairwise (· < ·)) (hb : b.Pairwise (· < ·))
    (h : ∀ x, x ∈ a ↔ x ∈ b) : a = b :=
  List.Perm.eq_of_pairwise (fun _ _ _ _ h1 h2 => absurd h1 (lt_asymm h2)) ha hb
    ((List.perm_ext_iff_of_nodup (ha.imp ne_of_lt) (hb.imp ne_of_lt)).mpr h)

theorem uniqueSorted_congr (a b : List Int) (h : ∀ x, x ∈ a ↔ x ∈ b) :
    uniqueSorted a = uniqueSorted b :=
  sorted_ext _ _ (sorted_uniqueSorted a) (sorted_uniqueSorted b)
    (fun x => by rw [mem_uniqueSorted, mem_uniqueSorted]; exact h x)

/-! ### `_get_labels_for_confusion_matrix`: with `pos_label` given the label count decides;
`pos_label=None` is `pos_label=1` after the check of the label set -/

theorem labelsForCM_some (labels : List Int) (p : Int) :
    labelsForCM labels (some p) =
      match uniqueSorted labels with
      | [a] => if a = p then .ok (int64Min, p) else .ok (a, p)
      | [a, b] => if p = a then .ok (b, a) else if p = b then .ok (a, b) else .error .needPos
      | _ => .error .tooMany := rfl

theorem labelsForCM_none (labels : List Int) :
    labelsForCM labels none =
      if (uniqueSorted labels).all (fun x => x = 0 || x = 1) ||
          (uniqueSorted labels).all (fun x => x = -1 || x = 1)
      then labelsForCM labels (some 1) else .error .restricted := by
  unfold labelsForCM
  dsimp only
  cases ((uniqueSorted labels).all (fun x => x = 0 || x = 1) ||
    (uniqueSorted labels).all (fun x => x = -1 || x = 1)) <;> rfl

/-- accepted inputs carry no third label: every label is the returned negative or positive one -/
theorem labelsForCM_ok_mem (labels : List Int) (p : Option Int) (neg pos : Int)
    (h : labelsForCM labels p = .ok (neg, pos)) : ∀ x ∈ labels, x = neg ∨ x = pos := by
  obtain ⟨q, h⟩ : ∃ q, labelsForCM labels (some q) = .ok (neg, pos) := by
    cases p with
    | some q => exact ⟨q, h⟩
    | none =>
      rw [labelsForCM_none] at h
      split at h
      · exact ⟨1, h⟩
      · cases h
  intro x hx
  rw [← mem_uniqueSorted] at hx
  rw [labelsForCM_some] at h
  generalize uniqueSorted labels = u at h hx
  rcases u with _ | ⟨a, _ | ⟨b, _ | ⟨c, t⟩⟩⟩
  · cases h
  · rw [List.mem_singleton] at hx
    subst hx
    dsimp only at h
    split at h <;> cases h
    · exact Or.inr ‹_›
    · exact Or.inl rfl
  · dsimp only at h
    have hx := List.mem_pair.mp hx
    split_ifs at h <;> cases h
    · exact hx.symm
    · exact hx
  · cases h

/-- two observed values and a `pos_label` equal to one of them: accepted, positive label last -/
theorem labelsForCM_two (labels : List Int) (a b : Int) (hu : uniqueSorted labels = [a, b]) :
    labelsForCM labels (some a) = .ok (b, a) ∧ labelsForCM labels (some b) = .ok (a, b) := by
  have hs := sorted_uniqueSorted labels
  rw [hu] at hs
  have hne : b ≠ a := ne_of_gt (List.rel_of_pairwise_cons hs List.mem_cons_self)
  rw [labelsForCM_some, labelsForCM_some, hu]
  exact ⟨if_pos rfl, (if_neg hne).trans (if_pos rfl)⟩

/-- a single observed value: `pos_label` = that value pairs it with the sentinel, any other `pos_label`
    makes the observed value the negative class -/
theorem labelsForCM_single (labels : List Int) (a : Int) (hu : uniqueSorted labels = [a]) (p : Int) :
    labelsForCM labels (some p) = if a = p then .ok (int64Min, p) else .ok (a, p) := by
  rw [labelsForCM_some, hu]

/-- `pos_label=None` on the two default encodings -/
theorem labelsForCM_default (labels : List Int) :
    (uniqueSorted labels = [0, 1] → labelsForCM labels none = .ok (0, 1)) ∧
    (uniqueSorted labels = [-1, 1] → labelsForCM labels none = .ok (-1, 1)) ∧
    (uniqueSorted labels = [0] → labelsForCM labels none = .ok (0, 1)) ∧
    (uniqueSorted labels = [-1] → labelsForCM labels none = .ok (-1, 1)) ∧
    (uniqueSorted labels = [1] → labelsForCM labels none = .ok (int64Min, 1)) := by
  refine ⟨?_, ?_, ?_, ?_, ?_⟩ <;> intro hu <;> rw [labelsForCM_none, labelsForCM_some, hu] <;> rfl

/-- `pos_label=None` is accepted exactly on label sets inside {0,1} or inside {-1,1} (then the label
    count decides); otherwise the call is rejected with the "restricted" error -/
theorem labelsForCM_none_restricted_iff (labels : List Int) :
    labelsForCM labels none = .error .restricted ↔
      ¬ ((∀ x ∈ labels, x = 0 ∨ x = 1) ∨ (∀ x ∈ labels, x = -1 ∨ x = 1)) := by
  have e : ∀ a b : Int,
      (uniqueSorted labels).all (fun x => x = a || x = b) = true ↔ ∀ x ∈ labels, x = a ∨ x = b := by
    intro a b
    simp only [List.all_eq_true, Bool.or_eq_true, decide_eq_true_eq, mem_uniqueSorted]
  -- with `pos_label` given the "restricted" error cannot arise
  have hne : labelsForCM labels (some 1) ≠ .error .restricted := by
    rw [labelsForCM_some]
    split
    · split_ifs <;> rintro ⟨⟩
    · split_ifs <;> rintro ⟨⟩
    · rintro ⟨⟩
  rw [labelsForCM_none, ← e, ← e, ← Bool.or_eq_true]
  split_ifs with h
  · exact iff_of_false hne (not_not_intro h)
  · exact iff_of_true rfl h

/-- a strictly increasing list over {0,1} is one of `[]`, `[0]`, `[1]`, `[0, 1]` -/
theorem sorted_zero_one_cases {l : List Int} (hs : l.Pairwise (· < ·)) (h01 : ∀ z ∈ l, z = 0 ∨ z = 1) :
    l = [] ∨ l = [0] ∨ l = [1] ∨ l = [0, 1] := by
  match l, hs, h01 with
  | [], _, _ => exact Or.inl rfl
  | [a], _, h01 =>
    rcases h01 a List.mem_cons_self with rfl | rfl
    · exact Or.inr (Or.inl rfl)
    · exact Or.inr (Or.inr (Or.inl rfl))
  | a :: b :: rest, hs, h01 =>
    have h1 := List.pairwise_cons.mp hs
    have hab := h1.1 b List.mem_cons_self
    have ha := h01 a List.mem_cons_self
    have hb := h01 b (List.mem_cons_of_mem _ List.mem_cons_self)
    obtain ⟨rfl, rfl⟩ : a = 0 ∧ b = 1 := by omega
    cases rest with
    | nil => exact Or.inr (Or.inr (Or.inr rfl))
    | cons c r =>
      have hbc := (List.pairwise_cons.mp h1.2).1 c List.mem_cons_self
      have hc := h01 c (List.mem_cons_of_mem _ (List.mem_cons_of_mem _ List.mem_cons_self))
      omega

/-- `pos_label=None` on labels inside {0,1}: positive label 1; the negative label is 0 if it occurs, else the
    sentinel -/
theorem labelsForCM_01 (labels : List Int) (h01 : ∀ x ∈ labels, x = 0 ∨ x = 1) (hne : labels ≠ []) :
    labelsForCM labels none = .ok (if 0 ∈ labels then 0 else int64Min, 1) := by
  obtain ⟨d1, _, d3, _, d5⟩ := labelsForCM_default labels
  have hm := fun x => mem_uniqueSorted x labels
  rcases sorted_zero_one_cases (sorted_uniqueSorted labels) (fun z hz => h01 z ((hm z).mp hz)) with hu | hu | hu | hu
  · obtain ⟨x, hx⟩ := List.exists_mem_of_ne_nil _ hne
    exact absurd ((hm x).mpr hx) (hu ▸ List.not_mem_nil)
  · rw [if_pos ((hm 0).mp (hu ▸ List.mem_cons_self)), d3 hu]
  · have h0 : (0 : Int) ∉ labels := fun h =>
      absurd (List.mem_singleton.mp (hu ▸ (hm 0).mpr h)) (by decide)
    rw [if_neg h0, d5 hu]
  · rw [if_pos ((hm 0).mp (hu ▸ List.mem_cons_self)), d1 hu]

theorem PosW.nonneg {rows : List Row} (h : PosW rows) : ∀ r ∈ rows, 0 ≤ r.w :=
  fun r hr => le_of_lt (h r hr)

theorem wsum_eq_zero_of_forall_false (p : Row → Bool) (rows : List Row)
    (h : ∀ r ∈ rows, p r = false) : wsum p rows = 0 := by
  rw [wsum, List.filter_eq_nil_iff.mpr fun r hr => by rw [h r hr]; exact Bool.false_ne_true]
  rfl

theorem cell_eq_zero_of_no_true (rows : List Row) (a b : Int) (h : ∀ r ∈ rows, r.yt ≠ a) :
    cell rows a b = 0 :=
  wsum_eq_zero_of_forall_false _ rows (fun r hr => by simp [h r hr])

theorem cell_eq_zero_of_no_pred (rows : List Row) (a b : Int) (h : ∀ r ∈ rows, r.yp ≠ b) :
    cell rows a b = 0 :=
  wsum_eq_zero_of_forall_false _ rows (fun r hr => by simp [h r hr])

/-- with positive weights a sum over a predicate vanishes only if no row satisfies it -/
theorem wsum_eq_zero_iff_of_pos (p : Row → Bool) (rows : List Row) (hw : PosW rows) :
    wsum p rows = 0 ↔ ∀ r ∈ rows, p r = false := by
  constructor
  · intro h r hr
    by_contra hp
    have hp' : p r = true := by simpa using hp
    have := wsum_pos_of_mem p rows hw.nonneg r hr hp' (hw r hr)
    linarith
  · exact wsum_eq_zero_of_forall_false p rows

/-- the confusion-matrix row total of class `c` is the weight of ALL rows of true class `c`, provided
    every prediction is one of the two labels of the matrix -/
theorem rowTot_eq_class_weight (rows : List Row) (neg pos c : Int) (hnp : neg ≠ pos)
    (hyp : ∀ r ∈ rows, r.yp = neg ∨ r.yp = pos) :
    rowTot rows neg pos c = wsum (fun r => r.yt == c) rows := by
  induction rows with
  | nil => simp [rowTot, cell]
  | cons r rs ih =>
    have ih' := ih (fun x hx => hyp x (List.mem_cons_of_mem _ hx))
    unfold rowTot cell at ih' ⊢
    rw [wsum_cons, wsum_cons, wsum_cons, ← ih']
    rcases hyp r List.mem_cons_self with h | h
    · simp only [h, beq_self_eq_true, beq_eq_false_iff_ne.mpr hnp, Bool.and_true, Bool.and_false,
        Bool.false_eq_true, if_false]
      ring
    · simp only [h, beq_self_eq_true, beq_eq_false_iff_ne.mpr hnp.symm, Bool.and_true, Bool.and_false,
        Bool.false_eq_true, if_false]
      ring

theorem rate_of_labels (k : Kind) {rows : List Row} {p : Option Int} {neg pos : Int}
    (hl : labelsForCM (allLabels rows) p = .ok (neg, pos)) : rate k rows p = .ok (rateOf k rows neg pos) := by
  rw [rate, hl]

/-- two rates returned for the same arguments were computed with the same label pair -/
theorem rate_ok_pair {k₁ k₂ : Kind} {rows : List Row} {p : Option Int} {x y : Rat}
    (hx : rate k₁ rows p = .ok x) (hy : rate k₂ rows p = .ok y) :
    ∃ neg pos, labelsForCM (allLabels rows) p = .ok (neg, pos) ∧
      x = rateOf k₁ rows neg pos ∧ y = rateOf k₂ rows neg pos := by
  unfold rate at hx hy
  cases hl : labelsForCM (allLabels rows) p with
  | error e => rw [hl] at hx; cases hx
  | ok np =>
    rw [hl] at hx hy
    exact ⟨np.1, np.2, rfl, (Except.ok.inj hx).symm, (Except.ok.inj hy).symm⟩

/-- on accepted inputs every prediction is one of the two labels of the confusion matrix -/
theorem labelsForCM_ok_pred {rows : List Row} {p : Option Int} {neg pos : Int}
    (hl : labelsForCM (allLabels rows) p = .ok (neg, pos)) : ∀ r ∈ rows, r.yp = neg ∨ r.yp = pos :=
  fun r hr => labelsForCM_ok_mem _ _ _ _ hl r.yp
    (List.mem_append_right _ (List.mem_map_of_mem hr))

theorem rowTot_eq_zero_of_no_true (rows : List Row) (neg pos a : Int) (h : ∀ r ∈ rows, r.yt ≠ a) :
    rowTot rows neg pos a = 0 := by
  rw [rowTot, cell_eq_zero_of_no_true rows a _ h, cell_eq_zero_of_no_true rows a _ h, add_zero]

/-! ### selection_rate / mean_prediction: genuine quotients under a positive total weight -/

theorem totalW_pos (rows : List Row) (hne : rows ≠ []) (hw : PosW rows) : 0 < totalW rows :=
  WeightedMean.den_pos (fun r : Row => r.w) rows hw hne

/-- the value returned by `selection_rate` is THE number `v` with `v · Σw = Σ_{pred = pos} w`
    (no division: nothing here can be true because of `x / 0 = 0`) -/
theorem selectionRate_spec (rows : List Row) (pos : Int) (hne : rows ≠ []) (hw : PosW rows) :
    ∃ v, selectionRate rows pos = .ok v ∧ v * totalW rows = wsum (fun r => r.yp == pos) rows ∧
      ∀ v', v' * totalW rows = wsum (fun r => r.yp == pos) rows → v' = v := by
  have hne' : totalW rows ≠ 0 := ne_of_gt (totalW_pos rows hne hw)
  refine ⟨_, by rw [selectionRate, if_neg (by simpa using hne)], div_mul_cancel₀ _ hne', fun v' hv' => ?_⟩
  rw [← hv', mul_div_cancel_right₀ _ hne']

/-- total weight 0 (only possible with non-positive weights): the model's `0` is Lean's `x / 0 = 0`,
    numpy returns NaN there (replayed: `selection_rate([1],[1],sample_weight=[0])` is `nan`).
    Every value theorem about `selectionRate` therefore carries `PosW`. -/
theorem selectionRate_zero_total_is_totalisation (rows : List Row) (pos : Int) (hne : rows ≠ [])
    (h0 : totalW rows = 0) : selectionRate rows pos = .ok 0 := by
  rw [selectionRate, if_neg (by simpa using hne), h0, div_zero]

theorem totalP_pos (rows : List PRow) (hne : rows ≠ []) (hw : PosP rows) : 0 < totalP rows :=
  WeightedMean.den_pos (fun r : PRow => r.w) rows hw hne

/-- `mean_prediction` is THE number `v` with `v · Σw = Σ pred·w` (division-free) -/
theorem meanPrediction_spec (rows : List PRow) (hne : rows ≠ []) (hw : PosP rows) :
    meanPrediction rows * totalP rows = (rows.map (fun r => r.pred * r.w)).sum ∧
      ∀ v', v' * totalP rows = (rows.map (fun r => r.pred * r.w)).sum → v' = meanPrediction rows := by
  have hne' : totalP rows ≠ 0 := ne_of_gt (totalP_pos rows hne hw)
  refine ⟨div_mul_cancel₀ _ hne', fun v' hv' => ?_⟩
  rw [meanPrediction, ← hv']
  exact (mul_div_cancel_right₀ _ hne').symm

/-- a weighted mean with positive weights lies between the smallest and the largest prediction -/
theorem meanPrediction_between (rows : List PRow) (lo hi : Rat) (hne : rows ≠ []) (hw : PosP rows)
    (hb : ∀ r ∈ rows, lo ≤ r.pred ∧ r.pred ≤ hi) : lo ≤ meanPrediction rows ∧ meanPrediction rows ≤ hi := by
  have ht := totalP_pos rows hne hw
  refine ⟨(le_div_iff₀ ht).mpr ?_, (div_le_iff₀ ht).mpr ?_⟩ <;> rw [totalP, ← List.sum_map_mul_left]
  · exact List.sum_le_sum fun r hr => mul_le_mul_of_nonneg_right (hb r hr).1 (hw r hr).le
  · exact List.sum_le_sum fun r hr => mul_le_mul_of_nonneg_right (hb r hr).2 (hw r hr).le

/-- empty input / total weight 0: Lean's `0 / 0 = 0`; numpy returns NaN there (replayed:
    `mean_prediction([], [])` and `mean_prediction([1],[1],sample_weight=[0])` are `nan`) -/
theorem meanPrediction_zero_total_is_totalisation (rows : List PRow) (h0 : totalP rows = 0) :
    meanPrediction rows = 0 := by
  rw [meanPrediction, ← totalP, h0, div_zero]

end BaseMetrics
