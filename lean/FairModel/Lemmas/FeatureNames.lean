/-
Lemmas for the feature-name model (`Model/FeatureNames.lean`).
Imports one non-Mathlib module of the toolchain: `Std.Data.String.ToNat` (`Nat.repr_injective`).
-/
import FairModel.Lemmas.Prelude
import FairModel.Model.FeatureNames
import Std.Data.String.ToNat

namespace FeatureNames

theorem defaultName_inj (base : String) (i j : Nat) (h : defaultName base i = defaultName base j) : i = j := by
  unfold defaultName FeatureNamesSrc.defaultName at h
  have h2 := congrArg String.toList h
  simp only [String.toList_append, List.append_cancel_left_eq] at h2
  exact Nat.repr_injective (String.toList_inj.mp h2)

theorem defaultName_head {base : String} {c : Char} (hb : base.toList.head? = some c) (i : Nat) :
    (defaultName base i).toList.head? = some c := by
  rw [defaultName, FeatureNamesSrc.defaultName, String.toList_append, List.head?_append, hb]
  rfl

theorem sensitiveBase_head : FeatureNamesSrc.sensitiveBase.toList.head? = some 's' := by decide +kernel

theorem controlBase_head : FeatureNamesSrc.controlBase.toList.head? = some 'c' := by decide +kernel

theorem firstDuplicate_none_iff (seen l : List String) :
    firstDuplicate seen l = none ↔ l.Nodup ∧ ∀ x ∈ l, x ∉ seen := by
  induction l generalizing seen with
  | nil => simp [firstDuplicate]
  | cons n ns ih =>
    unfold firstDuplicate
    by_cases h : n ∈ seen
    · rw [if_pos h]
      constructor
      · intro hc; cases hc
      · intro hc; exact absurd h (hc.2 n (by simp))
    · rw [if_neg h, ih]
      simp only [List.nodup_cons, List.mem_cons, forall_eq_or_imp, not_or]
      constructor
      · rintro ⟨h1, h2⟩
        exact ⟨⟨fun hm => (h2 n hm).1 rfl, h1⟩, h, fun x hx => (h2 x hx).2⟩
      · rintro ⟨⟨h1, h2⟩, _, h4⟩
        exact ⟨h2, fun x hx => ⟨fun he => h1 (he ▸ hx), h4 x hx⟩⟩

/-- `reservedClash` says exactly: some feature name is already a column of `all_data` -/
theorem reservedClash_iff (dataCols s cn : List String) :
    reservedClash dataCols s cn = true ↔ ∃ n ∈ s ++ cn, n ∈ dataCols := by
  simp only [reservedClash, FeatureNamesSrc.reservedCheck, FeatureNamesSrc.reservedSensitiveFirst, if_true,
    Bool.true_and, List.any_eq_true, List.contains_iff_mem]

/-- the reserved-name check followed by the duplicate check of `MetricFrame.__init__`, read as conditions on the
    list of all feature names -/
theorem name_checks_eq {ρ : Type} (dataCols s cn : List String) (r : ρ) :
    (if reservedClash dataCols s cn = true then (.error .reservedName : Except FErr ρ)
     else if (firstDuplicate [] (s ++ cn)).isSome = true then .error .duplicateName else .ok r) =
      (if ∃ n ∈ s ++ cn, n ∈ dataCols then .error .reservedName
       else if (s ++ cn).Nodup then .ok r else .error .duplicateName) := by
  simp only [reservedClash_iff, Option.isSome_iff_ne_none, ne_eq, firstDuplicate_none_iff, List.not_mem_nil,
    not_false_eq_true, implies_true, and_true, ite_not]

/-- all-string labels are taken over unchanged -/
theorem columnsNames_str (base : String) (i : Nat) (ss : List String) :
    columnsNames base i (ss.map NameVal.str) = .ok ss := by
  induction ss generalizing i with
  | nil => rfl
  | cons s ss ih => simp [columnsNames, groupFeatureName, ih]

/-- a non-string label anywhere rejects the DataFrame / dict -/
theorem columnsNames_other (base : String) (i : Nat) (cs : List NameVal) (h : NameVal.other ∈ cs) :
    columnsNames base i cs = .error .columnNameNotString := by
  induction cs generalizing i with
  | nil => simp at h
  | cons c cs ih =>
    cases c with
    | other => simp [columnsNames]
    | str s =>
      have : NameVal.other ∈ cs := by simpa using h
      simp [columnsNames, groupFeatureName, ih (i + 1) this]

theorem all_str_or_other (cs : List NameVal) :
    (∃ ss : List String, cs = ss.map NameVal.str) ∨ NameVal.other ∈ cs := by
  induction cs with
  | nil => exact .inl ⟨[], rfl⟩
  | cons c cs ih =>
    cases c with
    | other => exact .inr (by simp)
    | str s =>
      rcases ih with ⟨ss, rfl⟩ | h
      · exact .inl ⟨s :: ss, rfl⟩
      · exact .inr (by simp [h])

end FeatureNames
