import FairModel.Lemmas.Aggregate
import FairModel.Lemmas.BaseMetrics
import FairModel.Lemmas.WeightedMean
import FairModel.Properties.C01
import FairModel.Properties.C02
import FairModel.Model.Fairness

/-! Lemmas for C03 (`Properties/C03.lean`, `C03X.lean`).  The file stands on two property files: the index and
cells of `by_group` are those of C01 (`C01.applyFunctions_cell`, `byGroup_index`, `keyLen_key`), the accessor
defaults those of C02 (`C02.src_*_eq_model`).
  * Specification vocabulary: the first-principles definitions of the base metrics that `Model/Fairness.lean` does
    not already give (`selRateSpec`, `tprSpec`, `fprSpec` are there), written with `wsum` (filter, then sum the
    weights) and Mathlib's `|·|`, `^2`; the model side uses `sumBy` of if-then-else summands resp. the
    confusion-matrix cells.
  * On binary {0,1} data the confusion-matrix rates of `BaseMetrics` (as called with `pos_label=None`) are the
    direct weighted ratios; the weighted means of the pool are their `Σ … / Σ w`.
  * For a metric that is finite on every non-empty slice, the values the aggregates of the one-stratum frame see
    are exactly the metric values of the observed groups.
  * A named function is the row of the lifted table with its name; equalized odds combines the values of the two
    single-metric calls. -/

namespace Fairness
open Frame Aggregate MetricPool XR

/-- Σ_{y=0,pred=0} w / Σ_{y=0} w, and 0 when no row has y=0 (empty denominator) -/
def tnrSpec (ds : List Dat) : Rat :=
  if wsum (fun d => d.y == 0) ds = 0 then 0
  else wsum (fun d => d.y == 0 && d.pred == 0) ds / wsum (fun d => d.y == 0) ds

/-- Σ_{y=1,pred=0} w / Σ_{y=1} w, and 0 when no row has y=1 -/
def fnrSpec (ds : List Dat) : Rat :=
  if wsum (fun d => d.y == 1) ds = 0 then 0
  else wsum (fun d => d.y == 1 && d.pred == 0) ds / wsum (fun d => d.y == 1) ds

/-- Σ_{y=pred} w / Σ w -/
def accuracySpec (ds : List Dat) : Rat := wsum (fun d => d.y == d.pred) ds / wsum (fun _ => true) ds
/-- Σ_{y≠pred} w / Σ w -/
def zeroOneSpec (ds : List Dat) : Rat := wsum (fun d => !(d.y == d.pred)) ds / wsum (fun _ => true) ds
/-- Σ w·|y − pred| / Σ w -/
def maeSpec (ds : List Dat) : Rat :=
  (ds.map (fun d => d.p0 * |d.y - d.pred|)).sum / wsum (fun _ => true) ds
/-- Σ w·(y − pred)² / Σ w -/
def mseSpec (ds : List Dat) : Rat :=
  (ds.map (fun d => d.p0 * (d.y - d.pred) ^ 2)).sum / wsum (fun _ => true) ds
/-- Σ w·pred / Σ w -/
def meanPredictionSpec (ds : List Dat) : Rat :=
  (ds.map (fun d => d.p0 * d.pred)).sum / wsum (fun _ => true) ds

/-- y and pred are 0/1 -/
def Binary (ds : List Dat) : Prop := ∀ d ∈ ds, (d.y = 0 ∨ d.y = 1) ∧ (d.pred = 0 ∨ d.pred = 1)

/-- Σ_{y=c,pred=p} w / Σ_{y=c} w, and 0 when no row has y = c: the common shape of `tprSpec` (c = p = 1),
    `fnrSpec` (1, 0), `fprSpec` (0, 1) and `tnrSpec` (0, 0) -/
def condFrac (c p : Rat) (ds : List Dat) : Rat :=
  if wsum (fun d => d.y == c) ds = 0 then 0
  else wsum (fun d => d.y == c && d.pred == p) ds / wsum (fun d => d.y == c) ds

/-- on the rows `ds` the integer label `a` of the confusion matrix stands for the value `a'` of y / pred.
    (`toBM` keeps only the numerator of y / pred; that is the value itself because `rateCell` first checks
    `isIntLabel`, and on 0/1 data `num_beq` says so directly.) -/
def Stands (ds : List Dat) (a : Int) (a' : Rat) : Prop :=
  ∀ d ∈ ds, ((toBM d).yt == a) = (d.y == a') ∧ ((toBM d).yp == a) = (d.pred == a')

/-- `f` returns the finite scalar `g ds` on every non-empty slice `ds` of the data -/
def FiniteOn (f : List Dat → Cell) (g : List Dat → Rat) (rows : List (Row Dat)) : Prop :=
  ∀ ds : List Dat, ds ≠ [] → (∀ d ∈ ds, ∃ r ∈ rows, r.dat = d) → f ds = .scalar (fin (g ds))

/-- the rows in the same group as `r` (same sensitive feature values), as the metric sees them -/
def groupOf (rows : List (Row Dat)) (r : Row Dat) : List Dat := slice (rowsOf Row.key r.key rows)

/-- what one MetricFrame aggregate of the one-stratum frame evaluates to -/
def perStratum (k : AggKind) (m : Method) (vs : List XR) (o : XR) : XR :=
  match k, m with
  | .groupMin, _ => minSkip vs
  | .groupMax, _ => maxSkip vs
  | .difference, .between => diffOf vs (minSkip vs)
  | .difference, .toOverall => diffOf vs o
  | .ratio, .between => XR.div (minSkip vs) (maxSkip vs)
  | .ratio, .toOverall => ratioOverallOf vs o


theorem binary_isInt {ds : List Dat} (h : Binary ds) : ds.all isIntLabel = true := by
  rw [List.all_eq_true]
  intro d hd
  rcases (h d hd).1 with h1 | h1 <;> rcases (h d hd).2 with h2 | h2 <;> rw [isIntLabel, h1, h2] <;> rfl

theorem toBM_labels {ds : List Dat} (h : Binary ds) :
    ∀ z ∈ BaseMetrics.allLabels (ds.map toBM), z = 0 ∨ z = 1 := by
  intro z hz
  simp only [BaseMetrics.allLabels, List.mem_append, List.mem_map] at hz
  rcases hz with ⟨r, ⟨d, hd, rfl⟩, rfl⟩ | ⟨r, ⟨d, hd, rfl⟩, rfl⟩
  · show d.y.num = 0 ∨ d.y.num = 1
    rcases (h d hd).1 with h1 | h1 <;> rw [h1] <;> decide
  · show d.pred.num = 0 ∨ d.pred.num = 1
    rcases (h d hd).2 with h1 | h1 <;> rw [h1] <;> decide

theorem mem_allLabels_toBM {ds : List Dat} {d : Dat} (hd : d ∈ ds) :
    d.y.num ∈ BaseMetrics.allLabels (ds.map toBM) ∧ d.pred.num ∈ BaseMetrics.allLabels (ds.map toBM) :=
  ⟨List.mem_append_left _ (List.mem_map.mpr ⟨toBM d, List.mem_map_of_mem hd, rfl⟩),
   List.mem_append_right _ (List.mem_map.mpr ⟨toBM d, List.mem_map_of_mem hd, rfl⟩)⟩

theorem wsum_cons (p : Dat → Bool) (d : Dat) (ds : List Dat) :
    wsum p (d :: ds) = (if p d then d.p0 else 0) + wsum p ds := by
  unfold wsum
  rw [List.filter_cons]
  split
  · rw [List.map_cons, List.sum_cons]
  · rw [zero_add]

/-- total weight (BaseMetrics side) of the rows satisfying a predicate, transported along `toBM` -/
theorem wsum_toBM (p : BaseMetrics.Row → Bool) (ds : List Dat) :
    BaseMetrics.wsum p (ds.map toBM) = wsum (fun d => p (toBM d)) ds := by
  induction ds with
  | nil => rfl
  | cons d ds ih => rw [List.map_cons, BaseMetrics.wsum_cons, wsum_cons, ih]; rfl

theorem wsum_congr {p q : Dat → Bool} {ds : List Dat} (h : ∀ d ∈ ds, p d = q d) : wsum p ds = wsum q ds := by
  unfold wsum
  rw [List.filter_congr h]

theorem wsum_split (p q : Dat → Bool) (ds : List Dat) :
    wsum p ds = wsum (fun d => p d && q d) ds + wsum (fun d => p d && !q d) ds := by
  induction ds with
  | nil => exact (add_zero _).symm
  | cons d ds ih =>
    rw [wsum_cons, wsum_cons, wsum_cons, ih]
    cases p d <;> cases q d <;> simp only [Bool.and_true, Bool.and_false, Bool.not_true,
      Bool.not_false, if_true, Bool.false_eq_true, if_false, zero_add, Bool.and_self] <;> ring

theorem wsum_eq_zero_of_forall_false {p : Dat → Bool} {ds : List Dat} (h : ∀ d ∈ ds, p d = false) : wsum p ds = 0 := by
  unfold wsum
  rw [List.filter_eq_nil_iff.mpr (by intro d hd; simp [h d hd])]
  simp

theorem num_beq {q : Rat} (hq : q = 0 ∨ q = 1) : (q.num == 0) = (q == 0) ∧ (q.num == 1) = (q == 1) := by
  rcases hq with rfl | rfl <;> decide

theorem stands_one {ds : List Dat} (h : Binary ds) : Stands ds 1 1 :=
  fun d hd => ⟨(num_beq (h d hd).1).2, (num_beq (h d hd).2).2⟩

/-- the (neg, pos) labels chosen for binary data: positive label 1, and a negative label that stands for 0 (the
    sentinel `int64Min` when no row carries a 0: then no row carries the sentinel either) -/
theorem labelsForCM_binary {ds : List Dat} (h : Binary ds) (hne : ds ≠ []) :
    ∃ neg, BaseMetrics.labelsForCM (BaseMetrics.allLabels (ds.map toBM)) none = .ok (neg, 1) ∧
      Stands ds neg 0 := by
  refine ⟨_, BaseMetrics.labelsForCM_01 _ (toBM_labels h) ?_, ?_⟩
  · cases ds with
    | nil => exact absurd rfl hne
    | cons d ds => exact List.cons_ne_nil _ _
  · split_ifs with h0
    · exact fun d hd => ⟨(num_beq (h d hd).1).1, (num_beq (h d hd).2).1⟩
    · intro d hd
      have hy : d.y = 1 := (h d hd).1.resolve_left fun e =>
        h0 (by have := (mem_allLabels_toBM hd).1; rwa [e, Rat.num_zero] at this)
      have hp : d.pred = 1 := (h d hd).2.resolve_left fun e =>
        h0 (by have := (mem_allLabels_toBM hd).2; rwa [e, Rat.num_zero] at this)
      show (d.y.num == BaseMetrics.int64Min) = (d.y == 0) ∧ (d.pred.num == BaseMetrics.int64Min) = (d.pred == 0)
      rw [hy, hp]; decide

theorem cell_toBM {ds : List Dat} {a b : Int} {a' b' : Rat} (ha : Stands ds a a') (hb : Stands ds b b') :
    BaseMetrics.cell (ds.map toBM) a b = wsum (fun d => d.y == a' && d.pred == b') ds := by
  rw [BaseMetrics.cell, wsum_toBM]
  exact wsum_congr fun d hd => by rw [(ha d hd).1, (hb d hd).2]

/-- a cell of the row-normalised confusion matrix of binary data is the class-conditional fraction -/
theorem ratio_toBM {ds : List Dat} (h : Binary ds) {neg a b : Int} {a' b' : Rat} (h0 : Stands ds neg 0)
    (ha : Stands ds a a') (hb : Stands ds b b') :
    BaseMetrics.ratio (BaseMetrics.cell (ds.map toBM) a b) (BaseMetrics.rowTot (ds.map toBM) neg 1 a) =
      condFrac a' b' ds := by
  -- on 0/1 predictions the class weight splits into the part predicted 0 and the part predicted 1
  have hs : wsum (fun d => d.y == a') ds =
      wsum (fun d => d.y == a' && d.pred == 0) ds + wsum (fun d => d.y == a' && d.pred == 1) ds := by
    rw [wsum_split _ (fun d => d.pred == 1), add_comm]
    congr 1
    exact wsum_congr fun d hd => by rcases (h d hd).2 with e | e <;> rw [e] <;> rfl
  rw [BaseMetrics.rowTot, cell_toBM ha h0, cell_toBM ha (stands_one h), cell_toBM ha hb, ← hs]
  rfl

/-- the four rate cells of the pool (sklearn's normalised confusion matrix, `pos_label=None`) are the direct
    weighted ratios, 0 on an empty denominator -/
theorem rateCell_eq_condFrac (k : BaseMetrics.Kind) {ds : List Dat} (h : Binary ds) (hne : ds ≠ []) :
    rateCell k ds = .scalar (fin (match k with
      | .tpr => condFrac 1 1 ds | .fnr => condFrac 1 0 ds
      | .fpr => condFrac 0 1 ds | .tnr => condFrac 0 0 ds)) := by
  obtain ⟨neg, hl, h0⟩ := labelsForCM_binary h hne
  have h1 := stands_one h
  rw [rateCell, if_pos (binary_isInt h), BaseMetrics.rate, hl]
  cases k <;> refine congrArg (fun q => Cell.scalar (fin q)) ?_
  · exact ratio_toBM h h0 h1 h1
  · exact ratio_toBM h h0 h1 h0
  · exact ratio_toBM h h0 h0 h1
  · exact ratio_toBM h h0 h0 h0

-- `tprSpec ds` / `fprSpec ds` unfold to `condFrac 1 1 ds` / `condFrac 0 1 ds` (likewise `fnrSpec`, `tnrSpec` below)
theorem tpr_eq_spec {ds : List Dat} (h : Binary ds) (hne : ds ≠ []) :
    eval .tpr ds = .scalar (fin (tprSpec ds)) := rateCell_eq_condFrac .tpr h hne

theorem fpr_eq_spec {ds : List Dat} (h : Binary ds) (hne : ds ≠ []) :
    eval .fpr ds = .scalar (fin (fprSpec ds)) := rateCell_eq_condFrac .fpr h hne

theorem wsum_true_pos {ds : List Dat} (hw : ∀ d ∈ ds, 0 < d.p0) (hne : ds ≠ []) :
    0 < wsum (fun _ => true) ds := by
  have : wsum (fun _ => true) ds = WeightedMean.den (·.p0) ds := by simp [wsum, WeightedMean.den]
  rw [this]; exact WeightedMean.den_pos _ ds hw hne

/-- with positive weights on a non-empty slice the numpy quotient is the exact finite quotient -/
theorem quot_pos (n : Rat) {ds : List Dat} (hw : ∀ d ∈ ds, 0 < d.p0) (hne : ds ≠ []) :
    quot n (sumBy (·.p0) ds) = .scalar (fin (n / wsum (fun _ => true) ds)) := by
  unfold quot
  have e : sumBy (·.p0) ds = wsum (fun _ => true) ds := by simp [sumBy, wsum]
  rw [e, div_fin_fin, if_neg (ne_of_gt (wsum_true_pos hw hne))]

theorem sumBy_ite_wsum (P : Dat → Prop) [DecidablePred P] (ds : List Dat) :
    sumBy (fun d => if P d then d.p0 else 0) ds = wsum (fun d => decide (P d)) ds := by
  induction ds with
  | nil => rfl
  | cons d ds ih =>
    rw [wsum_cons, ← ih, sumBy, List.map_cons, List.sum_cons]
    simp only [decide_eq_true_eq]; rfl

/-- selection-rate cell of the pool = Σ_{pred=1} w / Σ w -/
theorem selrate_eq_spec {ds : List Dat} (hw : ∀ d ∈ ds, 0 < d.p0) (hne : ds ≠ []) :
    eval .selrate ds = .scalar (fin (selRateSpec ds)) := by
  rw [eval, selRateCell, if_neg (by simpa using hne), quot_pos _ hw hne, sumBy_ite_wsum]
  rfl

theorem fnr_eq_spec {ds : List Dat} (h : Binary ds) (hne : ds ≠ []) :
    eval .fnr ds = .scalar (fin (fnrSpec ds)) := rateCell_eq_condFrac .fnr h hne

theorem tnr_eq_spec {ds : List Dat} (h : Binary ds) (hne : ds ≠ []) :
    eval .tnr ds = .scalar (fin (tnrSpec ds)) := rateCell_eq_condFrac .tnr h hne

theorem accuracy_eq_spec {ds : List Dat} (hw : ∀ d ∈ ds, 0 < d.p0) (hne : ds ≠ []) :
    eval .accuracy ds = .scalar (fin (accuracySpec ds)) := by
  rw [eval, quot_pos _ hw hne, sumBy_ite_wsum]
  rfl

theorem zeroOne_eq_spec {ds : List Dat} (hw : ∀ d ∈ ds, 0 < d.p0) (hne : ds ≠ []) :
    eval .zeroOne ds = .scalar (fin (zeroOneSpec ds)) := by
  have e : (fun d : Dat => if d.y = d.pred then 0 else d.p0) = fun d => if ¬ d.y = d.pred then d.p0 else 0 :=
    funext fun d => (ite_not _ _ _).symm
  rw [eval, quot_pos _ hw hne, e, sumBy_ite_wsum, zeroOneSpec]
  congr 4
  exact funext fun d => decide_not

/-- the remaining weighted means: the model's summand and the specification's agree row by row -/
theorem quot_eq_of_summand {f g : Dat → Rat} (hfg : ∀ d, f d = g d) {ds : List Dat}
    (hw : ∀ d ∈ ds, 0 < d.p0) (hne : ds ≠ []) :
    quot (sumBy f ds) (sumBy (·.p0) ds) = .scalar (fin ((ds.map g).sum / wsum (fun _ => true) ds)) := by
  rw [quot_pos _ hw hne, sumBy, funext hfg]

theorem mae_eq_spec {ds : List Dat} (hw : ∀ d ∈ ds, 0 < d.p0) (hne : ds ≠ []) :
    eval .mae ds = .scalar (fin (maeSpec ds)) :=
  quot_eq_of_summand (fun d => by
    by_cases hq : d.y - d.pred < 0
    · rw [if_pos hq, abs_of_neg hq]; ring
    · rw [if_neg hq, abs_of_nonneg (not_lt.mp hq)]; ring) hw hne

theorem mse_eq_spec {ds : List Dat} (hw : ∀ d ∈ ds, 0 < d.p0) (hne : ds ≠ []) :
    eval .mse ds = .scalar (fin (mseSpec ds)) :=
  quot_eq_of_summand (fun d => by ring) hw hne

theorem meanpred_eq_spec {ds : List Dat} (hw : ∀ d ∈ ds, 0 < d.p0) (hne : ds ≠ []) :
    eval .meanpred ds = .scalar (fin (meanPredictionSpec ds)) :=
  quot_eq_of_summand (fun d => by ring) hw hne

theorem wsum_nonneg (p : Dat → Bool) (ds : List Dat) (hw : ∀ d ∈ ds, 0 ≤ d.p0) : 0 ≤ wsum p ds :=
  List.sum_nonneg fun _ hx =>
    let ⟨d, hd, e⟩ := List.mem_map.mp hx
    e ▸ hw d (List.mem_filter.mp hd).1

/-- every class-conditional fraction (`tprSpec`, `fnrSpec`, `fprSpec`, `tnrSpec` of a slice) lies in [0,1]: the
    numerator is a part of the denominator -/
theorem condFrac_unit (c p : Rat) (ds : List Dat) (hw : ∀ d ∈ ds, 0 ≤ d.p0) :
    0 ≤ condFrac c p ds ∧ condFrac c p ds ≤ 1 := by
  have h := BaseMetrics.ratio_left_unit (wsum_nonneg (fun d => d.y == c && d.pred == p) ds hw)
    (wsum_nonneg (fun d => d.y == c && !(d.pred == p)) ds hw)
  rwa [← wsum_split (fun d => d.y == c) (fun d => d.pred == p)] at h

/-! ### the one-stratum frame of a metric that is finite on every non-empty slice -/

theorem rowsOf_key_ne_nil {rows : List (Row Dat)} {r : Row Dat} (hr : r ∈ rows) :
    rowsOf Row.key r.key rows ≠ [] :=
  List.ne_nil_of_mem (mem_rowsOf.mpr ⟨hr, rfl⟩)

theorem groupOf_ne_nil {rows : List (Row Dat)} {r : Row Dat} (hr : r ∈ rows) : groupOf rows r ≠ [] := by
  simpa [groupOf, slice] using rowsOf_key_ne_nil hr

theorem slice_sub {rows : List (Row Dat)} (k : Key) :
    ∀ d ∈ slice (rowsOf Row.key k rows), ∃ r ∈ rows, r.dat = d := by
  intro d hd
  obtain ⟨r, hr, rfl⟩ := List.mem_map.mp hd
  exact ⟨r, (mem_rowsOf.mp hr).1, rfl⟩

/-- the public accessor a fairness function calls, on a bare-callable frame without control features: the documented
    defaults (`C02.src_*_eq_model`: errors='coerce' and `between_groups` for difference / ratio, errors='raise' for
    group_min / group_max) and the scalar `.iloc[0]` of the stored result -/
theorem applyAggGot_eq (k : AggKind) (meth : Method) (withMethod : Bool) (t : Tables) (h : t.ncf = 0) :
    applyAggGot k meth withMethod t = .got .entry0 (applyAggModel k meth withMethod t) := by
  have hm : AggCache.documentedMode true t.ncf = .entry0 := by rw [h]; rfl
  unfold applyAggGot applyAggModel
  cases k <;> dsimp only
  · rw [C02.src_difference_eq_model, hm]; cases withMethod <;> rfl
  · rw [C02.src_ratio_eq_model, hm]; cases withMethod <;> rfl
  · rw [C02.src_group_min_eq_model, hm]; rfl
  · rw [C02.src_group_max_eq_model, hm]; rfl

/-- `applyAgg` reads the LIFTED result cache (`Generated/PopulateSrc.lean`, the lifted `_extract_result`); for a
    bare-callable frame without control features it is the hard-coded call `applyAggModel` -/
theorem applyAgg_lifted_eq (k : AggKind) (meth : Method) (withMethod : Bool) (t : Tables) (h : t.ncf = 0) :
    applyAgg k meth withMethod t = applyAggModel k meth withMethod t := by
  unfold applyAgg
  rw [applyAggGot_eq k meth withMethod t h]

section oneStratum
variable {f : List Dat → Cell} {g : List Dat → Rat} {nsf : Nat} {rows : List (Row Dat)}

theorem byGroup_entry (hn : 0 < nsf) (hf : FiniteOn f g rows) (e : Key × Cell)
    (he : e ∈ (ofFrame 0 nsf f rows).byGroup) :
    e.2 = if rowsOf Row.key e.1 rows = [] then Cell.nan
          else .scalar (fin (g (slice (rowsOf Row.key e.1 rows)))) := by
  have h := C01.applyFunctions_cell Cell.nan Row.key (0 + nsf) (by omega) f rows e.1 e.2 he
  by_cases hemp : rowsOf Row.key e.1 rows = []
  · simpa [hemp] using h
  · rw [if_neg hemp] at h ⊢
    rw [h]
    exact hf _ (by simpa [slice] using hemp) (slice_sub e.1)

theorem vals_nil_eq : vals (ofFrame 0 nsf f rows) [] = (ofFrame 0 nsf f rows).byGroup.map (fun e => coerce e.2) := by
  unfold vals
  congr 1
  rw [List.filter_eq_self]
  intro e _
  simp [stratumOf, ofFrame]

theorem finNan_vals_one (hn : 0 < nsf) (hf : FiniteOn f g rows) : FinNan (vals (ofFrame 0 nsf f rows) []) := by
  rw [vals_nil_eq]
  intro x hx
  obtain ⟨e, he, rfl⟩ := List.mem_map.mp hx
  rw [byGroup_entry hn hf e he]
  split
  · exact Or.inl rfl
  · exact Or.inr ⟨_, rfl⟩

/-- every observed combination of sensitive feature values is in the index of `by_group` -/
theorem key_mem_byGroup (hn : 0 < nsf) (hwf : WF 0 nsf rows) {r : Row Dat} (hr : r ∈ rows) :
    ∃ e ∈ (ofFrame 0 nsf f rows).byGroup, e.1 = r.key := by
  have hk : r.key ∈ C01.keys (byGroup Cell.nan 0 nsf f rows) := by
    rw [C01.byGroup_index Cell.nan 0 nsf (by omega) f rows hwf]
    exact ⟨C01.keyLen_key hwf r hr, fun j _ => ⟨r, hr, rfl⟩⟩
  exact List.mem_map.mp hk

/-- the finite values the aggregates see are exactly the metric values of the observed groups -/
theorem mem_vals_one (hn : 0 < nsf) (hwf : WF 0 nsf rows) (hf : FiniteOn f g rows) (x : Rat) :
    fin x ∈ vals (ofFrame 0 nsf f rows) [] ↔ ∃ r ∈ rows, x = g (groupOf rows r) := by
  rw [vals_nil_eq]
  constructor
  · intro hx
    obtain ⟨e, he, hex⟩ := List.mem_map.mp hx
    rw [byGroup_entry hn hf e he] at hex
    split at hex
    · cases hex
    · next hemp =>
      obtain ⟨r, hr⟩ := List.exists_mem_of_ne_nil _ hemp
      have hr' := mem_rowsOf.mp hr
      exact ⟨r, hr'.1, by rw [groupOf, hr'.2]; exact (XR.fin.inj hex).symm⟩
  · rintro ⟨r, hr, rfl⟩
    obtain ⟨e, he, hek⟩ := key_mem_byGroup hn hwf hr
    refine List.mem_map.mpr ⟨e, he, ?_⟩
    rw [byGroup_entry hn hf e he, hek, if_neg (rowsOf_key_ne_nil hr)]
    rfl

/-- without control features there is exactly one stratum -/
theorem strata_one (hn : 0 < nsf) (hwf : WF 0 nsf rows) (hne : rows ≠ []) :
    strata (ofFrame 0 nsf f rows) = [[]] := by
  unfold strata
  have hall : (ofFrame 0 nsf f rows).byGroup.map (fun e => stratumOf (ofFrame 0 nsf f rows) e.1) =
      List.replicate (ofFrame 0 nsf f rows).byGroup.length [] := by
    rw [List.eq_replicate_iff]
    refine ⟨by simp, ?_⟩
    intro k hk
    obtain ⟨e, _, rfl⟩ := List.mem_map.mp hk
    simp [stratumOf, ofFrame]
  rw [hall]
  obtain ⟨r, hr⟩ := List.exists_mem_of_ne_nil _ hne
  obtain ⟨e, he, _⟩ := key_mem_byGroup (f := f) hn hwf hr
  exact uniq_replicate [] _ (List.length_pos_of_mem he)

theorem overall_one (hf : FiniteOn f g rows) (hne : rows ≠ []) :
    (ofFrame 0 nsf f rows).overall = [([], .scalar (fin (g (slice rows))))] := by
  show [([], f (slice rows))] = _
  rw [hf (slice rows) (by simpa [slice] using hne) fun d hd => by
    obtain ⟨r, hr, rfl⟩ := List.mem_map.mp hd
    exact ⟨r, hr, rfl⟩]

theorem overallAt_one (hf : FiniteOn f g rows) (hne : rows ≠ []) :
    overallAt (ofFrame 0 nsf f rows) [] = fin (g (slice rows)) := by
  rw [overallAt, overall_one hf hne]
  rfl

theorem hasNonscalar_one (hn : 0 < nsf) (hf : FiniteOn f g rows) (hne : rows ≠ []) :
    hasNonscalar (ofFrame 0 nsf f rows) = false := by
  have h2 : (ofFrame 0 nsf f rows).byGroup.any (fun e => isNonscalar e.2) = false := by
    rw [List.any_eq_false]
    intro e he
    rw [byGroup_entry hn hf e he]
    split <;> exact Bool.false_ne_true
  rw [hasNonscalar, h2, overall_one hf hne]
  rfl

theorem frameRaised_one (hn : 0 < nsf) (hf : FiniteOn f g rows) (hne : rows ≠ []) :
    frameRaised (ofFrame 0 nsf f rows) = false := by
  have h2 : (ofFrame 0 nsf f rows).byGroup.any (fun e => e.2 == Cell.raised) = false := by
    rw [List.any_eq_false]
    intro e he
    rw [byGroup_entry hn hf e he]
    split <;> exact Bool.false_ne_true
  rw [frameRaised, h2, overall_one hf hne]
  rfl

/-- one stratum and no non-scalar cell: every aggregate of the frame is `perStratum` of the group values and the
    overall value -/
theorem applyAgg_one (hn : 0 < nsf) (hwf : WF 0 nsf rows) (hf : FiniteOn f g rows) (hne : rows ≠ [])
    (k : AggKind) (m : Method) :
    applyAgg k m true (ofFrame 0 nsf f rows) =
      some [([], perStratum k m (vals (ofFrame 0 nsf f rows) []) (overallAt (ofFrame 0 nsf f rows) []))] := by
  have hs := strata_one (f := f) hn hwf hne
  have hns := hasNonscalar_one hn hf hne
  rw [applyAgg_lifted_eq _ _ _ _ (rfl : (ofFrame 0 nsf f rows).ncf = 0)]
  cases k <;> cases m <;>
    simp [applyAggModel, perStratum, difference, ratio, groupMin, groupMax, applyGrouping, hs, hns,
      AggregateSpec.diffBetweenSubtrahend, AggregateSpec.ratioBetweenNum, AggregateSpec.ratioBetweenDen,
      Grouping.apply]

end oneStratum

/-! ### the lifted tables of `_fairness_metrics.py` read row by row -/

theorem find?_key_of_nodup {α : Type} : ∀ (l : List (String × α)), (l.map (·.1)).Nodup → ∀ g ∈ l,
    l.find? (fun x => x.1 == g.1) = some g
  | a :: l, h, g, hg => by
    rw [List.map_cons, List.nodup_cons] at h
    rw [List.find?_cons]
    rcases List.mem_cons.mp hg with rfl | hg
    · rw [beq_self_eq_true]
    · have hne : (a.1 == g.1) = false :=
        beq_eq_false_iff_ne.mpr fun e => h.1 (e ▸ List.mem_map_of_mem hg)
      rw [hne]
      exact find?_key_of_nodup l h.2 g hg

theorem named_of_mem {fname base agg : String} {m : Metric} {k : AggKind}
    (h : (fname, base, agg) ∈ FairnessSpec.named) (hm : baseOfName base = some m) (hk : aggOfName agg = some k)
    (meth : Method) (nsf : Nat) (rows : List (Row Dat)) :
    named fname meth nsf rows = some (run m k meth true nsf rows) := by
  unfold named
  rw [find?_key_of_nodup _ (by decide +kernel) _ h]
  simp only [Option.bind_eq_bind, Option.bind_some, hm, hk, Option.pure_def]

theorem run_eq_value {m : Metric} {k : AggKind} {meth : Method} {b : Bool} {nsf : Nat} {rows : List (Row Dat)}
    {x : XR} (h : run m k meth b nsf rows = .value x) :
    frameRaised (ofFrame 0 nsf (eval m) rows) = false ∧
      extract (applyAgg k meth b (ofFrame 0 nsf (eval m) rows)) = .value x := by
  unfold run at h
  dsimp only at h
  split at h
  · cases h
  · exact ⟨Bool.eq_false_iff.mpr ‹_›, h⟩

/-- whenever the TPR and the FPR aggregate of the two single-metric frames are values `a`, `b`, the
    equalized-odds function named in the lifted table combines them: Python `max` / `min` (`w`) or the mean -/
theorem eodds_of_runs (fname : String) (aggName w : String) (k : AggKind)
    (hfn : FairnessSpec.eodds.find? (fun e => e.1 == fname) = some (fname, aggName, w))
    (hk : aggOfName aggName = some k)
    {meth : Method} {nsf : Nat} {rows : List (Row Dat)} {a b : XR}
    (ha : run .tpr k meth true nsf rows = .value a) (hb : run .fpr k meth true nsf rows = .value b) (agg : Agg) :
    eodds fname meth agg nsf rows =
      (match agg with
       | .worstCase => (pyFold w [a, b]).map Res.value
       | .mean => some (.value (XR.meanSkip [a, b]))) := by
  obtain ⟨hr1, e1⟩ := run_eq_value ha
  obtain ⟨hr2, e2⟩ := run_eq_value hb
  have hms : FairnessSpec.eoFrame.mapM (fun c => baseOfName c.2) = some [Metric.tpr, Metric.fpr] := by
    decide +kernel
  unfold eodds
  simp only [hfn, hk, hms, Option.pure_def,
    Option.bind_eq_bind, Option.bind_some, List.map_cons, List.map_nil, List.any_cons, List.any_nil,
    hr1, hr2, Bool.or_self, Bool.false_eq_true, if_false, e1, e2, List.filterMap_cons, List.filterMap_nil,
    List.length_cons, List.length_nil, ne_eq, not_true_eq_false]
  cases agg <;> rfl

theorem eodds_difference_of_runs {meth : Method} {nsf : Nat} {rows : List (Row Dat)} {a b : XR}
    (ha : run .tpr .difference meth true nsf rows = .value a)
    (hb : run .fpr .difference meth true nsf rows = .value b) (agg : Agg) :
    eodds "equalized_odds_difference" meth agg nsf rows =
      (match agg with
       | .worstCase => (pyFold "max" [a, b]).map Res.value
       | .mean => some (.value (XR.meanSkip [a, b]))) :=
  eodds_of_runs "equalized_odds_difference" "difference" "max" .difference (by decide +kernel) (by decide +kernel)
    ha hb agg

theorem eodds_ratio_of_runs {meth : Method} {nsf : Nat} {rows : List (Row Dat)} {a b : XR}
    (ha : run .tpr .ratio meth true nsf rows = .value a)
    (hb : run .fpr .ratio meth true nsf rows = .value b) (agg : Agg) :
    eodds "equalized_odds_ratio" meth agg nsf rows =
      (match agg with
       | .worstCase => (pyFold "min" [a, b]).map Res.value
       | .mean => some (.value (XR.meanSkip [a, b]))) :=
  eodds_of_runs "equalized_odds_ratio" "ratio" "min" .ratio (by decide +kernel) (by decide +kernel) ha hb agg

theorem pyFold_max_two (a b : XR) : pyFold "max" [a, b] = some (pyMax2 a b) := by
  rw [pyFold, if_pos rfl]; rfl

theorem pyFold_min_two (a b : XR) : pyFold "min" [a, b] = some (pyMin2 a b) := by
  rw [pyFold, if_neg (by decide), if_pos rfl]; rfl

end Fairness
