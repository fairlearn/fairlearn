/-
Fit level of the ThresholdOptimizer model: list plumbing (`allSome`, `argmaxFirst`, `minList`), what a
successful `fitSimple` / `fitEO` consists of (`fit*_some`, `fit*_sound`), that hulls and curves exist when every group
has both labels (fit success itself: `C04.fit_*_succeeds_any_grid`), and the expected metrics of the equalized-odds rule.
-/
import FairModel.Lemmas.ThresholdGroup

namespace Threshold
open ThresholdGen

theorem allSome_eq_some {α} {l : List (Option α)} {r : List α} (h : allSome l = some r) : l = r.map some := by
  induction l generalizing r with
  | nil => cases h; rfl
  | cons a l ih =>
    cases a with
    | none => cases h
    | some a =>
      unfold allSome at h
      cases hl : allSome l with
      | none => rw [hl] at h; cases h
      | some r' => rw [hl] at h; cases h; rw [ih hl]; rfl

theorem allSome_map_some {α} (r : List α) : allSome (r.map some) = some r := by
  induction r with
  | nil => rfl
  | cons a r ih => simp [allSome, ih]

theorem allSome_of_forall {α β} (f : α → Option β) (l : List α) (h : ∀ x ∈ l, ∃ b, f x = some b) :
    ∃ r, allSome (l.map f) = some r := by
  induction l with
  | nil => exact ⟨[], rfl⟩
  | cons a l ih =>
    obtain ⟨b, hb⟩ := h a List.mem_cons_self
    obtain ⟨r, hr⟩ := ih (fun x hx => h x (List.mem_cons_of_mem _ hx))
    exact ⟨b :: r, by simp only [List.map_cons, allSome, hb, hr]⟩

theorem getElem_of_eq_map {α β} {l : List β} {l' : List α} {f : α → β} (h : l = l'.map f) (j : Nat)
    (hj : j < l.length) (hj' : j < l'.length) : l[j] = f l'[j] := by
  subst h; exact List.getElem_map f

/-- index form: the j-th result comes from the j-th input -/
theorem allSome_map_get {α β} {f : α → Option β} {l : List α} {r : List β} (h : allSome (l.map f) = some r) :
    r.length = l.length ∧ ∀ j (hj : j < l.length) (hj' : j < r.length), f l[j] = some r[j] := by
  have h := allSome_eq_some h
  refine ⟨by simpa using (congrArg List.length h).symm, fun j hj hj' => ?_⟩
  have h2 := congrArg (fun x => x[j]?) h
  simp only [List.getElem?_map, List.getElem?_eq_getElem hj, List.getElem?_eq_getElem hj',
    Option.map_some] at h2
  exact Option.some.inj h2

/-- loop invariant of `argmaxAux`: `pre` is the part already scanned, `bv = pre[bi]` its first maximum -/
theorem argmaxAux_spec (vs : List Rat) : ∀ (i bi : Nat) (bv : Rat) (pre : List Rat),
    pre.length = i → bi < i → pre[bi]? = some bv → (∀ v ∈ pre, v ≤ bv) →
    (∀ k w, k < bi → pre[k]? = some w → w < bv) →
    ∃ m, (pre ++ vs)[argmaxAux vs i bi bv]? = some m ∧ (∀ v ∈ pre ++ vs, v ≤ m) ∧
      ∀ k w, k < argmaxAux vs i bi bv → (pre ++ vs)[k]? = some w → w < m := by
  induction vs with
  | nil =>
    intro i bi bv pre _ _ hb hmax hfirst
    rw [List.append_nil]
    exact ⟨bv, hb, hmax, hfirst⟩
  | cons v vs ih =>
    intro i bi bv pre hlen hbi hb hmax hfirst
    unfold argmaxAux
    rw [List.append_cons]
    have hlen' : (pre ++ [v]).length = i + 1 := by rw [List.length_append, hlen]; rfl
    split
    · next hlt =>
      -- `v` beats everything scanned so far and becomes the first maximum
      apply ih (i + 1) i v (pre ++ [v]) hlen' (Nat.lt_succ_self i)
      · rw [List.getElem?_append_right hlen.le, hlen, Nat.sub_self]; rfl
      · intro w hw
        rcases List.mem_append.mp hw with hw | hw
        · exact (hmax w hw).trans hlt.le
        · exact (List.mem_singleton.mp hw).le
      · intro k w hk hw
        rw [List.getElem?_append_left (hlen ▸ hk)] at hw
        exact (hmax w (List.mem_of_getElem? hw)).trans_lt hlt
    · next hlt =>
      apply ih (i + 1) bi bv (pre ++ [v]) hlen' (Nat.lt_succ_of_lt hbi)
      · rw [List.getElem?_append_left (hlen ▸ hbi)]; exact hb
      · intro w hw
        rcases List.mem_append.mp hw with hw | hw
        · exact hmax w hw
        · rw [List.mem_singleton.mp hw]; exact not_lt.mp hlt
      · intro k w hk hw
        rw [List.getElem?_append_left (hlen ▸ hk.trans hbi)] at hw
        exact hfirst k w hk hw

/-- **`argmaxFirst` is `idxmax`**: the entry it addresses is maximal and every earlier entry is STRICTLY smaller, i.e. it
    is the first index attaining the maximum -/
theorem argmaxFirst_spec (l : List Rat) (hne : l ≠ []) :
    ∃ m, l[argmaxFirst l]? = some m ∧ (∀ v ∈ l, v ≤ m) ∧
      ∀ k w, k < argmaxFirst l → l[k]? = some w → w < m := by
  cases l with
  | nil => exact absurd rfl hne
  | cons v vs =>
    exact argmaxAux_spec vs 1 0 v [v] rfl Nat.zero_lt_one rfl
      (fun w hw => (List.mem_singleton.mp hw).le) (fun k w hk => absurd hk (Nat.not_lt_zero k))

/-- once the entry `argmaxFirst` addresses is known, it is maximal and strictly above every earlier entry -/
theorem argmaxFirst_attains {l : List Rat} {o : Rat} (ho : l[argmaxFirst l]? = some o) :
    (∀ v ∈ l, v ≤ o) ∧ ∀ k w, k < argmaxFirst l → l[k]? = some w → w < o := by
  obtain ⟨m, hm, h⟩ := argmaxFirst_spec l (fun h => by rw [h] at ho; cases ho)
  cases hm.symm.trans ho
  exact h

theorem argmaxFirst_lt (l : List Rat) (hne : l ≠ []) : argmaxFirst l < l.length := by
  obtain ⟨m, hm, _⟩ := argmaxFirst_spec l hne
  exact (List.getElem?_eq_some_iff.mp hm).1

theorem minList_spec (l : List Rat) (m : Rat) (h : minList l = some m) : m ∈ l ∧ ∀ v ∈ l, m ≤ v := by
  induction l generalizing m with
  | nil => cases h
  | cons v vs ih =>
    unfold minList at h
    cases hm : minList vs with
    | none =>
      rw [hm] at h
      cases h
      cases vs with
      | nil => exact ⟨List.mem_singleton_self _, fun w hw => (List.mem_singleton.mp hw).ge⟩
      | cons w ws =>
        unfold minList at hm
        cases h2 : minList ws <;> rw [h2] at hm <;> cases hm
    | some m' =>
      rw [hm] at h
      simp only [Option.some.injEq] at h
      obtain ⟨hmem, hle⟩ := ih m' hm
      by_cases hlt : m' < v
      · rw [if_pos hlt] at h; cases h
        exact ⟨List.mem_cons_of_mem _ hmem, List.forall_mem_cons.mpr ⟨hlt.le, hle⟩⟩
      · rw [if_neg hlt] at h; cases h
        exact ⟨List.mem_cons_self, List.forall_mem_cons.mpr ⟨le_refl _, fun w hw => (not_lt.mp hlt).trans (hle w hw)⟩⟩

theorem minList_isSome (l : List Rat) (hne : l ≠ []) : ∃ m, minList l = some m := by
  cases l with
  | nil => exact absurd rfl hne
  | cons v vs =>
    unfold minList
    cases minList vs <;> exact ⟨_, rfl⟩

/-- every group has both labels -/
def BothLabels (groups : List (List Row)) : Prop := ∀ g ∈ groups, nPos g ≠ 0 ∧ nNeg g ≠ 0

instance (groups : List (List Row)) : Decidable (BothLabels groups) := by
  unfold BothLabels; infer_instance

/-- `hullsOf` succeeds exactly with the per-group hulls -/
theorem hullsOf_some {flip : Bool} {xm ym : Metric} {groups : List (List Row)} {hulls : List (List Pt)}
    (h : hullsOf flip xm ym groups = some hulls) :
    hulls.length = groups.length ∧
    ∀ j (hj : j < groups.length) (hj' : j < hulls.length), tradeoffCurve flip xm ym groups[j] = some hulls[j] :=
  allSome_map_get h

theorem hullsOf_bothLabels {flip : Bool} {xm ym : Metric} {groups : List (List Row)} {hulls : List (List Pt)}
    (h : hullsOf flip xm ym groups = some hulls) : BothLabels groups := by
  intro g hg
  obtain ⟨j, hj, rfl⟩ := List.getElem_of_mem hg
  obtain ⟨hlen, hget⟩ := hullsOf_some h
  exact bothLabels_of_tradeoffCurve (hget j hj (hlen ▸ hj))

theorem hullsOf_exists (flip : Bool) (xm ym : Metric) (groups : List (List Row)) (hx : IsConstraintMetric xm)
    (hb : BothLabels groups) : ∃ hulls, hullsOf flip xm ym groups = some hulls := by
  apply allSome_of_forall
  intro g hg
  obtain ⟨H, gc⟩ := groupCurve_exists flip xm ym g hx (hb g hg).1 (hb g hg).2
  exact ⟨H, gc.eq⟩

/-- the group curve facts for the j-th hull -/
theorem hullsOf_groupCurve {flip : Bool} {xm ym : Metric} {groups : List (List Row)} {hulls : List (List Pt)}
    (hx : IsConstraintMetric xm) (h : hullsOf flip xm ym groups = some hulls)
    (j : Nat) (hj : j < groups.length) (hj' : j < hulls.length) :
    GroupCurve flip xm ym groups[j] hulls[j] := by
  have heq := (hullsOf_some h).2 j hj hj'
  obtain ⟨hp, hn⟩ := bothLabels_of_tradeoffCurve heq
  obtain ⟨H, gc⟩ := groupCurve_exists flip xm ym groups[j] hx hp hn
  exact Option.some.inj (gc.eq.symm.trans heq) ▸ gc

theorem curves_some {hulls : List (List Pt)} {N : Nat} {cs : List (List Interp)}
    (h : curves hulls N = some cs) :
    cs.length = N + 1 ∧ ∀ i (hi : i < cs.length), interpAll hulls N i = some cs[i] := by
  obtain ⟨hlen, hget⟩ := allSome_map_get h
  rw [List.length_range] at hlen
  refine ⟨hlen, fun i hi => ?_⟩
  have := hget i (by rw [List.length_range, ← hlen]; exact hi) hi
  rwa [List.getElem_range] at this

/-- the curves exist for ANY grid size, `N = 0` (the one-point grid `[0.]`) included -/
theorem curves_exists_any {flip : Bool} {xm ym : Metric} {groups : List (List Row)} {hulls : List (List Pt)}
    (hx : IsConstraintMetric xm) (h : hullsOf flip xm ym groups = some hulls) (N : Nat) :
    ∃ cs, curves hulls N = some cs := by
  refine allSome_of_forall _ _ fun i hi => allSome_of_forall _ hulls fun H hH => ?_
  obtain ⟨j, hj, rfl⟩ := List.getElem_of_mem hH
  obtain ⟨r, hr, _⟩ := group_interpolate (hullsOf_groupCurve hx h j ((hullsOf_some h).1 ▸ hj) hj)
    (Nat.le_of_lt_succ (List.mem_range.mp hi))
  exact ⟨r, hr⟩

theorem curves_exists {flip : Bool} {xm ym : Metric} {groups : List (List Row)} {hulls : List (List Pt)}
    (hx : IsConstraintMetric xm) (h : hullsOf flip xm ym groups = some hulls) {N : Nat} (hN : 1 ≤ N) :
    ∃ cs, curves hulls N = some cs :=
  curves_exists_any hx h N

/-- grid row `i` of the groups' interpolated curves: one interpolation per group, sound for that group's hull -/
def RowSound (flip : Bool) (xm ym : Metric) (N : Nat) (groups : List (List Row)) (i : Nat) (row : List Interp) : Prop :=
  row.length = groups.length ∧
  ∀ j (hj : j < groups.length) (hj' : j < row.length),
    ∃ H, GroupCurve flip xm ym groups[j] H ∧ InterpSound H (gridVal N i) row[j]

theorem curves_rowSound {flip : Bool} {xm ym : Metric} {groups : List (List Row)} {hulls : List (List Pt)}
    (hx : IsConstraintMetric xm) (h : hullsOf flip xm ym groups = some hulls) {N : Nat}
    {cs : List (List Interp)} (hc : curves hulls N = some cs) (i : Nat) (hi : i < cs.length) :
    RowSound flip xm ym N groups i cs[i] := by
  obtain ⟨hclen, hcget⟩ := curves_some hc
  obtain ⟨hrlen, hrget⟩ := allSome_map_get (hcget i hi)
  have hlen := (hullsOf_some h).1
  refine ⟨hrlen.trans hlen, fun j hj hj' => ?_⟩
  have hj'' : j < hulls.length := hlen ▸ hj
  have gc := hullsOf_groupCurve hx h j hj hj''
  obtain ⟨r, hr, hs⟩ := group_interpolate gc (Nat.le_of_lt_succ (hclen ▸ hi))
  exact ⟨hulls[j], gc, Option.some.inj ((hrget j hj'' hj').symm.trans hr) ▸ hs⟩

theorem ruleProb_eo (xBest yBest : Rat) (r : Interp) :
    ruleProb (eoRule xBest yBest r) =
      fun s => pIgnore r yBest * xBest + (1 - pIgnore r yBest) * ruleProb (simpleRule r) s := rfl

/-- a predictor that answers 1 with the same probability `c` for every row has FPR = TPR = c -/
theorem const_rates (c : Rat) (rows : List Row) (hp : nPos rows ≠ 0) (hn : nNeg rows ≠ 0) :
    Metric.eval .false_positive_rate (expCM (fun _ => c) rows) = c ∧
    Metric.eval .true_positive_rate (expCM (fun _ => c) rows) = c := by
  have hfp : (expCM (fun _ => c) rows).false_positives = c * (nNeg rows : Rat) := by
    rw [nNeg, ← sumBy_const]
    exact sumBy_congr fun r _ => by cases r.label <;> rfl
  have htp : (expCM (fun _ => c) rows).true_positives = c * (nPos rows : Rat) := sumBy_const _ c rows
  simp only [Metric.eval]
  rw [expCM_negatives, expCM_positives, hfp, htp]
  exact ⟨mul_div_cancel_right₀ c (Nat.cast_ne_zero.mpr hn), mul_div_cancel_right₀ c (Nat.cast_ne_zero.mpr hp)⟩

/-- conversely: a group whose predictor has expected FPR `x` and TPR `y` contributes `eoCounts nneg npos x y` -/
theorem expCM_of_rates (prob : Rat → Rat) (rows : List Row) (x y : Rat) (hp : nPos rows ≠ 0) (hn : nNeg rows ≠ 0)
    (hx : eoXMetric.eval (expCM prob rows) = x) (hy : eoYMetric.eval (expCM prob rows) = y) :
    expCM prob rows = eoCounts (nNeg rows) (nPos rows) x y := by
  have hP := expCM_positives prob rows
  have hN := expCM_negatives prob rows
  simp only [eoXMetric, eoYMetric, Metric.eval] at hx hy
  rw [hN] at hx
  rw [hP] at hy
  have hfp := (div_eq_iff (Nat.cast_ne_zero.mpr hn)).mp hx
  have htp := (div_eq_iff (Nat.cast_ne_zero.mpr hp)).mp hy
  simp only [CM.positives, CM.negatives] at hP hN
  refine CM.ext' (htp.trans (mul_comm _ _)) (hfp.trans (mul_comm _ _)) ?_ ?_
  · show _ = (nNeg rows : Rat) * (1 - x)
    rw [eq_sub_of_add_eq hN, hfp, mul_sub, mul_one, mul_comm]
  · show _ = (nPos rows : Rat) * (1 - y)
    rw [eq_sub_of_add_eq' hP, htp, mul_sub, mul_one, mul_comm]

/-- with both labels the ROC sweep contains the corners (0,0) (nothing predicted positive) and (1,1) (everything) -/
theorem roc_corners (flip : Bool) (rows : List Row) (hp : nPos rows ≠ 0) (hn : nNeg rows ≠ 0) :
    ∃ P0 ∈ rawPoints flip eoXMetric eoYMetric rows, ∃ P1 ∈ rawPoints flip eoXMetric eoYMetric rows,
      P0.x = 0 ∧ P0.y = 0 ∧ P1.x = 1 ∧ P1.y = 1 := by
  obtain ⟨p0, h0, p1, h1, ⟨h0x, h0y⟩, h1x, h1y⟩ := const_rawPoints flip eoXMetric eoYMetric rows
  have hn' : (nNeg rows : Rat) ≠ 0 := Nat.cast_ne_zero.mpr hn
  have hp' : (nPos rows : Rat) ≠ 0 := Nat.cast_ne_zero.mpr hp
  refine ⟨p0, h0, p1, h1, h0x.trans ?_, h0y.trans ?_, h1x.trans ?_, h1y.trans ?_⟩ <;>
    simp [eoXMetric, eoYMetric, Metric.eval, actualCounts, CM.negatives, CM.positives, hn', hp']

/-- the ROC hull is on or above the diagonal: the interpolated TPR at FPR = g is at least g -/
theorem roc_above_diagonal {flip : Bool} {rows : List Row} {H : List Pt}
    (gc : GroupCurve flip eoXMetric eoYMetric rows H) {g : Rat} {r : Interp} (hr : InterpSound H g r)
    (hg0 : 0 ≤ g) (hg1 : g ≤ 1) : g ≤ r.y := by
  obtain ⟨hp, hn⟩ := bothLabels_of_tradeoffCurve gc.eq
  obtain ⟨P0, h0, P1, h1, e0x, e0y, e1x, e1y⟩ := roc_corners flip rows hp hn
  -- the diagonal point `(g, g)` is the mixture `(1 - g) • (0,0) + g • (1,1)` of the two constant classifiers
  have hdom := interp_dominates gc hr [(1 - g, P0), (g, P1)]
    ⟨List.forall_mem_cons.mpr ⟨⟨sub_nonneg.mpr hg1, h0⟩, List.forall_mem_cons.mpr
      ⟨⟨hg0, h1⟩, fun _ h => absurd h List.not_mem_nil⟩⟩, by simp [Mixture.weight]⟩
    (by simp [Mixture.x, e0x, e1x])
  simpa [Mixture.y, e0y, e1y] using hdom

/-- `p_ignore` moves a group from its own interpolated ROC point `(x, y)` along the chord to the diagonal point `(x, x)`
    just far enough to reach the common TPR `yBest ∈ [x, y]` -/
theorem pIgnore_spec (r : Interp) {yBest : Rat} (h1 : r.x ≤ yBest) (h2 : yBest ≤ r.y) :
    0 ≤ pIgnore r yBest ∧ pIgnore r yBest ≤ 1 ∧ pIgnore r yBest * r.x + (1 - pIgnore r yBest) * r.y = yBest := by
  rw [src_pIgnore]
  by_cases hd : r.y = r.x
  · rw [if_pos hd, zero_mul, zero_add, sub_zero, one_mul]
    exact ⟨le_refl 0, zero_le_one, le_antisymm (hd.le.trans h1) h2⟩
  · rw [if_neg hd]
    have hpos : 0 < r.y - r.x := sub_pos.mpr (lt_of_le_of_ne (h1.trans h2) (Ne.symm hd))
    exact ⟨div_nonneg (sub_nonneg.mpr h2) hpos.le, (div_le_one hpos).mpr (sub_le_sub_left h1 _),
      lerp_x (div_mul_cancel₀ (r.y - yBest) hpos.ne')⟩

/-- the equalized-odds rule of one group: expected FPR `g`, expected TPR `yBest`, `p_ignore ∈ [0,1]`, provided the common
    TPR `yBest` lies between the diagonal and the group's interpolated TPR -/
theorem eoRule_sound {flip : Bool} {rows : List Row} {H : List Pt}
    (gc : GroupCurve flip eoXMetric eoYMetric rows H) {g : Rat} {r : Interp} (hr : InterpSound H g r)
    {yBest : Rat} (h1 : g ≤ yBest) (h2 : yBest ≤ r.y) :
    expectedMetric eoXMetric (eoRule g yBest r) rows = g ∧ expectedMetric eoYMetric (eoRule g yBest r) rows = yBest ∧
    0 ≤ pIgnore r yBest ∧ pIgnore r yBest ≤ 1 := by
  obtain ⟨hp, hn⟩ := bothLabels_of_tradeoffCurve gc.eq
  obtain ⟨hx, hy⟩ := expected_simple gc hr
  obtain ⟨cx, cy⟩ := const_rates g rows hp hn
  obtain ⟨hp0, hp1, hpy⟩ := pIgnore_spec r (hr.x_eq.symm ▸ h1) h2
  rw [hr.x_eq] at hpy
  -- the rule is the `p_ignore : 1 - p_ignore` mixture of the constant `g` and the plain interpolated rule
  unfold expectedMetric at hx hy ⊢
  rw [ruleProb_eo, eval_expCM_mix _ _ _ (fun _ => g) _ rows (add_sub_cancel _ _),
    eval_expCM_mix _ _ _ (fun _ => g) _ rows (add_sub_cancel _ _), hx, hy]
  exact ⟨by rw [show eoXMetric = .false_positive_rate from rfl, cx]; ring,
    by rw [show eoYMetric = .true_positive_rate from rfl, cy]; exact hpy, hp0, hp1⟩

/-- the parts of a successful `fitSimple`: the intermediate hulls and curves, and how the fields of `fit` are read off them -/
structure SimpleFitParts (flip : Bool) (xm ym : Metric) (N : Nat) (groups : List (List Row)) (force : Option Nat)
    (fit : Fit) (hulls : List (List Pt)) (cs : List (List Interp)) : Prop where
  hulls_eq : hullsOf flip xm ym groups = some hulls
  curves_eq : curves hulls N = some cs
  interps_eq : cs[fit.iBest]? = some fit.interps
  rules_eq : fit.rules = fit.interps.map simpleRule
  objective_eq : fit.objective = objSimple groups fit.interps
  iBest_eq : fit.iBest = force.getD (argmaxFirst (cs.map (objSimple groups)))

/-- the parts of a successful `fitEO`; `ymins` are the pointwise minima over the groups, over which the arg-max is taken -/
structure EOFitParts (flip : Bool) (obj : Metric) (N : Nat) (groups : List (List Row)) (force : Option Nat)
    (fit : Fit) (yBest : Rat) (hulls : List (List Pt)) (cs : List (List Interp)) (ymins : List Rat) : Prop where
  hulls_eq : hullsOf flip eoXMetric eoYMetric groups = some hulls
  curves_eq : curves hulls N = some cs
  ymins_eq : allSome (cs.map (fun is => minList (is.map (·.y)))) = some ymins
  interps_eq : cs[fit.iBest]? = some fit.interps
  yBest_eq : ymins[fit.iBest]? = some yBest
  rules_eq : fit.rules = fit.interps.map (eoRule (gridVal N fit.iBest) yBest)
  objective_eq : fit.objective = objEO obj groups (gridVal N fit.iBest) yBest
  iBest_eq : fit.iBest = force.getD (argmaxFirst
    ((List.range (N + 1)).zipWith (fun i y => objEO obj groups (gridVal N i) y) ymins))

/-- inversion of a successful `fitSimple` -/
theorem fitSimple_some {flip : Bool} {xm ym : Metric} {N : Nat} {groups : List (List Row)}
    {force : Option Nat} {fit : Fit} (h : fitSimple flip xm ym N groups force = some fit) :
    ∃ hulls cs, SimpleFitParts flip xm ym N groups force fit hulls cs := by
  rw [fitSimple_eq] at h
  cases hh : hullsOf flip xm ym groups with
  | none => rw [hh] at h; cases h
  | some hulls =>
    rw [hh] at h
    simp only at h
    cases hc : curves hulls N with
    | none => rw [hc] at h; cases h
    | some cs =>
      rw [hc] at h
      simp only at h
      split at h
      · next best o hb ho =>
        cases h
        rw [List.getElem?_map, hb] at ho
        exact ⟨hulls, cs, ⟨hh, hc, hb, rfl, (Option.some.inj ho).symm, rfl⟩⟩
      · cases h

/-- inversion of a successful `fitEO` -/
theorem fitEO_some {flip : Bool} {obj : Metric} {N : Nat} {groups : List (List Row)}
    {force : Option Nat} {fit : Fit} {yBest : Rat} (h : fitEO flip obj N groups force = some (fit, yBest)) :
    ∃ hulls cs ymins, EOFitParts flip obj N groups force fit yBest hulls cs ymins := by
  rw [fitEO_eq] at h
  cases hh : hullsOf flip eoXMetric eoYMetric groups with
  | none => rw [hh] at h; cases h
  | some hulls =>
    rw [hh] at h
    simp only at h
    cases hc : curves hulls N with
    | none => rw [hc] at h; cases h
    | some cs =>
      rw [hc] at h
      simp only at h
      cases hy : allSome (cs.map (fun is => minList (is.map (·.y)))) with
      | none => rw [hy] at h; cases h
      | some ymins =>
        rw [hy] at h
        simp only at h
        split at h
        · next best o yb hb ho hyb =>
          cases h
          have hlt := (curves_some hc).1 ▸ (List.getElem?_eq_some_iff.mp hb).1
          rw [List.getElem?_zipWith, List.getElem?_range hlt, hyb] at ho
          exact ⟨hulls, cs, ymins, ⟨hh, hc, hy, hb, hyb, rfl, (Option.some.inj ho).symm, rfl⟩⟩
        · cases h

/-- a successful fit for a simple constraint: the rules are the plain rules of a sound grid row -/
theorem fitSimple_sound {flip : Bool} {xm ym : Metric} {N : Nat} {groups : List (List Row)}
    {force : Option Nat} {fit : Fit} (hx : IsConstraintMetric xm)
    (h : fitSimple flip xm ym N groups force = some fit) :
    BothLabels groups ∧ fit.iBest ≤ N ∧ fit.rules = fit.interps.map simpleRule ∧
    RowSound flip xm ym N groups fit.iBest fit.interps := by
  obtain ⟨hulls, cs, p⟩ := fitSimple_some h
  obtain ⟨hi, hbest⟩ := List.getElem?_eq_some_iff.mp p.interps_eq
  exact ⟨hullsOf_bothLabels p.hulls_eq, Nat.le_of_lt_succ (hi.trans_eq (curves_some p.curves_eq).1), p.rules_eq,
    hbest ▸ curves_rowSound hx p.hulls_eq p.curves_eq fit.iBest hi⟩

theorem eo_metric_is_constraint : IsConstraintMetric eoXMetric := Or.inr rfl

/-- a successful equalized-odds fit: the rules are the `p_ignore` rules of a sound grid row towards the row's minimal TPR -/
theorem fitEO_sound {flip : Bool} {obj : Metric} {N : Nat} {groups : List (List Row)}
    {force : Option Nat} {fit : Fit} {yBest : Rat} (h : fitEO flip obj N groups force = some (fit, yBest)) :
    BothLabels groups ∧ fit.iBest ≤ N ∧ fit.rules = fit.interps.map (eoRule (gridVal N fit.iBest) yBest) ∧
    RowSound flip eoXMetric eoYMetric N groups fit.iBest fit.interps ∧
    minList (fit.interps.map (·.y)) = some yBest := by
  obtain ⟨hulls, cs, ymins, hh, hc, hy, hb, hyb, hrules, _, _⟩ := fitEO_some h
  obtain ⟨hi, hbest⟩ := List.getElem?_eq_some_iff.mp hb
  obtain ⟨hiy, hye⟩ := List.getElem?_eq_some_iff.mp hyb
  exact ⟨hullsOf_bothLabels hh, Nat.le_of_lt_succ (hi.trans_eq (curves_some hc).1), hrules,
    hbest ▸ curves_rowSound eo_metric_is_constraint hh hc fit.iBest hi,
    hbest ▸ hye ▸ (allSome_map_get hy).2 fit.iBest hi hiy⟩

end Threshold
