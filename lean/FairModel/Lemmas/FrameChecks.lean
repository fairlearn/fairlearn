/-
The lifted check list of `MetricFrame.__init__` (`Model/FrameChecks.lean`): first match is `List.find?`, a list of
ValueError checks raises nothing else, and the bridge `frameSrc_eq_frame` to the hand-written `Validation.frame`.
`first_eq_find?`, `runOn_ok_iff`, `runOn_kind` repeat `Validation.firstFailure_eq_find?`, `runChecks_ok_iff`, `runChecks_kind`
word for word: the two lifters emit their own `Check` / `Exc` types (conditions over atoms there, named predicates here), so
the model has two first-match runners and each needs its own three facts.
-/
import FairModel.Lemmas.Validation
import FairModel.Model.FrameChecks

namespace FrameChecks
open Validation Generated.FrameChecksSrc

/-- first-match semantics is `List.find?` -/
theorem first_eq_find? (a : FrameArgs) (cs : List Check) : first a cs = cs.find? (fun c => fires a c.pred) := by
  induction cs with
  | nil => rfl
  | cons c cs ih => rw [first, List.find?_cons, ih]; cases fires a c.pred <;> rfl

/-- the lifted list accepts iff no check of it fires -/
theorem runOn_ok_iff (cs : List Check) (a : FrameArgs) : runOn cs a = .ok ↔ ∀ c ∈ cs, fires a c.pred = false := by
  rw [runOn, first_eq_find?]
  cases h : cs.find? _ with
  | none => exact ⟨fun _ c hc => Bool.eq_false_iff.2 (List.find?_eq_none.1 h c hc), fun _ => rfl⟩
  | some c =>
    refine ⟨fun h' => ?_, fun h' => ?_⟩
    · replace h' : excOutcome c.exc = .ok := h'
      cases he : c.exc <;> rw [he] at h' <;> cases h'
    · exact absurd (List.find?_some h) (Bool.eq_false_iff.1 (h' c (List.mem_of_find?_eq_some h)))

/-- a check of the list that fires makes the call raise (some kind) -/
theorem runOn_rejects (cs : List Check) (a : FrameArgs) (c : Check) (hc : c ∈ cs) (hf : fires a c.pred = true) :
    runOn cs a ≠ .ok := fun h => by
  simp [(runOn_ok_iff cs a).1 h c hc] at hf

/-- every check of kind ValueError → the list only ever raises ValueError -/
theorem runOn_kind (cs : List Check) (hk : ∀ c ∈ cs, c.exc = .valueError) (a : FrameArgs) :
    runOn cs a = .ok ∨ runOn cs a = .valueError := by
  rw [runOn, first_eq_find?]
  cases h : cs.find? _ with
  | none => exact Or.inl rfl
  | some c => right; show excOutcome c.exc = .valueError; rw [hk c (List.mem_of_find?_eq_some h)]; rfl

theorem checks_all_valueError : ∀ c ∈ checks, c.exc = .valueError := by decide

theorem any_or {α} (l : List α) (p q : α → Bool) : l.any (fun c => p c || q c) = (l.any p || l.any q) := by
  induction l with
  | nil => rfl
  | cons x xs ih => simp only [List.any_cons, ih, Bool.or_assoc, Bool.or_left_comm]

/-- THE BRIDGE: the hand-written `Validation.frame` computes what the list lifted from `MetricFrame.__init__` /
    `_process_features` computes, for every descriptor.  A source edit that drops one of the eight checks (in any container
    branch of `_process_features`), turns a `raise` into something else, or changes an exception class changes `checks` and
    breaks this proof. -/
theorem frameSrc_eq_frame (a : FrameArgs) : frameSrc a = frame a := by
  refine Outcome.eq_of_ok_iff (runOn_kind _ checks_all_valueError a) ?_ ?_
  · simp only [frame]; repeat' apply ite_valueError_kind
    exact Or.inl rfl
  · -- the eight lifted conditions are the five of `frame`, the per-column one split by feature kind and by what is tested
    rw [frameSrc, runOn_ok_iff]
    simp only [checks, List.forall_mem_cons, fires, frame, ite_valueError_eq_ok, List.any_append, any_or,
      Bool.not_eq_true, Bool.or_eq_false_iff, List.not_mem_nil, false_imp_iff, implies_true, and_true]
    constructor <;> intro h <;> simp only [h, and_self]

end FrameChecks
