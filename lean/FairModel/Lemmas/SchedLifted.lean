/-
The interpreter `SchedL.fit` of `Model/SchedLifted.lean` at the reference configuration `SchedCfg.reference` is the
`Schedule` model: each expression of the configuration (`*_ref`), one pass of the batch loop in closed form
(`bodyStep_ref`), the batch loop against `Schedule.run` (`foldl_bodyStep_ref_run`), the epoch loop as a flat fold
(nothing `break`s), and the whole `fit` (`fit_reference`).
-/
import FairModel.Lemmas.Schedule
import FairModel.Model.SchedLifted

namespace SchedL
open SchedCfg Schedule

theorem pyCeilDiv_natCast (n b : Nat) (hb : 0 < b) : pyCeilDiv (n : Int) (b : Int) = ((ceilDiv n b : Nat) : Int) := by
  have hb' : (0 : Int) < b := Int.natCast_pos.mpr hb
  have h1 : (n : Int) ≤ (ceilDiv n b : Nat) * b := by
    rw [← Int.natCast_mul]; exact Int.ofNat_le.mpr (le_ceilDiv_mul n b hb)
  have h2 : ((ceilDiv n b : Nat) : Int) * b < n + b := by
    rw [← Int.natCast_mul, ← Int.natCast_add]; exact Int.ofNat_lt.mpr (ceilDiv_mul_lt n b hb)
  rw [pyCeilDiv, Int.fdiv_eq_ediv_of_nonneg _ hb'.le, neg_eq_iff_eq_neg]
  -- with q = ceilDiv n b: −n = b·(−q) + (q·b − n) and 0 ≤ q·b − n < b, so the floor quotient of −n by b is −q
  exact ((Int.ediv_emod_unique (r := (ceilDiv n b : Nat) * b - n) hb').mpr
    ⟨by ring, sub_nonneg.mpr h1, sub_lt_iff_lt_add'.mpr h2⟩).1

theorem runCbs_or (k : Int) (cbs : List (Int → Bool)) (i : Nat) (stop : Bool) (calls : List (Nat × Int)) :
    runCbs .orAcc k cbs i stop calls =
      (stop || cbs.any (fun cb => cb k), calls ++ (List.range' i cbs.length).map (fun j => (j, k))) := by
  induction cbs generalizing i stop calls with
  | nil => simp [runCbs]
  | cons cb r ih =>
    simp only [runCbs, ih, accF, List.any_cons, List.length_cons, List.range'_succ, List.map_cons,
      List.append_assoc, List.cons_append, List.nil_append, Bool.or_assoc]

theorem hitMax_ref (mi : Option Nat) (d : Nat) :
    reference.hitMax (enc mi) ((d : Int) + 1) = Schedule.hitMax mi (d + 1) := by
  cases mi with
  | none => rfl
  | some m =>
    show decide ((m : Int) ≤ ((d + 1 : Nat) : Int)) = decide (m ≤ d + 1)
    exact decide_eq_decide.mpr Int.ofNat_le

theorem sliceSrc_ref (n b k : Nat) : sliceSrc reference (n : Int) (b : Int) k = sliceOf n b k := by
  refine Prod.ext ?_ ?_
  · show ((k : Int) * b).toNat = k * b
    rw [← Int.natCast_mul, Int.toNat_natCast]
  · show (min (((k : Int) + 1) * b) n).toNat = min ((k + 1) * b) n
    rw [← Int.natCast_succ, ← Int.natCast_mul, ← Nat.cast_min, Int.toNat_natCast]

section Loops
variable {σ : Type} {mi : Int} {cbs : List (Int → Bool)} {ts : σ → Nat → Nat → σ} {b n : Int}

theorem bodyStep_returned {cfg : Cfg} {st : St σ} (k : Nat) (h : st.returned = true) :
    bodyStep cfg mi cbs ts b n st k = st := by
  simp [bodyStep, h]

theorem foldl_bodyStep_returned {cfg : Cfg} (L : List Nat) {st : St σ} (h : st.returned = true) :
    L.foldl (bodyStep cfg mi cbs ts b n) st = st := by
  induction L with
  | nil => rfl
  | cons k L ih => rwa [List.foldl_cons, bodyStep_returned k h]

/-- closed form of one pass through the batch loop body at the reference configuration: the step is made and counted;
    `fit` returns if it exhausts `max_iter` (the callbacks are then not called) or some callback says True -/
theorem bodyStep_ref (s : σ) (d : Int) (c : List (Nat × Int)) (k : Nat) :
    bodyStep reference mi cbs ts b n ⟨s, d, false, false, c⟩ k =
      ⟨ts s (sliceSrc reference n b k).1 (sliceSrc reference n b k).2, d + 1,
        reference.hitMax mi (d + 1) || cbs.any (fun cb => cb (d + 1)), false,
        if reference.hitMax mi (d + 1) then c else c ++ (List.range' 0 cbs.length).map (fun j => (j, d + 1))⟩ := by
  -- the fields are read off one by one so that `reference.hitMax mi (d + 1)` stays folded for the `generalize` below
  have hb : reference.body = [.train, .incIter, .checkMax, .callbacks] := rfl
  have hi : ∀ i, reference.incIter i = i + 1 := fun _ => rfl
  have hs : ∀ i, reference.cbStep i = i := fun _ => rfl
  have e0 : reference.exitMax = .returnSelf := rfl
  have e1 : reference.exitStop = .returnSelf := rfl
  have e2 : reference.stopAcc = .orAcc := rfl
  have e3 : reference.stopInit = false := rfl
  simp only [bodyStep, hb, List.foldl_cons, List.foldl_nil, execEv, hi, hs, Bool.or_self, Bool.false_eq_true, if_false]
  generalize sliceSrc reference n b k = sl
  generalize reference.hitMax mi (d + 1) = hm
  cases hm with
  | true => simp [doExit, e0]
  | false =>
    cases cbs with
    | nil => simp
    | cons cb r =>
      simp only [List.isEmpty_cons, Bool.false_eq_true, if_false, Bool.or_self, e1, e2, e3, runCbs_or, Bool.false_or,
        doExit]
      cases (cb :: r).any fun cb => cb (d + 1) <;> rfl

theorem foldl_bodyStep_ref_broke (L : List Nat) (st : St σ) : (L.foldl (bodyStep reference mi cbs ts b n) st).broke = st.broke := by
  induction L generalizing st with
  | nil => rfl
  | cons k L ih =>
    rw [List.foldl_cons, ih]
    obtain ⟨s, d, r, br, c⟩ := st
    cases r with
    | true => rw [bodyStep_returned _ rfl]
    | false =>
      cases br with
      | true => simp [bodyStep]
      | false => rw [bodyStep_ref]

/-- at the reference configuration nothing ever `break`s, so the epoch loop is a plain fold of the batch loop -/
theorem epochStep_ref (bt : Int) (st : St σ) (e : Nat) (h : st.broke = false) :
    epochStep reference mi cbs ts b n bt st e = (List.range bt.toNat).foldl (bodyStep reference mi cbs ts b n) st := by
  obtain ⟨s, d, r, br, c⟩ := st
  cases h
  unfold epochStep
  cases r with
  | true => exact (foldl_bodyStep_returned _ rfl).symm
  | false =>
    have hset : ∀ r : St σ, r.broke = false → ({ r with broke := false } : St σ) = r := by
      intro r hr; cases r; cases hr; rfl
    exact hset _ (foldl_bodyStep_ref_broke _ _)

theorem foldl_epochStep_ref (bt : Int) (l : List Nat) (st : St σ) (h : st.broke = false) :
    l.foldl (epochStep reference mi cbs ts b n bt) st =
      (l.flatMap (fun _ => List.range bt.toNat)).foldl (bodyStep reference mi cbs ts b n) st := by
  induction l generalizing st with
  | nil => rfl
  | cons e l ih =>
    rw [List.foldl_cons, List.flatMap_cons, List.foldl_append, epochStep_ref bt st e h]
    exact ih _ ((foldl_bodyStep_ref_broke ..).trans h)

end Loops

/-- the batch loop at the reference configuration, run over any list of batch numbers from a live state, performs
    exactly the steps of `Schedule.run` on the corresponding slices and records exactly the documented callback
    invocations -/
theorem foldl_bodyStep_ref_run {σ : Type} (mi : Option Nat) (cbs : List (Int → Bool)) (ts : σ → Nat → Nat → σ) (n b : Nat)
    (L : List Nat) (s : σ) (d : Nat) (c : List (Nat × Int)) :
    let R := run mi (!cbs.isEmpty) (fun k => cbs.any (fun cb => cb (k : Int))) d (L.map (sliceOf n b))
    let r := L.foldl (bodyStep reference (enc mi) cbs ts b n) ⟨s, d, false, false, c⟩
    r.state = partialFitSeq ts s R ∧ r.nIter = ((d + R.length : Nat) : Int) ∧ r.calls = c ++ callsOf cbs.length R := by
  induction L generalizing s d c with
  | nil => exact ⟨rfl, rfl, (List.append_nil c).symm⟩
  | cons k L ih =>
    -- one pass through the body, in the terms of `run_cons`
    have hstep : bodyStep reference (enc mi) cbs ts b n ⟨s, d, false, false, c⟩ k =
        ⟨ts s (sliceOf n b k).1 (sliceOf n b k).2, ((d + 1 : Nat) : Int),
          Schedule.hitMax mi (d + 1) || !cbs.isEmpty && cbs.any (fun cb => cb ((d + 1 : Nat) : Int)), false,
          c ++ callsOf cbs.length [⟨(sliceOf n b k).1, (sliceOf n b k).2, d + 1, !cbs.isEmpty && !Schedule.hitMax mi (d + 1)⟩]⟩ := by
      rw [bodyStep_ref, hitMax_ref, sliceSrc_ref]
      cases Schedule.hitMax mi (d + 1) <;> cases cbs <;> simp [callsOf]
    rw [List.foldl_cons, List.map_cons, hstep, run_cons]
    cases Schedule.hitMax mi (d + 1) || !cbs.isEmpty && cbs.any (fun cb => cb ((d + 1 : Nat) : Int))
    · obtain ⟨h1, h2, h3⟩ := ih (ts s (sliceOf n b k).1 (sliceOf n b k).2) (d + 1) _
      exact ⟨h1, h2.trans (by rw [if_neg Bool.false_ne_true, List.length_cons, Nat.add_right_comm, Nat.add_assoc]),
        h3.trans (by simp [callsOf])⟩
    · rw [foldl_bodyStep_returned _ rfl]; exact ⟨rfl, rfl, rfl⟩

theorem rejects_ref (ep mi : Option Nat) (bt : Nat) :
    reference.rejects (enc ep) (enc mi) = (epochsOf ep mi bt).isNone := by
  cases ep <;> cases mi <;> rfl

theorem batchSize_ref (n : Nat) (bs : Option Nat) :
    reference.batchSize (enc bs) (n : Int) = ((batchSizeOf n bs : Nat) : Int) := by
  cases bs <;> rfl

theorem batches_ref (n b : Nat) (hb : 0 < b) : reference.batches (n : Int) (b : Int) = ((batchesOf n b : Nat) : Int) :=
  pyCeilDiv_natCast n b hb

theorem epochs_ref (ep mi : Option Nat) (bt e : Nat) (hbt : 0 < bt) (h : epochsOf ep mi bt = some e) :
    reference.epochs (enc ep) (enc mi) (bt : Int) = (e : Int) := by
  cases ep with
  | some e' => cases h; rfl
  | none =>
    cases mi with
    | none => cases h
    | some m => cases h; exact pyCeilDiv_natCast m bt hbt

/-- `fit` interpreted at the reference configuration: rejected exactly when the `Schedule` model rejects; otherwise the
    final training state is the fold of the single-step entry point over the scheduled slices, `n_iter_` is the number
    of scheduled steps, and the callbacks were invoked exactly as `callsOf` documents. -/
theorem fit_reference {σ : Type} (n : Nat) (bs ep mi : Option Nat) (cbs : List (Int → Bool))
    (ts : σ → Nat → Nat → σ) (s0 : σ) (hn : 0 < n) (hbs : ∀ k, bs = some k → 0 < k) :
    match schedule n bs ep mi (!cbs.isEmpty) (fun k => cbs.any (fun cb => cb (k : Int))) with
    | none => fit reference n (enc bs) (enc ep) (enc mi) cbs ts s0 = none
    | some steps => ∃ st, fit reference n (enc bs) (enc ep) (enc mi) cbs ts s0 = some st ∧
        st.state = partialFitSeq ts s0 steps ∧ st.nIter = (steps.length : Int) ∧
        st.calls = callsOf cbs.length steps := by
  have hb := batchSizeOf_pos n bs hn hbs
  have hbt : 0 < batchesOf n (batchSizeOf n bs) := ceilDiv_pos n _ hn hb
  simp only [schedule, fit]
  rw [rejects_ref ep mi (batchesOf n (batchSizeOf n bs))]
  cases he : epochsOf ep mi (batchesOf n (batchSizeOf n bs)) with
  | none => rfl
  | some e =>
    refine ⟨_, if_neg Bool.false_ne_true, ?_⟩
    rw [batchSize_ref, batches_ref n _ hb, epochs_ref ep mi _ e hbt he, Int.toNat_natCast,
      foldl_epochStep_ref _ _ _ rfl, allSlices_eq_map, Int.toNat_natCast]
    obtain ⟨h1, h2, h3⟩ := foldl_bodyStep_ref_run mi cbs ts n (batchSizeOf n bs)
      ((List.range e).flatMap (fun _ => List.range (batchesOf n (batchSizeOf n bs)))) s0 0 []
    exact ⟨h1, h2.trans (by rw [Nat.zero_add]), h3⟩

theorem epochSlicesSrc_ref (n : Nat) (bs : Option Nat) (hn : 0 < n) (hbs : ∀ k, bs = some k → 0 < k) :
    epochSlicesSrc reference n (enc bs) = epochSlices n (batchSizeOf n bs) := by
  simp only [epochSlicesSrc, epochSlices, batchSize_ref, batches_ref n _ (batchSizeOf_pos n bs hn hbs),
    Int.toNat_natCast]
  exact List.map_congr_left fun k _ => sliceSrc_ref n _ k

end SchedL
