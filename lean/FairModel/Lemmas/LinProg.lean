import FairModel.Lemmas.Saddle
import FairModel.Model.LinProg

/-!
Helper lemmas for `Model/LinProg.lean`: what the rows of the GENERATED matrices are, and what their dot products with
`(Q, t)` / `(lambda, mu)` mean in terms of the Saddle model.
-/
namespace LinProg
open Saddle Finset

/-! ### dot products -/

theorem dot_eq_sum : ∀ (a b : List Rat), dot a b = ∑ i ∈ range a.length, a.getD i 0 * b.getD i 0
  | [], _ => rfl
  | _ :: _, [] => (Finset.sum_eq_zero fun _ _ => mul_zero _).symm
  | x :: a, y :: b => by
    rw [List.length_cons, Finset.sum_range_succ']
    exact (add_comm (x * y) (dot a b)).trans (congrArg (· + x * y) (dot_eq_sum a b))

theorem dot_append_single (a b : List Rat) (x y : Rat) (h : a.length = b.length) :
    dot (a ++ [x]) (b ++ [y]) = dot a b + x * y := by
  unfold dot
  rw [List.zipWith_append h]
  simp

theorem getD_range_map {α : Type} (n : Nat) (f : Nat → α) (d : α) (i : Nat) (hi : i < n) :
    ((List.range n).map f).getD i d = f i := by
  simp [List.getD_eq_getElem?_getD, hi]

/-! ### the generated primal matrices -/

theorem zipWith_replicate_right {α β γ : Type} (f : α → β → γ) (b : β) :
    ∀ l : List α, List.zipWith f l (List.replicate l.length b) = l.map (fun a => f a b)
  | [] => rfl
  | a :: l => by rw [List.length_cons, List.replicate_succ, List.zipWith_cons_cons, zipWith_replicate_right f b l]; rfl

theorem Aub_eq (T : Table) :
    Aub T = (List.range T.nC).map (fun j => (List.range T.nH).map (fun i => T.gam j i - T.c j) ++ [-1]) := by
  have h := zipWith_replicate_right (fun x y : List Rat => x ++ y) [-1]
    ((List.range T.nC).map fun a => (List.range T.nH).map fun x => T.gam a x - T.c a)
  rw [List.length_map, List.length_range, List.map_map] at h
  simp only [Aub, LinProgGen.lpAub, LinProgGen.hcat, LinProgGen.subRows, LinProgGen.negM, LinProgGen.onesM, LinProgGen.onesV,
    LinProgGen.negV, gammasOf, boundOf, List.zipWith_map, List.zipWith_self, List.map_map, Function.comp_def,
    List.map_replicate, List.map_cons, List.map_nil, List.replicate_succ, List.replicate_zero]
  exact h

theorem Aub_row (T : Table) (j : Nat) (hj : j < T.nC) :
    (Aub T).getD j [] = (List.range T.nH).map (fun i => T.gam j i - T.c j) ++ [-1] := by
  rw [Aub_eq, getD_range_map _ _ _ _ hj]

theorem bub_get (T : Table) (j : Nat) : (bub T).getD j 0 = 0 := by
  simp [bub, LinProgGen.lpBub, LinProgGen.zerosV, List.getD_eq_getElem?_getD, List.getElem?_replicate]
  split <;> rfl

theorem Aeq_eq (T : Table) : Aeq T = [List.replicate T.nH 1 ++ [0]] := by
  simp [Aeq, LinProgGen.lpAeq, LinProgGen.hcat, LinProgGen.onesM, LinProgGen.zerosM, LinProgGen.onesV, LinProgGen.zerosV]

theorem beq_eq : beq = [1] := by
  simp [beq, LinProgGen.lpBeq, LinProgGen.onesV]

theorem c_eq (T : Table) (B : Rat) : c T B = (List.range T.nH).map T.err ++ [B] := by
  simp [c, LinProgGen.lpC, errorsOf]

theorem replicate_one_eq (n : Nat) : List.replicate n (1 : Rat) = (List.range n).map (fun _ => (1 : Rat)) := by
  induction n with
  | zero => rfl
  | succ n ih => rw [List.replicate_succ', List.range_succ, List.map_append, ih]; rfl

/-- a row `(f 0, …, f (n-1), a)` against `(l, x)` -/
theorem dot_range_snoc (n : Nat) (f : Nat → Rat) (a : Rat) (l : List Rat) (x : Rat) (hl : l.length = n) :
    dot ((List.range n).map f ++ [a]) (l ++ [x]) = (∑ i ∈ range n, f i * vec l i) + a * x := by
  rw [dot_append_single _ _ _ _ (by rw [List.length_map, List.length_range, hl]), dot_eq_sum, List.length_map,
    List.length_range]
  exact congrArg (· + a * x) (Finset.sum_congr rfl fun i hi => by
    rw [getD_range_map n f 0 i (Finset.mem_range.mp hi)]; rfl)

/-- row `j` of `A_ub` against `(Q, t)` -/
theorem Aub_dot (T : Table) (Q : List Rat) (t : Rat) (hQ : Q.length = T.nH) (j : Nat) (hj : j < T.nC) :
    dot ((Aub T).getD j []) (Q ++ [t]) = (∑ i ∈ range T.nH, (T.gam j i - T.c j) * vec Q i) - t := by
  rw [Aub_row T j hj, dot_range_snoc _ _ _ _ _ hQ, neg_one_mul, ← sub_eq_add_neg]

theorem Aeq_dot (T : Table) (Q : List Rat) (t : Rat) (hQ : Q.length = T.nH) :
    dot (List.replicate T.nH 1 ++ [0]) (Q ++ [t]) = Q.sum := by
  rw [replicate_one_eq, dot_range_snoc _ _ _ _ _ hQ, zero_mul, add_zero, ← sum_vec Q, hQ]
  simp only [one_mul]

theorem c_dot (T : Table) (B : Rat) (Q : List Rat) (t : Rat) (hQ : Q.length = T.nH) :
    dot (c T B) (Q ++ [t]) = errQ T (vec Q) + B * t := by
  rw [c_eq, dot_range_snoc _ _ _ _ _ hQ, errQ, sumTo_eq]
  exact congrArg (· + B * t) (Finset.sum_congr rfl fun i _ => mul_comm _ _)

/-- with weights summing to one, the `A_ub` row sum is the constraint violation of the mixture -/
theorem row_sum_eq_viol (T : Table) (Q : List Rat) (hQ : Q.length = T.nH) (hs : Q.sum = 1) (j : Nat) :
    ∑ i ∈ range T.nH, (T.gam j i - T.c j) * vec Q i = viol T (vec Q) j := by
  rw [viol_mix T (vec Q) (by rw [← hQ, sum_vec, hs]) j]
  exact Finset.sum_congr rfl fun i _ => mul_comm _ _

/-! ### the generated dual matrices -/

theorem dualA_eq (T : Table) :
    dualA T = (List.range (T.nH + 1)).map (fun i =>
      LinProgGen.negV ((Aub T).map (fun r => r.getD i 0)) ++ [(List.replicate T.nH (1 : Rat) ++ [0]).getD i 0]) := by
  simp only [dualA, LinProgGen.dualAub, LinProgGen.hcat, LinProgGen.negM, LinProgGen.transposeM, Aeq_eq, List.map_map,
    List.zipWith_map, List.zipWith_self, List.map_cons, List.map_nil, Function.comp_def]

theorem getD_map_snoc_lt {α : Type} (n : Nat) (f : Nat → α) (a d : α) {i : Nat} (hi : i < n) :
    ((List.range n).map f ++ [a]).getD i d = f i := by
  rw [getD_append_lt _ _ _ (by rwa [List.length_map, List.length_range]), getD_range_map n f d i hi]

theorem getD_map_snoc_eq {α : Type} (n : Nat) (f : Nat → α) (a d : α) : ((List.range n).map f ++ [a]).getD n d = a := by
  have := getD_snoc ((List.range n).map f) a d
  rwa [List.length_map, List.length_range] at this

/-- row `i < nH` of `dual_A_ub`: minus column `i` of `A_ub`, then column `i` of `A_eq` -/
theorem dualA_row_lo (T : Table) (i : Nat) (hi : i < T.nH) :
    (dualA T).getD i [] = (List.range T.nC).map (fun j => -(T.gam j i - T.c j)) ++ [1] := by
  rw [dualA_eq, getD_range_map _ _ _ _ (by omega), Aub_eq, replicate_one_eq]
  simp only [LinProgGen.negV, List.map_map, Function.comp_def, getD_map_snoc_lt _ _ _ _ hi]

/-- row `nH` of `dual_A_ub` (the slack column of the primal): `+1` per constraint, `0` for the free variable -/
theorem dualA_row_hi (T : Table) :
    (dualA T).getD T.nH [] = (List.range T.nC).map (fun _ => (1 : Rat)) ++ [0] := by
  rw [dualA_eq, getD_range_map _ _ _ _ (by omega), Aub_eq, replicate_one_eq]
  simp only [LinProgGen.negV, List.map_map, Function.comp_def, getD_map_snoc_eq, neg_neg]

theorem dualB_get (T : Table) (B : Rat) (i : Nat) (hi : i ≤ T.nH) :
    (dualB T B).getD i 0 = if i < T.nH then T.err i else B := by
  rw [dualB, LinProgGen.dualBub, c_eq]
  split
  · next h => exact getD_map_snoc_lt _ _ _ _ h
  · next h =>
    obtain rfl : i = T.nH := by omega
    exact getD_map_snoc_eq _ _ _ _

theorem dualC_eq (T : Table) : dualC T = List.replicate T.nC 0 ++ [-1] := by
  simp [dualC, LinProgGen.dualC, bub, LinProgGen.lpBub, LinProgGen.zerosV, beq_eq, LinProgGen.negV]

theorem dot_replicate_zero : ∀ (n : Nat) (l : List Rat), dot (List.replicate n 0) l = 0
  | 0, _ => by simp [dot]
  | n + 1, [] => by simp [dot]
  | n + 1, x :: l => by
    have := dot_replicate_zero n l
    unfold dot at this ⊢
    simp [List.replicate_succ, this]

/-! ### the feasibility tests, row by row -/

theorem rowsLe_iff (A : List (List Rat)) (b x : List Rat) :
    rowsLe A b x = true ↔ ∀ j < A.length, dot (A.getD j []) x ≤ b.getD j 0 := by
  simp only [rowsLe, List.all_eq_true, List.mem_range, decide_eq_true_eq]

theorem rowsEq_iff (A : List (List Rat)) (b x : List Rat) :
    rowsEq A b x = true ↔ ∀ j < A.length, dot (A.getD j []) x = b.getD j 0 := by
  simp only [rowsEq, List.all_eq_true, List.mem_range, decide_eq_true_eq]

end LinProg
