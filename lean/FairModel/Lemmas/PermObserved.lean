/-
Relabelling (C12), from "injective on ALL labels" to "a bijection of the OBSERVED labels".

`C12.rename_equivariant` asks for relabellings `σs j` that are injective on every string.  A user's relabelling is a
bijection of the labels that occur in the data onto new labels (e.g. a ↦ z, b ↦ c — which sends `z` to `z` as well and
is therefore NOT injective on all strings).  Here: every function that is injective on a finite list of labels agrees
on that list with a function that is injective everywhere (built from label swaps), every key of a result table
consists of observed labels, and relabelling only looks at observed labels.
-/
import FairModel.Lemmas.PermRename

namespace Perm
open Frame

variable {α β : Type}

/-- `σs` restricted to the labels that OCCUR in the rows is injective, column by column (columns numbered as in the
    `by_group` index, control columns first): what "renaming the group labels by a bijection" means for a data set -/
def InjOnObserved (σs : Nat → Level → Level) (rows : List (Row α)) : Prop :=
  ∀ j, ∀ r ∈ rows, ∀ r' ∈ rows, σs j (r.key.getD j "") = σs j (r'.key.getD j "") → r.key.getD j "" = r'.key.getD j ""

theorem InjOnObserved.of_injective {σs : Nat → Level → Level} (h : ∀ j, Function.Injective (σs j))
    (rows : List (Row α)) : InjOnObserved σs rows := fun j _ _ _ _ e => h j e

/-- on rows of the declared width only the `ncf + nsf` real columns have to be looked at (a decidable condition) -/
theorem InjOnObserved.of_width {σs : Nat → Level → Level} {rows : List (Row α)} {ncf nsf : Nat} (hwf : WF ncf nsf rows)
    (h : ∀ j, j < ncf + nsf → ∀ r ∈ rows, ∀ r' ∈ rows,
      σs j (r.key.getD j "") = σs j (r'.key.getD j "") → r.key.getD j "" = r'.key.getD j "") :
    InjOnObserved σs rows := by
  intro j r hr r' hr' e
  by_cases hj : j < ncf + nsf
  · exact h j hj r hr r' hr' e
  · have hd : ∀ r ∈ rows, r.key.getD j "" = "" := fun r hr => by
      rw [List.getD_eq_getElem?_getD, List.getElem?_eq_none]
      · rfl
      · rw [hwf.key_length r hr]
        exact Nat.le_of_not_lt hj
    rw [hd r hr, hd r' hr']

/-- a map that is injective ON a finite list of labels agrees there with a map that is injective EVERYWHERE -/
theorem exists_injective_extension (g : Level → Level) :
    ∀ (L : List Level), (∀ a ∈ L, ∀ b ∈ L, g a = g b → a = b) →
      ∃ g' : Level → Level, Function.Injective g' ∧ ∀ x ∈ L, g' x = g x := by
  intro L
  induction L with
  | nil => intro _; exact ⟨id, Function.injective_id, by simp⟩
  | cons x L ih =>
    intro h
    obtain ⟨g', hinj, hag⟩ :=
      ih (fun a ha b hb => h a (List.mem_cons_of_mem _ ha) b (List.mem_cons_of_mem _ hb))
    by_cases hx : x ∈ L
    · refine ⟨g', hinj, ?_⟩
      intro y hy
      rcases List.mem_cons.mp hy with rfl | hy
      · exact hag _ hx
      · exact hag _ hy
    · -- move the value `g' x` to the wanted `g x` afterwards; no other label of `L` has either value
      refine ⟨swapLevels (g' x) (g x) ∘ g', (swapLevels_injective _ _).comp hinj, ?_⟩
      intro y hy
      rcases List.mem_cons.mp hy with rfl | hy
      · simp [swapLevels]
      · have h1 : g y ≠ g' x := fun e => hx (hinj ((hag y hy).trans e) ▸ hy)
        have h2 : g y ≠ g x := fun e => hx (h y (List.mem_cons_of_mem _ hy) x (List.mem_cons_self ..) e ▸ hy)
        simp [swapLevels, h1, h2, hag y hy]

/-- every index tuple of a result table has at most `n` columns and consists of OBSERVED labels, column by column -/
theorem applyFunctions_key_observed (nanv : β) (kf : Row α → Key) (n : Nat) (f : List α → β) (rows : List (Row α))
    (hlen : ∀ r ∈ rows, (kf r).length = n) :
    ∀ e ∈ applyFunctions nanv kf n f rows, ∀ j, j < e.1.length →
      j < n ∧ ∃ r ∈ rows, e.1.getD j "" = (kf r).getD j "" := by
  intro e he j hj
  rcases n.eq_zero_or_pos with rfl | hn
  · rw [List.mem_singleton.mp he] at hj
    cases hj
  · have hk := ((mem_applyFunctions nanv kf hn f rows (k := e.1) (v := e.2)).mp he).1
    rw [tableIndex_eq_product kf hn rows hlen] at hk
    have h2 := forall2_iff_getD.mp (mem_product.mp hk)
    have hj' : j < n := by rw [← levels_length kf n rows, ← h2.1]; exact hj
    obtain ⟨r, hr, h⟩ := (mem_levels kf n rows j hj' _).mp (h2.2 j (by rw [levels_length]; exact hj'))
    exact ⟨hj', r, hr, h.symm⟩

theorem exists_injective_agreeing (σs : Nat → Level → Level) (rows : List (Row α)) (h : InjOnObserved σs rows) :
    ∃ σs' : Nat → Level → Level, (∀ j, Function.Injective (σs' j)) ∧
      ∀ j, ∀ r ∈ rows, σs' j (r.key.getD j "") = σs j (r.key.getD j "") := by
  have hj : ∀ j, ∃ g', Function.Injective g' ∧ ∀ x ∈ rows.map (fun r => r.key.getD j ""), g' x = σs j x := by
    intro j
    apply exists_injective_extension
    intro a ha b hb hab
    simp only [List.mem_map] at ha hb
    obtain ⟨r, hr, rfl⟩ := ha
    obtain ⟨r', hr', rfl⟩ := hb
    exact h j r hr r' hr' hab
  exact ⟨fun j => (hj j).choose, fun j => (hj j).choose_spec.1,
    fun j r hr => (hj j).choose_spec.2 _ (List.mem_map.mpr ⟨r, hr, rfl⟩)⟩

theorem map_renCols_congr_on (σs σs' : Nat → Level → Level) (rows : List (Row α))
    (h : ∀ j, ∀ r ∈ rows, σs' j (r.key.getD j "") = σs j (r.key.getD j "")) :
    rows.map (renCols σs) = rows.map (renCols σs') := by
  refine List.map_congr_left fun r hr => ?_
  have h1 : mapCols σs r.cf = mapCols σs' r.cf :=
    mapCols_congr_on _ _ _ fun j hj => by
      rw [← r.key_getD_of_lt hj]
      exact (h j r hr).symm
  have h2 : mapCols (fun j => σs (r.cf.length + j)) r.sf = mapCols (fun j => σs' (r.cf.length + j)) r.sf :=
    mapCols_congr_on _ _ _ fun j _ => by
      rw [← r.key_getD_add j]
      exact (h _ r hr).symm
  rw [renCols, renCols, h1, h2]

/-- the renamed entries of a result table of `rows` are the same for two relabellings that agree on the observed
    labels (`kf` = full key or control key; `hk`: the key is a prefix-compatible part of the full key) -/
theorem map_entries_congr_on (nanv : β) (kf : Row α → Key) (n : Nat) (f : List α → β) (rows : List (Row α))
    (hlen : ∀ r ∈ rows, (kf r).length = n) (hk : ∀ r ∈ rows, ∀ j, j < n → (kf r).getD j "" = r.key.getD j "")
    (σs σs' : Nat → Level → Level) (h : ∀ j, ∀ r ∈ rows, σs' j (r.key.getD j "") = σs j (r.key.getD j "")) :
    (applyFunctions nanv kf n f rows).map (fun e => (mapCols σs e.1, e.2)) =
      (applyFunctions nanv kf n f rows).map (fun e => (mapCols σs' e.1, e.2)) := by
  apply List.map_congr_left
  intro e he
  congr 1
  apply mapCols_congr_on
  intro j hj
  obtain ⟨hjn, r, hr, hjr⟩ := applyFunctions_key_observed nanv kf n f rows hlen e he j hj
  rw [hjr, hk r hr j hjn]
  exact (h j r hr).symm

end Perm
