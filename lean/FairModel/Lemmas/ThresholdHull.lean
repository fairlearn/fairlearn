/-
Geometry of `_filter_points_to_get_convex_hull` (Andrew's monotone chain, upper hull) as modelled in
`Model/Threshold.lean`: sortedness of `sortLex`, and the loop invariant of `hullRev`:
the stack is a lexicographically decreasing (top first) sub-collection of the processed points, strictly concave,
its top / bottom are the last / first processed point, and EVERY processed point lies on or below the line
through ANY two consecutive stack vertices.
-/
import FairModel.Lemmas.ListInd
import FairModel.Lemmas.ThresholdSrc

namespace Threshold

/-- twice the signed area of `a b q`; `≤ 0` means `q` is on or below (to the right of) the directed line `a → b` -/
def cross (a b q : Pt) : Rat := (b.x - a.x) * (q.y - a.y) - (b.y - a.y) * (q.x - a.x)

/-- lexicographic order on (x, y) -/
def LexLe (a b : Pt) : Prop := a.x < b.x ∨ (a.x = b.x ∧ a.y ≤ b.y)

theorem LexLe.refl (a : Pt) : LexLe a a := Or.inr ⟨rfl, le_refl _⟩

theorem LexLe.x_le {a b : Pt} (h : LexLe a b) : a.x ≤ b.x := h.elim le_of_lt fun h => h.1.le

theorem LexLe.trans {a b c : Pt} (h1 : LexLe a b) (h2 : LexLe b c) : LexLe a c := by
  rcases h1 with h1 | ⟨h1, h1'⟩
  · exact Or.inl (h1.trans_le h2.x_le)
  · rcases h2 with h2 | ⟨h2, h2'⟩
    · exact Or.inl (h1 ▸ h2)
    · exact Or.inr ⟨h1.trans h2, h1'.trans h2'⟩

theorem LexLe.of_lexLt {a b : Pt} (h : lexLt a b = true) : LexLe a b :=
  ((src_lexLt a b).mp h).imp_right fun h => ⟨h.1, h.2.le⟩

theorem LexLe.of_not_lexLt {a b : Pt} (h : ¬ lexLt a b = true) : LexLe b a := by
  rw [src_lexLt, not_or, not_lt, not_and, not_lt] at h
  exact h.1.lt_or_eq.imp_right fun he => ⟨he, h.2 he.symm⟩

theorem sorted_head_le {l : List Pt} (hs : l.Pairwise LexLe) {q : Pt} (hq : q ∈ l) :
    ∃ p, l.head? = some p ∧ LexLe p q := by
  cases l with
  | nil => cases hq
  | cons a l =>
    refine ⟨a, rfl, ?_⟩
    rcases List.mem_cons.mp hq with rfl | hq
    · exact LexLe.refl _
    · exact (List.pairwise_cons.mp hs).1 q hq

theorem sorted_le_last {l : List Pt} (hs : l.Pairwise LexLe) {q : Pt} (hq : q ∈ l) :
    ∃ p, l.getLast? = some p ∧ LexLe q p := by
  have hne : l ≠ [] := List.ne_nil_of_mem hq
  refine ⟨l.getLast hne, List.getLast?_eq_some_getLast hne, ?_⟩
  rw [← List.dropLast_append_getLast hne] at hq hs
  rcases List.mem_append.mp hq with hq | hq
  · exact (List.pairwise_append.mp hs).2.2 q hq _ (List.mem_singleton_self _)
  · rw [List.mem_singleton.mp hq]; exact LexLe.refl _

theorem insertLex_eq_orderedInsert (p : Pt) (l : List Pt) :
    insertLex p l = l.orderedInsert (fun a b => ¬ lexLt b a) p := by
  induction l with
  | nil => rfl
  | cons q qs ih => unfold insertLex; rw [List.orderedInsert_cons, ite_not, ih]

theorem sortLex_eq_insertionSort (pts : List Pt) : sortLex pts = pts.insertionSort (fun a b => ¬ lexLt b a) :=
  congrArg (List.foldr · [] pts) (funext₂ insertLex_eq_orderedInsert)

theorem mem_sortLex (q : Pt) (l : List Pt) : q ∈ sortLex l ↔ q ∈ l :=
  sortLex_eq_insertionSort l ▸ List.mem_insertionSort _

theorem pairwise_sortLex (l : List Pt) : (sortLex l).Pairwise LexLe :=
  sortLex_eq_insertionSort l ▸ List.pairwise_insertionSort_of (σ := LexLe) (fun _ _ => LexLe.of_not_lexLt)
    (fun _ _ h => LexLe.of_lexLt (not_not.mp h)) (fun _ _ _ => LexLe.trans) l

/-! ### cross-product arithmetic

Every geometric step below is one instance of the linear dependence of three plane vectors: with the vectors taken
from a common base point, `p * A = s * B + t * C` where `A B C` are crosses and `p s t` differences of x-coordinates,
whose signs the lexicographic order fixes. -/

theorem nonpos_of_mul_eq {p A s B t C : Rat} (h : p * A = s * B + t * C) (hp : 0 < p)
    (hs : 0 ≤ s) (hB : B ≤ 0) (ht : 0 ≤ t) (hC : C ≤ 0) : A ≤ 0 :=
  nonpos_of_mul_nonpos_right
    (h ▸ add_nonpos (mul_nonpos_of_nonneg_of_nonpos hs hB) (mul_nonpos_of_nonneg_of_nonpos ht hC)) hp

theorem neg_of_mul_eq {p A s B t C : Rat} (h : p * A = s * B + t * C) (hp : 0 ≤ p)
    (hs : 0 ≤ s) (hB : B ≤ 0) (ht : 0 < t) (hC : C < 0) : A < 0 :=
  neg_of_mul_neg_right
    (h ▸ add_neg_of_nonpos_of_neg (mul_nonpos_of_nonneg_of_nonpos hs hB) (mul_neg_of_pos_of_neg ht hC)) hp

theorem cross_of_x_eq_left {a b q : Pt} (h : q.x = a.x) : cross a b q = (b.x - a.x) * (q.y - a.y) := by
  unfold cross; rw [h]; ring

theorem cross_of_x_eq_right {a b q : Pt} (h : q.x = b.x) : cross a b q = (b.x - a.x) * (q.y - b.y) := by
  unfold cross; rw [h]; ring

/-- a strict right turn of lexicographically increasing points cannot end in a vertical step -/
theorem x_lt_of_cross_neg {a b c : Pt} (hab : LexLe a b) (hbc : LexLe b c) (h : cross a b c < 0) : b.x < c.x := by
  rcases hbc with hlt | ⟨hx, hy⟩
  · exact hlt
  · rw [cross_of_x_eq_right hx.symm] at h
    exact absurd h (not_lt.mpr (mul_nonneg (sub_nonneg.mpr hab.x_le) (sub_nonneg.mpr hy)))

/-- four lexicographically increasing points, two consecutive strict right turns ⇒ the last point is strictly
    below the first edge -/
theorem cross_chain {a b c d : Pt} (hab : LexLe a b) (hbc : LexLe b c) (hcd : LexLe c d)
    (h1 : cross a b c < 0) (h2 : cross b c d < 0) : cross a b d < 0 := by
  have id : (c.x - b.x) * cross a b d = (b.x - a.x) * cross b c d + (d.x - b.x) * cross a b c := by
    unfold cross; ring
  have hbc' := x_lt_of_cross_neg hab hbc h1
  exact neg_of_mul_eq id (sub_nonneg.mpr hbc.x_le) (sub_nonneg.mpr hab.x_le) h2.le
    (sub_pos.mpr (hbc'.trans_le hcd.x_le)) h1

/-- `q` left of `t`, below the edge `t' → t`; `r` strictly below that edge and right of `t` ⇒ `q` is below `t → r` -/
theorem cross_left {t' t r q : Pt} (h1 : LexLe t' t) (h2 : LexLe t r) (hq : q.x < t.x)
    (hb : cross t' t q ≤ 0) (hr : cross t' t r < 0) : cross t r q ≤ 0 := by
  have id : (t.x - t'.x) * cross t r q = (r.x - t.x) * cross t' t q + (t.x - q.x) * cross t' t r := by
    unfold cross; ring
  exact (neg_of_mul_eq id (sub_nonneg.mpr h1.x_le) (sub_nonneg.mpr h2.x_le) hb (sub_pos.mpr hq) hr).le

/-- pop step, `q` at or right of the popped vertex `r1` -/
theorem cross_pop_right {r0 r1 r2 q : Pt} (h01 : LexLe r0 r1) (h12 : LexLe r1 r2) (hq2 : LexLe q r2)
    (hq1 : r1.x ≤ q.x) (hb : cross r1 r2 q ≤ 0) (hd : cross r0 r2 r1 ≤ 0) : cross r0 r2 q ≤ 0 := by
  have h02 : 0 ≤ r2.x - r0.x := sub_nonneg.mpr (h01.x_le.trans h12.x_le)
  rcases h12.x_le.lt_or_eq with hlt | heq
  · have id : (r2.x - r1.x) * cross r0 r2 q = (r2.x - r0.x) * cross r1 r2 q + (r2.x - q.x) * cross r0 r2 r1 := by
      unfold cross; ring
    exact nonpos_of_mul_eq id (sub_pos.mpr hlt) h02 hb (sub_nonneg.mpr hq2.x_le) hd
  · -- `r1`, `q`, `r2` on one vertical line, `q` not above `r2`
    rcases hq2 with h | ⟨hx, hy⟩
    · exact absurd (heq ▸ hq1) (not_le.mpr h)
    · rw [cross_of_x_eq_right hx]
      exact mul_nonpos_of_nonneg_of_nonpos h02 (sub_nonpos.mpr hy)

/-- pop step, `q` strictly between `r0` and the popped vertex `r1` -/
theorem cross_pop_mid {r0 r1 r2 q : Pt} (h12 : LexLe r1 r2)
    (hq0 : r0.x ≤ q.x) (hq1 : q.x < r1.x) (hb : cross r0 r1 q ≤ 0) (hd : cross r0 r2 r1 ≤ 0) :
    cross r0 r2 q ≤ 0 := by
  have id : (r1.x - r0.x) * cross r0 r2 q = (r2.x - r0.x) * cross r0 r1 q + (q.x - r0.x) * cross r0 r2 r1 := by
    unfold cross; ring
  have h01 : r0.x < r1.x := hq0.trans_lt hq1
  exact nonpos_of_mul_eq id (sub_pos.mpr h01) (sub_nonneg.mpr (h01.le.trans h12.x_le)) hb (sub_nonneg.mpr hq0) hd

/-- the `dropTest` of the code in terms of `cross` -/
theorem dropTest_iff (r0 r1 r2 : Pt) : dropTest r0 r1 r2 = true ↔ cross r0 r2 r1 ≤ 0 := by
  rw [src_hullDrop, decide_eq_true_eq, cross, sub_nonpos, mul_comm]

theorem not_dropTest_iff (r0 r1 r2 : Pt) : ¬ dropTest r0 r1 r2 = true ↔ cross r0 r1 r2 < 0 := by
  rw [src_hullDrop, decide_eq_true_eq, not_le, cross, sub_neg, mul_comm]

/-- every three consecutive stack vertices make a strict right turn -/
def Concave : List Pt → Prop
  | r2 :: r1 :: r0 :: rest => cross r0 r1 r2 < 0 ∧ Concave (r1 :: r0 :: rest)
  | _ => True

/-- `q` is on or below the line through every two consecutive stack vertices -/
def BelowAll (q : Pt) : List Pt → Prop
  | b :: a :: rest => cross a b q ≤ 0 ∧ BelowAll q (a :: rest)
  | _ => True

def SortedDesc (S : List Pt) : Prop := S.Pairwise (fun a b => LexLe b a)

theorem Concave.tail {a : Pt} {S : List Pt} (h : Concave (a :: S)) : Concave S := by
  match S, h with
  | [], _ => trivial
  | [_], _ => trivial
  | _ :: _ :: _, h => exact h.2

theorem BelowAll.tail {q a : Pt} {S : List Pt} (h : BelowAll q (a :: S)) : BelowAll q S := by
  match S, h with
  | [], _ => trivial
  | _ :: _, h => exact h.2

theorem BelowAll.cons {q r : Pt} {T : List Pt} (hb : BelowAll q T) (h : ∀ t ∈ T.head?, cross t r q ≤ 0) :
    BelowAll q (r :: T) := by
  cases T with
  | nil => trivial
  | cons t T => exact ⟨h t rfl, hb⟩

/-- a point right of the top that is strictly below the top edge is strictly below every edge of a concave chain -/
theorem belowAll_of_top {r2 : Pt} : ∀ {T : List Pt}, SortedDesc T → Concave T → (∀ t ∈ T.head?, LexLe t r2) →
    (∀ t1 t0 rest, T = t1 :: t0 :: rest → cross t0 t1 r2 < 0) → BelowAll r2 T
  | [], _, _, _, _ => trivial
  | [_], _, _, _, _ => trivial
  | t1 :: t0 :: rest, hs, hc, h12, hx => by
    have hx0 := hx t1 t0 rest rfl
    have h01 : LexLe t0 t1 := (List.pairwise_cons.mp hs).1 t0 List.mem_cons_self
    have h1 := h12 t1 rfl
    refine ⟨hx0.le, belowAll_of_top (List.pairwise_cons.mp hs).2 hc.tail (fun t ht => ?_) fun a b rest' he => ?_⟩
    · cases ht; exact h01.trans h1
    · cases he
      exact cross_chain ((List.pairwise_cons.mp (List.pairwise_cons.mp hs).2).1 b List.mem_cons_self) h01 h1 hc.1 hx0

/-- popping leaves a suffix of the stack with the same bottom, and the two top vertices left (if there are two) pass the
    keep-test against `r2` -/
theorem popWhile_spec (r2 : Pt) (S : List Pt) :
    popWhile r2 S <:+ S ∧ (popWhile r2 S).getLast? = S.getLast? ∧
    ∀ t1 t0 rest, popWhile r2 S = t1 :: t0 :: rest → cross t0 t1 r2 < 0 := by
  fun_induction popWhile r2 S with
  | case1 r1 r0 rest _ ih =>
    exact ⟨ih.1.trans (List.suffix_cons _ _), ih.2.1.trans List.getLast?_cons_cons.symm, ih.2.2⟩
  | case2 r1 r0 rest h =>
    exact ⟨List.suffix_refl _, rfl, fun t1 t0 rest' heq => by cases heq; exact (not_dropTest_iff _ _ _).mp h⟩
  | case3 l h => exact ⟨List.suffix_refl _, rfl, fun t1 t0 rest heq => absurd heq (h t1 t0 rest)⟩

theorem SortedDesc.suffix {S T : List Pt} (h : SortedDesc S) (hs : T <:+ S) : SortedDesc T :=
  List.Pairwise.sublist hs.sublist h

theorem Concave.suffix {S T : List Pt} (h : Concave S) (hs : T <:+ S) : Concave T := by
  obtain ⟨pre, rfl⟩ := hs
  induction pre with
  | nil => exact h
  | cons a pre ih => exact ih (Concave.tail h)

theorem BelowAll.suffix {q : Pt} {S T : List Pt} (h : BelowAll q S) (hs : T <:+ S) : BelowAll q T := by
  obtain ⟨pre, rfl⟩ := hs
  induction pre with
  | nil => exact h
  | cons a pre ih => exact ih (BelowAll.tail h)

/-- "top bound": every processed point at or right of the top vertex is on or below the line top → r2 -/
def TopBound (P : List Pt) (r2 : Pt) (S : List Pt) : Prop :=
  ∀ t ∈ S.head?, ∀ q ∈ P, t.x ≤ q.x → cross t r2 q ≤ 0

/-- the step that makes the hull proof work: `TopBound` survives each pop (`cross_pop_right` for points at or right of the
    popped vertex, `cross_pop_mid` for those between the new top and it) -/
theorem popWhile_topBound (P : List Pt) (r2 : Pt) (S : List Pt)
    (hsorted : SortedDesc S) (hle : ∀ q ∈ P, LexLe q r2) (hS : ∀ s ∈ S, LexLe s r2)
    (hbelow : ∀ q ∈ P, BelowAll q S) (htop : TopBound P r2 S) : TopBound P r2 (popWhile r2 S) := by
  fun_induction popWhile r2 S with
  | case1 r1 r0 rest hdrop ih =>
    have hs' := List.pairwise_cons.mp hsorted
    have hd : cross r0 r2 r1 ≤ 0 := (dropTest_iff _ _ _).mp hdrop
    apply ih hs'.2 (fun s hs => hS s (List.mem_cons_of_mem _ hs)) (fun q hq => (hbelow q hq).tail)
    intro t ht q hq htq
    cases ht
    by_cases hq1 : r1.x ≤ q.x
    · exact cross_pop_right (hs'.1 r0 List.mem_cons_self) (hS r1 List.mem_cons_self) (hle q hq) hq1
        (htop r1 rfl q hq hq1) hd
    · exact cross_pop_mid (hS r1 List.mem_cons_self) htq (not_le.mp hq1) (hbelow q hq).1 hd
  | case2 r1 r0 rest _ => exact htop
  | case3 l _ => exact htop

/-- loop invariant of `hullRev`: stack `S` (top first) after the points `P` -/
structure HullInv (S P : List Pt) : Prop where
  sub : ∀ s ∈ S, s ∈ P
  sorted : SortedDesc S
  concave : Concave S
  below : ∀ q ∈ P, BelowAll q S
  top : S.head? = P.getLast?
  bottom : S.getLast? = P.head?

theorem HullInv.nil : HullInv [] [] :=
  ⟨fun _ h => h, List.Pairwise.nil, trivial, fun _ _ => trivial, rfl, rfl⟩

theorem hullStep_inv {S P : List Pt} {r2 : Pt} (inv : HullInv S P)
    (hP : (P ++ [r2]).Pairwise LexLe) : HullInv (hullStep S r2) (P ++ [r2]) := by
  obtain ⟨hPs, -, hle⟩ := List.pairwise_append.mp hP
  replace hle : ∀ q ∈ P, LexLe q r2 := fun q hq => hle q hq r2 (List.mem_singleton_self _)
  have hS : ∀ s ∈ S, LexLe s r2 := fun s hs => hle s (inv.sub s hs)
  -- the top of `S` is the last processed point, so nothing processed is strictly right of it
  have htop0 : TopBound P r2 S := by
    intro t ht q hq htq
    obtain ⟨t', ht', hqt⟩ := sorted_le_last hPs hq
    cases (inv.top ▸ ht').symm.trans ht
    have hx : q.x = t.x := le_antisymm hqt.x_le htq
    rw [cross_of_x_eq_left hx]
    exact mul_nonpos_of_nonneg_of_nonpos (sub_nonneg.mpr (hS t (List.mem_of_mem_head? ht)).x_le)
      (sub_nonpos.mpr (hqt.elim (fun h => absurd hx.ge (not_le.mpr h)) (·.2)))
  have htopT := popWhile_topBound P r2 S inv.sorted hle hS inv.below htop0
  obtain ⟨hsuf, hTlast, hTtop⟩ := popWhile_spec r2 S
  show HullInv (r2 :: popWhile r2 S) _
  generalize popWhile r2 S = T at *
  have hTs := inv.sorted.suffix hsuf
  have hST : ∀ t ∈ T, LexLe t r2 := fun t ht => hS t (hsuf.subset ht)
  refine ⟨?_, List.pairwise_cons.mpr ⟨hST, hTs⟩, ?_, ?_, ?_, ?_⟩
  · intro s hs
    rcases List.mem_cons.mp hs with rfl | hs
    · exact List.mem_append_right _ (List.mem_singleton_self _)
    · exact List.mem_append_left _ (inv.sub s (hsuf.subset hs))
  · rcases T with _ | ⟨t1, _ | ⟨t0, rest⟩⟩
    · trivial
    · trivial
    · exact ⟨hTtop t1 t0 rest rfl, inv.concave.suffix hsuf⟩
  · intro q hq
    rcases List.mem_append.mp hq with hq | hq
    · refine ((inv.below q hq).suffix hsuf).cons fun t ht => ?_
      by_cases htq : t.x ≤ q.x
      · exact htopT t ht q hq htq
      · rcases T with _ | ⟨t1, _ | ⟨t0, rest⟩⟩
        · cases ht
        · -- `t` would be the bottom vertex, the first processed point: nothing is strictly left of it
          cases ht
          obtain ⟨p, hp, hpq⟩ := sorted_head_le hPs hq
          have : some p = some t := hp.symm.trans (hTlast.trans inv.bottom).symm
          cases this
          exact absurd hpq.x_le htq
        · cases ht
          exact cross_left ((List.pairwise_cons.mp hTs).1 t0 List.mem_cons_self) (hST t List.mem_cons_self)
            (not_le.mp htq) ((inv.below q hq).suffix hsuf).1 (hTtop t t0 rest rfl)
    · cases List.mem_singleton.mp hq
      refine (belowAll_of_top hTs (inv.concave.suffix hsuf) (fun t ht => hST t (List.mem_of_mem_head? ht))
        hTtop).cons fun t _ => ?_
      rw [cross_of_x_eq_right rfl, sub_self, mul_zero]
  · exact List.getLast?_concat.symm
  · rw [List.getLast?_cons, hTlast, inv.bottom, List.head?_append]
    cases P.head? <;> rfl

theorem hullRev_inv_aux (rest : List Pt) : ∀ (S P : List Pt), HullInv S P → (P ++ rest).Pairwise LexLe →
    HullInv (rest.foldl hullStep S) (P ++ rest) := by
  induction rest with
  | nil => intro S P inv _; rwa [List.append_nil]
  | cons r rest ih =>
    intro S P inv hP
    rw [List.append_cons] at hP ⊢
    exact ih (hullStep S r) (P ++ [r]) (hullStep_inv inv (List.pairwise_append.mp hP).1) hP

/-- the invariant holds for the finished hull of any lexicographically sorted point list -/
theorem hullRev_inv (pts : List Pt) (h : pts.Pairwise LexLe) : HullInv (hullRev pts) pts :=
  hullRev_inv_aux pts [] [] HullInv.nil h

end Threshold
