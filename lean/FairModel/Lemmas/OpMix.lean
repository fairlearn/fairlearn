/-
The comparison class of the C05 optimality theorems stated FROM FIRST PRINCIPLES.

A competing rule of one group is an `OpMix`: finitely many `ThresholdOperation`s (arbitrary thresholds: finite, ±inf, equal
to a score; operator "<" only when `flip`) with non-negative weights summing to 1.  Its probability of predicting 1 on a
score is `OpMix.prob`, its expected metrics are `m.eval (expCM prob rows)` — computed from the ROWS, not from tradeoff
points.  `opMix_metric` (n-ary affinity of every METRIC_DICT entry) and `opMix_to_mixture` (sweep completeness) reduce such
a rule to a `Mixture` of tradeoff points, the class `C05.optimal_simple` / `optimal_EO` are stated over.
-/
import FairModel.Lemmas.ThresholdOpt
import FairModel.Lemmas.ThresholdComplete


namespace Threshold
open ThresholdGen

/-- a randomised threshold rule of one group, from first principles: weighted threshold operations -/
abbrev OpMix := List (Rat × Op)

/-- P(prediction = 1 | score s) -/
def OpMix.prob (m : OpMix) (s : Rat) : Rat := (m.map (fun wo => wo.1 * ind (wo.2.apply s))).sum

def OpMix.weight (m : OpMix) : Rat := (m.map (·.1)).sum

/-- weights ≥ 0 summing to 1; the operator "<" is allowed only when `flip` -/
def OpMix.Valid (flip : Bool) (m : OpMix) : Prop :=
  (∀ wo ∈ m, 0 ≤ wo.1 ∧ (wo.2.gt = true ∨ flip = true)) ∧ m.weight = 1

/-- the linear form `a·tp + b·fp + c·tn + d·fn` of the expected counts of a predictor is ONE sum over the rows, affine in the
    predictor's probability at each row -/
theorem expCM_linear (a b c d : Rat) (prob : Rat → Rat) (rows : List Row) :
    a * (expCM prob rows).true_positives + b * (expCM prob rows).false_positives +
      c * (expCM prob rows).true_negatives + d * (expCM prob rows).false_negatives =
    sumBy (fun r => (if r.label then a - d else b - c) * prob r.score + (if r.label then d else c)) rows := by
  simp only [expCM, sumBy]
  rw [← List.sum_map_mul_left, ← List.sum_map_mul_left, ← List.sum_map_mul_left, ← List.sum_map_mul_left,
    ← List.sum_map_add, ← List.sum_map_add, ← List.sum_map_add]
  exact sumBy_congr fun r _ => by cases r.label <;> simp only [if_true, if_false, Bool.false_eq_true] <;> ring

/-- such a sum is linear in the mixture: the weights come out, the constant part is multiplied by the total weight -/
theorem opMix_linear (α β : Row → Rat) (m : OpMix) (rows : List Row) :
    (m.map (fun wo => wo.1 * sumBy (fun r => α r * ind (wo.2.apply r.score) + β r) rows)).sum =
      sumBy (fun r => α r * m.prob r.score + m.weight * β r) rows := by
  induction m with
  | nil => simp [OpMix.prob, OpMix.weight, sumBy]
  | cons wo m ih =>
    rw [List.map_cons, List.sum_cons, ih, ← one_mul (sumBy (fun r => α r * OpMix.prob m r.score + OpMix.weight m * β r) rows),
      ← sumBy_lin]
    exact sumBy_congr fun r _ => by simp only [OpMix.prob, OpMix.weight, List.map_cons, List.sum_cons]; ring

/-- **expected metric of a randomised threshold rule, from the rows** = weighted sum of the metrics of its operations:
    for the fixed numbers of positives and negatives of `rows` the metric is a linear form of the expected counts -/
theorem opMix_metric (mt : Metric) (m : OpMix) (rows : List Row) (hw : m.weight = 1) :
    mt.eval (expCM m.prob rows) = (m.map (fun wo => wo.1 * mt.eval (confusion wo.2 rows))).sum := by
  obtain ⟨a, b, c, d, hlin⟩ := metric_linear_form mt (nPos rows) (nNeg rows)
  have hL := fun prob => (hlin _ (expCM_positives prob rows) (expCM_negatives prob rows)).trans
    (expCM_linear a b c d prob rows)
  simp only [confusion, hL]
  rw [opMix_linear, hw]
  simp only [one_mul]

/-- **every randomised threshold rule is a mixture of tradeoff points** with the same expected metric pair -/
theorem opMix_to_mixture (flip : Bool) (xm ym : Metric) (rows : List Row) (m : OpMix) (hv : m.Valid flip) :
    ∃ M : Mixture, M.Valid (rawPoints flip xm ym rows) ∧
      M.x = xm.eval (expCM m.prob rows) ∧ M.y = ym.eval (expCM m.prob rows) := by
  rw [opMix_metric xm m rows hv.2, opMix_metric ym m rows hv.2]
  obtain ⟨hmem, hw⟩ := hv
  suffices h : ∃ M : Mixture, (∀ wp ∈ M, 0 ≤ wp.1 ∧ wp.2 ∈ rawPoints flip xm ym rows) ∧ M.weight = m.weight ∧
      M.x = (m.map (fun wo => wo.1 * xm.eval (confusion wo.2 rows))).sum ∧
      M.y = (m.map (fun wo => wo.1 * ym.eval (confusion wo.2 rows))).sum by
    obtain ⟨M, h1, h2, h3, h4⟩ := h
    exact ⟨M, ⟨h1, by rw [h2]; exact hw⟩, h3, h4⟩
  clear hw
  induction m with
  | nil => exact ⟨[], by simp, rfl, rfl, rfl⟩
  | cons wo m ih =>
    obtain ⟨M, h1, h2, h3, h4⟩ := ih (fun x hx => hmem x (by simp [hx]))
    obtain ⟨hw0, hop⟩ := hmem wo (by simp)
    obtain ⟨p, hp, hpx, hpy⟩ := exists_rawPoint_of_op flip xm ym rows wo.2 hop
    refine ⟨(wo.1, p) :: M, ?_, ?_, ?_, ?_⟩
    · intro wp hwp
      rcases List.mem_cons.mp hwp with rfl | h
      · exact ⟨hw0, hp⟩
      · exact h1 wp h
    · simp only [Mixture.weight, OpMix.weight, List.map_cons, List.sum_cons] at h2 ⊢; rw [h2]
    · simp only [Mixture.x, List.map_cons, List.sum_cons] at h3 ⊢; rw [h3, hpx]
    · simp only [Mixture.y, List.map_cons, List.sum_cons] at h4 ⊢; rw [h4, hpy]

end Threshold
