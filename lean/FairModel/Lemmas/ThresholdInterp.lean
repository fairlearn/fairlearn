/-
Interpolation layer of the ThresholdOptimizer model:
* the generated metrics are affine in the confusion counts, so the expected metric of a mixture of two
  predictors is the mixture of their metrics (`metric_affine`, `expCM_mix`);
* facts about the finished hull in reading order (`upperHull`), derived from the loop invariant;
* `interpIndex` returns a non-degenerate bracket (`interpIndex_bracket`) and `interpolateAt` a proper mixture
  of two consecutive hull vertices that hits the grid value exactly (`interpolateAt_sound`).
-/
import FairModel.Lemmas.ThresholdHull
import FairModel.Lemmas.ThresholdSweep

namespace Threshold
open ThresholdGen

/-- entrywise combination `a • A + b • B` of confusion counts -/
def CM.mix (a : Rat) (A : CM) (b : Rat) (B : CM) : CM :=
  { true_positives := a * A.true_positives + b * B.true_positives,
    false_positives := a * A.false_positives + b * B.false_positives,
    true_negatives := a * A.true_negatives + b * B.true_negatives,
    false_negatives := a * A.false_negatives + b * B.false_negatives }

/-- for a fixed number `P` of positives and `Nn` of negatives every METRIC_DICT entry is a LINEAR form of the four
    confusion counts (coefficients built from `1/P`, `1/Nn`, `1/(P+Nn)`; with Lean's `x/0 = 0` also when one is 0) -/
theorem metric_linear_form (m : Metric) (P Nn : Rat) :
    ∃ a b c d : Rat, ∀ X : CM, X.positives = P → X.negatives = Nn →
      m.eval X = a * X.true_positives + b * X.false_positives + c * X.true_negatives + d * X.false_negatives := by
  have hn : ∀ X : CM, X.positives = P → X.negatives = Nn → X.n = P + Nn := by
    intro X hP hN
    rw [← hP, ← hN]; simp only [CM.n, CM.positives, CM.negatives]; ring
  cases m
  · exact ⟨(P + Nn)⁻¹, (P + Nn)⁻¹, 0, 0, fun X hP hN => by
      simp only [Metric.eval, hn X hP hN, CM.predicted_positives, div_eq_mul_inv]; ring⟩
  · exact ⟨0, Nn⁻¹, 0, 0, fun X hP hN => by simp only [Metric.eval, hN, div_eq_mul_inv]; ring⟩
  · exact ⟨0, 0, 0, P⁻¹, fun X hP hN => by simp only [Metric.eval, hP, div_eq_mul_inv]; ring⟩
  · exact ⟨P⁻¹, 0, 0, 0, fun X hP hN => by simp only [Metric.eval, hP, div_eq_mul_inv]; ring⟩
  · exact ⟨0, 0, Nn⁻¹, 0, fun X hP hN => by simp only [Metric.eval, hN, div_eq_mul_inv]; ring⟩
  · exact ⟨(P + Nn)⁻¹, 0, (P + Nn)⁻¹, 0, fun X hP hN => by
      simp only [Metric.eval, hn X hP hN, div_eq_mul_inv]; ring⟩
  · exact ⟨1 / 2 * P⁻¹, 0, 1 / 2 * Nn⁻¹, 0, fun X hP hN => by
      simp only [Metric.eval, hP, hN, div_eq_mul_inv]; ring⟩

/-- **metric_affine**: for confusion matrices with the same number of positives and of negatives, every
    METRIC_DICT entry of a convex (affine) combination is the combination of the metric values -/
theorem metric_affine (m : Metric) (a b : Rat) (A B : CM) (hab : a + b = 1)
    (hp : A.positives = B.positives) (hn : A.negatives = B.negatives) :
    m.eval (CM.mix a A b B) = a * m.eval A + b * m.eval B := by
  obtain ⟨p, q, r, s, hlin⟩ := metric_linear_form m A.positives A.negatives
  have hP : (CM.mix a A b B).positives = A.positives := by
    rw [show (CM.mix a A b B).positives = a * A.positives + b * B.positives by simp only [CM.mix, CM.positives]; ring,
      ← hp, ← add_mul, hab, one_mul]
  have hN : (CM.mix a A b B).negatives = A.negatives := by
    rw [show (CM.mix a A b B).negatives = a * A.negatives + b * B.negatives by simp only [CM.mix, CM.negatives]; ring,
      ← hn, ← add_mul, hab, one_mul]
  rw [hlin _ hP hN, hlin A rfl rfl, hlin B hp.symm hn.symm]
  simp only [CM.mix]; ring

/-- a mixture of two randomised predictors has the mixed expected confusion counts -/
theorem expCM_mix (a b : Rat) (f g : Rat → Rat) (rows : List Row) (hab : a + b = 1) :
    expCM (fun s => a * f s + b * g s) rows = CM.mix a (expCM f rows) b (expCM g rows) := by
  have h0 : (0 : Rat) = a * 0 + b * 0 := by rw [mul_zero, mul_zero, add_zero]
  have h1 : ∀ x y : Rat, 1 - (a * x + b * y) = a * (1 - x) + b * (1 - y) := fun x y => by
    rw [mul_sub, mul_sub, mul_one, mul_one, ← add_sub_add_comm, hab]
  refine CM.ext' ?_ ?_ ?_ ?_ <;> refine (sumBy_congr fun r _ => ?_).trans (sumBy_lin a b _ _ rows) <;> split
  exacts [rfl, h0, h0, rfl, h0, h1 _ _, h1 _ _, h0]

/-- expected metric of a mixture = mixture of expected metrics -/
theorem eval_expCM_mix (m : Metric) (a b : Rat) (f g : Rat → Rat) (rows : List Row) (hab : a + b = 1) :
    m.eval (expCM (fun s => a * f s + b * g s) rows) =
      a * m.eval (expCM f rows) + b * m.eval (expCM g rows) := by
  rw [expCM_mix a b f g rows hab]
  exact metric_affine m a b _ _ hab (by rw [expCM_positives, expCM_positives])
    (by rw [expCM_negatives, expCM_negatives])

/-- what the rest of the development needs to know about a hull `H` of a point list `pts` -/
structure GoodHull (H pts : List Pt) : Prop where
  sub : ∀ h ∈ H, h ∈ pts
  sorted : H.Pairwise LexLe
  /-- every point is on or below the line through two consecutive hull vertices (`C05.hull_supporting`) -/
  supporting : ∀ l1 a b l2, H = l1 ++ a :: b :: l2 → ∀ q ∈ pts, cross a b q ≤ 0
  /-- strictly increasing x from the second vertex on -/
  strict : ∀ l1 r0 r1 r2 l2, H = l1 ++ r0 :: r1 :: r2 :: l2 → r1.x < r2.x
  head : H.head? = pts.head?
  last : H.getLast? = pts.getLast?

theorem upperHull_good (pts : List Pt) (hs : pts.Pairwise LexLe) : GoodHull (upperHull pts) pts := by
  have inv := hullRev_inv pts hs
  -- a segment of the hull in reading order is the reversed segment of the stack
  have hrev : ∀ {l1 l2 m : List Pt}, upperHull pts = l1 ++ m ++ l2 →
      hullRev pts = l2.reverse ++ (m.reverse ++ l1.reverse) := by
    intro l1 l2 m h
    rw [upperHull_eq] at h
    rw [← List.reverse_reverse (hullRev pts), h, List.reverse_append, List.reverse_append]
  have hsorted : (upperHull pts).Pairwise LexLe := by
    rw [upperHull_eq, List.pairwise_reverse]; exact inv.sorted
  refine ⟨?_, hsorted, ?_, ?_, ?_, ?_⟩
  · intro h hh
    rw [upperHull_eq, List.mem_reverse] at hh
    exact inv.sub h hh
  · intro l1 a b l2 heq q hq
    exact ((inv.below q hq).suffix ⟨_, (hrev (m := [a, b]) (by rw [heq, List.append_assoc]; rfl)).symm⟩).1
  · intro l1 r0 r1 r2 l2 heq
    have hc := (inv.concave.suffix ⟨_, (hrev (m := [r0, r1, r2]) (by rw [heq, List.append_assoc]; rfl)).symm⟩).1
    rw [heq] at hsorted
    have h3 := List.pairwise_cons.mp (List.pairwise_append.mp hsorted).2.1
    exact x_lt_of_cross_neg (h3.1 r1 List.mem_cons_self)
      ((List.pairwise_cons.mp h3.2).1 r2 List.mem_cons_self) hc
  · rw [upperHull_eq, List.head?_reverse]; exact inv.bottom
  · rw [upperHull_eq, List.getLast?_reverse]; exact inv.top

/-- the contract of `np.searchsorted(xs, g, side="right")`: the entries before the returned position are `≤ g`, the entry
    at it (if any) is `> g` -/
theorem countLE_spec (xs : List Rat) (g : Rat) :
    (∀ j, j < countLE xs g → ∃ v, xs[j]? = some v ∧ v ≤ g) ∧
    (∀ v, xs[countLE xs g]? = some v → g < v) ∧ countLE xs g ≤ xs.length := by
  induction xs with
  | nil => simp [countLE]
  | cons a t ih =>
    unfold countLE at ih ⊢
    by_cases ha : a ≤ g
    · simp only [List.takeWhile_cons, ha, decide_true, if_true, List.length_cons]
      refine ⟨fun j hj => ?_, ih.2.1, Nat.succ_le_succ ih.2.2⟩
      cases j with
      | zero => exact ⟨a, rfl, ha⟩
      | succ j => exact ih.1 j (Nat.lt_of_succ_lt_succ hj)
    · simp only [List.takeWhile_cons, ha, decide_false, Bool.false_eq_true, if_false, List.length_nil]
      refine ⟨fun j hj => absurd hj (Nat.not_lt_zero j), fun v hv => ?_, Nat.zero_le _⟩
      cases hv; exact not_le.mp ha

/-- **interpIndex_bracket**: for a vertex list that starts at or below 0, ends at or above 1 and is strictly
    increasing from the second entry on, the index chosen for grid position `i` with value `g ∈ [0,1]`
    (`g = 0` iff `i = 0`) addresses a bracket `[a, b]` with `a ≤ g ≤ b` and `a < b`. -/
theorem interpIndex_bracket (xs : List Rat) (i : Nat) (g : Rat)
    (h0 : i = 0 → g = 0) (hpos : 1 ≤ i → 0 < g) (hg1 : g ≤ 1)
    (hhead : ∃ v, xs.head? = some v ∧ v ≤ 0) (hlast : ∃ v, xs.getLast? = some v ∧ 1 ≤ v)
    (hstrict : ∀ k, 1 ≤ k → ∀ a b, xs[k]? = some a → xs[k + 1]? = some b → a < b) :
    ∃ k a b, interpIndex xs i g = some k ∧ xs[k]? = some a ∧ xs[k + 1]? = some b ∧
      a ≤ g ∧ g ≤ b ∧ a < b := by
  obtain ⟨v0, hx0, hv0le⟩ := hhead
  obtain ⟨vl, hvl, hvlge⟩ := hlast
  obtain ⟨hin, hout, hlen⟩ := countLE_spec xs g
  rw [List.head?_eq_getElem?] at hx0
  have hg0 : 0 ≤ g := (Nat.eq_zero_or_pos i).elim (fun h => (h0 h).ge) fun h => (hpos h).le
  -- the first vertex is ≤ 0 ≤ g, so it is counted
  obtain ⟨k, hk⟩ : ∃ k, countLE xs g = k + 1 := Nat.exists_eq_succ_of_ne_zero fun hc =>
    absurd (hout v0 (hc ▸ hx0)) (not_lt.mpr (hv0le.trans hg0))
  rw [hk] at hin hout hlen
  obtain ⟨a, hka, hale⟩ := hin k (Nat.lt_succ_self k)
  rw [src_interpIndex, hk, if_neg (Nat.succ_ne_zero k), Nat.add_sub_cancel]
  by_cases hdec : i ≥ 1 ∧ xs[k]? = some g
  · -- the grid value sits on vertex `k`: step one to the left; `xs[0] ≤ 0 < g` so `k ≠ 0`
    rw [if_pos hdec]
    have hgpos := hpos hdec.1
    obtain ⟨k', rfl⟩ : ∃ k', k = k' + 1 := Nat.exists_eq_succ_of_ne_zero fun hk0 => by
      rw [hk0, hx0] at hdec
      exact absurd (Option.some.inj hdec.2 ▸ hv0le) (not_le.mpr hgpos)
    obtain ⟨a', hka', _⟩ := hin k' (Nat.lt_succ_of_lt (Nat.lt_succ_self k'))
    have hlt : a' < g := by
      rcases Nat.eq_zero_or_pos k' with rfl | hk'
      · rw [hx0] at hka'; cases hka'; exact hv0le.trans_lt hgpos
      · exact hstrict k' hk' a' g hka' hdec.2
    rw [if_neg (Nat.succ_ne_zero k'), Nat.add_sub_cancel]
    exact ⟨k', a', g, rfl, hka', hdec.2, hlt.le, le_refl g, hlt⟩
  · rw [if_neg hdec]
    -- vertex `k` is not the last one: otherwise `1 ≤ xs[k] ≤ g ≤ 1`, the case excluded by `hdec`
    have hclt : k + 1 < xs.length := by
      refine lt_of_le_of_ne hlen fun hceq => hdec ?_
      rw [List.getLast?_eq_getElem?, ← hceq, Nat.add_sub_cancel, hka] at hvl
      cases hvl
      have hag : vl = g := le_antisymm hale (hg1.trans hvlge)
      refine ⟨Nat.pos_of_ne_zero fun hi => ?_, hag ▸ hka⟩
      rw [hag, h0 hi] at hvlge
      exact absurd hvlge (by norm_num)
    have hgb := hout _ (List.getElem?_eq_getElem hclt)
    exact ⟨k, a, _, rfl, hka, List.getElem?_eq_getElem hclt, hale, hgb.le, hale.trans_lt hgb⟩

theorem getElem?_split {α} (l : List α) (k : Nat) (a b : α) (ha : l[k]? = some a) (hb : l[k + 1]? = some b) :
    ∃ l1 l2, l = l1 ++ a :: b :: l2 ∧ l1.length = k := by
  obtain ⟨hk, rfl⟩ := List.getElem?_eq_some_iff.mp ha
  obtain ⟨hk1, rfl⟩ := List.getElem?_eq_some_iff.mp hb
  exact ⟨l.take k, l.drop (k + 1 + 1),
    by rw [List.getElem_cons_drop, List.getElem_cons_drop, List.take_append_drop], List.length_take_of_le hk.le⟩

/-- linear interpolation between `xa` and `xb` with weight `p` on `xa`, `p * (xb - xa) = xb - g`, gives `g` -/
theorem lerp_x {p xa xb g : Rat} (hp : p * (xb - xa) = xb - g) : p * xa + (1 - p) * xb = g := by
  rw [show p * xa + (1 - p) * xb = xb - p * (xb - xa) by ring, hp, sub_sub_cancel]

/-- ... and the interpolated point lies on the line through `(xa, ya)` and `(xb, yb)` -/
theorem lerp_line {p xa xb g : Rat} (ya yb : Rat) (hp : p * (xb - xa) = xb - g) :
    (xb - xa) * (p * ya + (1 - p) * yb - ya) = (yb - ya) * (g - xa) := by
  have h2 : (1 - p) * (xb - xa) = g - xa := by rw [sub_mul, one_mul, hp, sub_sub_sub_cancel_left]
  rw [← h2]; ring

/-- strictness of the x-coordinates from the second vertex on, from the split form of `GoodHull.strict` to the index form
    `interpIndex_bracket` takes -/
theorem strict_index_of_split {H : List Pt}
    (hstrict : ∀ l1 r0 r1 r2 l2, H = l1 ++ r0 :: r1 :: r2 :: l2 → r1.x < r2.x) :
    ∀ k, 1 ≤ k → ∀ a b, (H.map (·.x))[k]? = some a → (H.map (·.x))[k + 1]? = some b → a < b := by
  intro k hk a b ha hb
  obtain ⟨k, rfl⟩ := Nat.exists_eq_add_of_le' hk
  rw [List.getElem?_map, Option.map_eq_some_iff] at ha hb
  obtain ⟨pa, hpa, rfl⟩ := ha
  obtain ⟨pb, hpb, rfl⟩ := hb
  have hk : k < H.length := (Nat.lt_succ_self k).trans (List.getElem?_eq_some_iff.mp hpa).1
  obtain ⟨l1, l2, h, rfl⟩ := getElem?_split H k _ pa (List.getElem?_eq_getElem hk) hpa
  rw [h, Nat.add_assoc, List.getElem?_append_right (Nat.le_add_right _ _), Nat.add_sub_cancel_left] at hpb
  cases l2 with
  | nil => cases hpb
  | cons y l2 => cases hpb; exact hstrict l1 _ pa pb l2 h

/-- `r` is a proper mixture of two consecutive vertices `a`, `b` of `H` that hits `g` exactly -/
structure InterpSound (H : List Pt) (g : Rat) (r : Interp) : Prop where
  x_eq : r.x = g
  sum_one : r.p0 + r.p1 = 1
  p0_nonneg : 0 ≤ r.p0
  p1_nonneg : 0 ≤ r.p1
  verts : ∃ l1 a b l2, H = l1 ++ a :: b :: l2 ∧ r.op0 = a.op ∧ r.op1 = b.op ∧ a.x < b.x ∧
    r.p0 * a.x + r.p1 * b.x = g ∧ r.y = r.p0 * a.y + r.p1 * b.y ∧
    -- the interpolated value is the line through a and b evaluated at g
    (b.x - a.x) * (r.y - a.y) = (b.y - a.y) * (g - a.x)

theorem interpolateAt_sound (H : List Pt) (i : Nat) (g : Rat)
    (h0 : i = 0 → g = 0) (hpos : 1 ≤ i → 0 < g) (hg1 : g ≤ 1)
    (hhead : ∃ p, H.head? = some p ∧ p.x ≤ 0) (hlast : ∃ p, H.getLast? = some p ∧ 1 ≤ p.x)
    (hstrict : ∀ l1 r0 r1 r2 l2, H = l1 ++ r0 :: r1 :: r2 :: l2 → r1.x < r2.x) :
    ∃ r, interpolateAt H i g = some r ∧ InterpSound H g r := by
  obtain ⟨p, hp, hpx⟩ := hhead
  obtain ⟨pl, hpl, hplx⟩ := hlast
  obtain ⟨k, a, b, hidx, hka, hkb, hag, hgb, hab⟩ := interpIndex_bracket (H.map (·.x)) i g h0 hpos hg1
    ⟨p.x, by rw [List.head?_map, hp]; rfl, hpx⟩ ⟨pl.x, by rw [List.getLast?_map, hpl]; rfl, hplx⟩
    (strict_index_of_split hstrict)
  rw [List.getElem?_map, Option.map_eq_some_iff] at hka hkb
  obtain ⟨pa, hpa, rfl⟩ := hka
  obtain ⟨pb, hpb, rfl⟩ := hkb
  have hdpos : 0 < pb.x - pa.x := sub_pos.mpr hab
  obtain ⟨l1, l2, hsplit, _⟩ := getElem?_split H k pa pb hpa hpb
  refine ⟨_, by rw [src_interpolateAt, hidx]; simp only [hpa, hpb]; rw [if_neg hdpos.ne'], ?_⟩
  have hw := div_mul_cancel₀ (pb.x - g) hdpos.ne'
  refine ⟨rfl, add_sub_cancel _ _, div_nonneg (sub_nonneg.mpr hgb) hdpos.le, ?_,
    l1, pa, pb, l2, hsplit, rfl, rfl, hab, lerp_x hw, rfl, lerp_line pa.y pb.y hw⟩
  show 0 ≤ 1 - (pb.x - g) / (pb.x - pa.x)
  rw [sub_nonneg, div_le_one hdpos]; exact sub_le_sub_left hag _

end Threshold
