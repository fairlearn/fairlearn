import FairModel.Lemmas.Prelude
import FairModel.Model.AggregateCache

/-! The lifted result cache of `MetricFrame` (`Generated/PopulateSrc.lean` interpreted by `Model/AggregateCache.lean`):
what each slot is documented to hold, which entry `_populate_results` stores under it, the extract mode, and the
accessors' argument checks.  `C02.src_*` identify the cache and the accessors with the hand-written model. -/

namespace AggCache
open Frame Aggregate PopulateSrc FramePrims

/-- what each cache slot is DOCUMENTED to hold (hand-written), the right-hand side of `C02.src_populate_eq_model`.
    Like `documentedMode` it is specification, not part of the interpreted cache; it lives here because nothing in
    `Model/` or the driver refers to it. -/
def direct : Slot → Tables → Option Series
  | .groupMin e, t => groupMin e t
  | .groupMax e, t => groupMax e t
  | .difference m e, t => Aggregate.difference m e t
  | .ratio m e, t => Aggregate.ratio m e t

theorem documentedMode_not_fails (usc : Bool) (ncf : Nat) : extractFails (documentedMode usc ncf) ncf = false := by
  cases usc <;> cases ncf <;> rfl

/-- the flag `_populate_results` / `_group` pass makes the lifted `_extract_result` follow the documented table -/
theorem extract_result_eq_documentedMode (usc : Bool) (ncf : Nat) :
    FrameSrc.extract_result usc (decide (0 < ncf)) false = documentedMode usc ncf := by
  cases usc <;> cases ncf <;> rfl

/-- every slot is filled, by the call with ITS OWN method and errors value, extracted with `no_control_levels=False` -/
theorem entryOf_eq (s : Slot) :
    entryOf s = some ⟨s, (match s with
      | .groupMin e => .grouping .min e | .groupMax e => .grouping .max e
      | .difference m e => .difference m e | .ratio m e => .ratio m e), false⟩ := by
  cases s with
  | groupMin e | groupMax e => cases e <;> decide +kernel
  | difference m e | ratio m e => cases m <;> cases e <;> decide +kernel

theorem validErrors_contains (e : Errors) : validErrors.contains e = true := by cases e <;> rfl
theorem compareMethods_contains (m : Method) : compareMethods.contains m = true := by cases m <;> rfl

end AggCache
