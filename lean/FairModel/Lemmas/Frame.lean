import FairModel.Lemmas.ListInd
import FairModel.Model.Frame

/-! Lemmas about the MetricFrame model: `ins`/`uniq` (sorted distinct values), `product` (Cartesian index), the
order on index tuples, `levels`, `grouped` (groupby), the partition of the rows by index tuple.  The result of
`_apply_functions` with at least one grouping column is `tableIndex` paired with `cellAt`
(`applyFunctions_eq_map`); the whole-table equation, the congruence in the rows and the naturality in the value
type are read off that form. -/

namespace Frame

variable {α β κ : Type}

/-- a cell of the result: the metric on exactly the rows carrying the tuple `k`, NaN when there is none -/
def cellAt (nanv : β) (kf : Row α → Key) (f : List α → β) (rows : List (Row α)) (k : Key) : β :=
  if rowsOf kf k rows = [] then nanv else f (slice (rowsOf kf k rows))

/-- the index of the result for `n ≥ 1` grouping columns: the observed tuples as they are for one column,
    the product of the per-column levels for several -/
def tableIndex (kf : Row α → Key) (n : Nat) (rows : List (Row α)) : List Key :=
  if 1 < n then product (levels kf n rows) else uniq (rows.map kf)

/-! ### list facts -/

theorem tri_of_antisymm [LT κ] [DecidableLT κ] (h : ∀ a b : κ, ¬ b < a → ¬ a < b → a = b) (a b : κ) :
    a < b ∨ a = b ∨ b < a :=
  (Decidable.em (a < b)).elim .inl fun h1 => .inr <| (Decidable.em (b < a)).elim .inr fun h2 => .inl (h a b h2 h1)

theorem lookup_map_self [BEq κ] [LawfulBEq κ] (g : κ → β) (ks : List κ) (k : κ) :
    (ks.map (fun k => (k, g k))).lookup k = if k ∈ ks then some (g k) else none := by
  induction ks with
  | nil => rfl
  | cons a ks ih =>
    rw [List.map_cons, List.lookup_cons, ih]
    by_cases h : k = a
    · subst h; simp only [beq_self_eq_true, List.mem_cons, true_or, if_true]
    · simp only [beq_false_of_ne h, List.mem_cons, h, false_or]

theorem flatMap_ite_singleton [DecidableEq κ] (ks : List κ) (hnd : ks.Nodup) (a : κ) (x : β)
    (ha : a ∈ ks) : ks.flatMap (fun k => if a = k then [x] else []) = [x] := by
  induction ks with
  | nil => exact absurd ha List.not_mem_nil
  | cons b ks ih =>
    obtain ⟨hb, hnd⟩ := List.nodup_cons.mp hnd
    rw [List.flatMap_cons]
    rcases List.mem_cons.mp ha with rfl | ha'
    · rw [if_pos rfl, List.flatMap_eq_nil_iff.mpr fun k hk => if_neg fun (h : a = k) => hb (h ▸ hk)]
      rfl
    · rw [if_neg fun (h : a = b) => hb (h ▸ ha'), ih hnd ha']
      rfl

theorem flatMap_filter_ite (p : κ → Bool) (g : κ → List β) (ks : List κ) :
    (ks.filter p).flatMap g = ks.flatMap (fun k => if p k then g k else []) := by
  induction ks with
  | nil => rfl
  | cons a ks ih => by_cases h : p a <;> simp [h, ih]

theorem getD_map_range (g : Nat → List Level) (n j : Nat) (hj : j < n) :
    ((List.range n).map g).getD j [] = g j := by
  simp [List.getD_eq_getElem?_getD, hj]


section uniq
variable [LT κ] [DecidableLT κ]

theorem ins_eq_orderedInsert (a : κ) (l : List κ) : ins a l = l.orderedInsert (· < ·) a := by
  induction l with
  | nil => rfl
  | cons b l ih => unfold ins; rw [List.orderedInsert_cons, ih]

theorem mem_ins {a x : κ} {l : List κ} : x ∈ ins a l ↔ x = a ∨ x ∈ l :=
  ins_eq_orderedInsert a l ▸ List.mem_orderedInsert _

theorem ins_map {κ' : Type} [LT κ'] [DecidableLT κ'] (g : κ → κ') (hlt : ∀ a b, g a < g b ↔ a < b) (a : κ)
    (l : List κ) : ins (g a) (l.map g) = (ins a l).map g := by
  rw [ins_eq_orderedInsert, ins_eq_orderedInsert,
    List.map_orderedInsert _ _ g l a (fun b _ => (hlt b a).symm) fun b _ => (hlt a b).symm]

variable [DecidableEq κ]

theorem uniq_cons (a : κ) (l : List κ) :
    uniq (a :: l) = if a ∈ uniq l then uniq l else ins a (uniq l) := rfl

theorem mem_uniq {x : κ} {l : List κ} : x ∈ uniq l ↔ x ∈ l := by
  induction l with
  | nil => exact Iff.rfl
  | cons a l ih =>
    rw [uniq_cons, List.mem_cons, ← ih]
    split
    · next h => exact ⟨Or.inr, fun h' => h'.elim (· ▸ h) id⟩
    · exact mem_ins

theorem nodup_uniq (l : List κ) : (uniq l).Nodup := by
  induction l with
  | nil => exact List.nodup_nil
  | cons a l ih =>
    rw [uniq_cons]
    split
    · exact ih
    · next h =>
      rw [ins_eq_orderedInsert, (List.perm_orderedInsert _ a _).nodup_iff]
      exact List.nodup_cons.mpr ⟨h, ih⟩

omit [DecidableEq κ] in
/-- `ins` keeps a strictly increasing list strictly increasing (needs a strict total order) -/
theorem pairwise_ins (htr : ∀ a b c : κ, a < b → b < c → a < c)
    (htri : ∀ a b : κ, a < b ∨ a = b ∨ b < a)
    (a : κ) (l : List κ) (ha : a ∉ l) (hl : l.Pairwise (· < ·)) : (ins a l).Pairwise (· < ·) :=
  ins_eq_orderedInsert a l ▸ List.pairwise_orderedInsert_of (fun _ h => h)
    (fun b hb h => ((htri a b).resolve_left h).resolve_left fun e => ha (e ▸ hb)) htr hl

theorem pairwise_uniq (htr : ∀ a b c : κ, a < b → b < c → a < c)
    (htri : ∀ a b : κ, a < b ∨ a = b ∨ b < a) (l : List κ) : (uniq l).Pairwise (· < ·) := by
  induction l with
  | nil => exact List.Pairwise.nil
  | cons a l ih =>
    rw [uniq_cons]
    split
    · exact ih
    · next h => exact pairwise_ins htr htri a _ h ih

theorem uniq_eq_of_mem_iff (htr : ∀ a b c : κ, a < b → b < c → a < c) (htri : ∀ a b : κ, a < b ∨ a = b ∨ b < a)
    (hirr : ∀ a : κ, ¬ a < a) {a b : List κ} (h : ∀ x, x ∈ a ↔ x ∈ b) : uniq a = uniq b :=
  haveI : Std.Irrefl (α := κ) (· < ·) := ⟨hirr⟩
  haveI : Std.Antisymm (α := κ) (· < ·) := ⟨fun a b h1 h2 => absurd (htr a b a h1 h2) (hirr a)⟩
  (pairwise_uniq htr htri a).eq_of_mem_iff (pairwise_uniq htr htri b) fun x => by rw [mem_uniq, mem_uniq, h]

theorem uniq_replicate (a : κ) : ∀ n : Nat, 0 < n → uniq (List.replicate n a) = [a] := by
  intro n hn
  induction n with
  | zero => exact absurd hn (Nat.lt_irrefl 0)
  | succ n ih =>
    rw [List.replicate_succ, uniq_cons]
    rcases n.eq_zero_or_pos with rfl | h
    · exact if_neg List.not_mem_nil
    · rw [ih h, if_pos (List.mem_singleton_self a)]

theorem uniq_map {κ' : Type} [LT κ'] [DecidableLT κ'] [DecidableEq κ'] (g : κ → κ')
    (hinj : ∀ a b, g a = g b → a = b) (hlt : ∀ a b, g a < g b ↔ a < b) (l : List κ) :
    uniq (l.map g) = (uniq l).map g := by
  induction l with
  | nil => rfl
  | cons a l ih =>
    simp only [List.map_cons, uniq_cons, ih, ins_map g hlt, List.mem_map_of_injective fun _ _ => hinj _ _]
    split <;> rfl

theorem uniq_map_perm (g : κ → κ) (hg : Function.Injective g) (l : List κ) :
    (uniq (l.map g)).Perm ((uniq l).map g) := by
  rw [List.perm_ext_iff_of_nodup (nodup_uniq _) ((nodup_uniq l).map hg)]
  intro x
  simp only [mem_uniq, List.mem_map]

end uniq

/-! ### the Cartesian product index -/

theorem mem_product {k : Key} {ls : List (List Level)} :
    k ∈ product ls ↔ List.Forall₂ (fun a l => a ∈ l) k ls := by
  induction ls generalizing k with
  | nil =>
    rw [product, List.mem_singleton]
    exact ⟨fun h => h ▸ .nil, fun h => by cases h; rfl⟩
  | cons l ls ih =>
    simp only [product, List.mem_flatMap, List.mem_map]
    constructor
    · rintro ⟨a, ha, k', hk', rfl⟩
      exact .cons ha (ih.mp hk')
    · rintro (_ | ⟨ha, ht⟩)
      exact ⟨_, ha, _, ih.mpr ht, rfl⟩

theorem forall2_iff_getD {k : Key} {ls : List (List Level)} :
    List.Forall₂ (fun a l => a ∈ l) k ls ↔
      k.length = ls.length ∧ ∀ j, j < ls.length → k.getD j "" ∈ ls.getD j [] := by
  have hg {α : Type} (l : List α) (d : α) {i : Nat} (h : i < l.length) : l.getD i d = l[i] := by
    rw [List.getD_eq_getElem?_getD, List.getElem?_eq_getElem h]; rfl
  rw [List.forall₂_iff_get]
  refine and_congr_right fun hlen => ⟨fun h j hj => ?_, fun h i h1 h2 => ?_⟩
  · rw [hg k _ (hlen ▸ hj), hg ls _ hj]
    exact h j (hlen ▸ hj) hj
  · have := h i h2
    rwa [hg k _ h1, hg ls _ h2] at this

/-! ### the order on levels and index tuples (strings by code point, tuples lexicographic) -/

theorem level_tri : ∀ a b : Level, a < b ∨ a = b ∨ b < a := tri_of_antisymm fun _ _ => String.le_antisymm

theorem level_trans (a b c : Level) : a < b → b < c → a < c := String.lt_trans

theorem level_irrefl (a : Level) : ¬ a < a := String.lt_irrefl a

theorem key_irrefl : ∀ a : Key, ¬ a < a :=
  haveI : Std.Irrefl (α := Level) (· < ·) := ⟨String.lt_irrefl⟩
  List.lt_irrefl

theorem key_trans (a b c : Key) : a < b → b < c → a < c :=
  haveI : Trans (fun (x y : String) => x < y) (fun x y => x < y) (fun x y => x < y) := ⟨String.lt_trans⟩
  List.lt_trans

theorem key_tri : ∀ a b : Key, a < b ∨ a = b ∨ b < a :=
  haveI : Std.Trichotomous (α := Level) (· < ·) := ⟨fun _ _ h1 h2 => String.le_antisymm h2 h1⟩
  tri_of_antisymm fun _ _ => List.le_antisymm

/-- component `j` of an index tuple: a control value for `j < ncf`, a sensitive value from `ncf` on -/
theorem getD_append_of_length {ncf : Nat} {cf : List Level} (h : cf.length = ncf) (sf : List Level) (j : Nat) :
    (cf ++ sf).getD j "" = if j < ncf then cf.getD j "" else sf.getD (j - ncf) "" := by
  subst h
  simp only [List.getD_eq_getElem?_getD]
  split
  · next hj => rw [List.getElem?_append_left hj]
  · next hj => rw [List.getElem?_append_right (Nat.le_of_not_lt hj)]

theorem WF.key_length {ncf nsf : Nat} {rows : List (Row α)} (h : WF ncf nsf rows) :
    ∀ r ∈ rows, r.key.length = ncf + nsf := fun r hr => by
  rw [Row.key, List.length_append, (h r hr).1, (h r hr).2]

theorem WF.ckey_length {ncf nsf : Nat} {rows : List (Row α)} (h : WF ncf nsf rows) :
    ∀ r ∈ rows, r.ckey.length = ncf := fun r hr => (h r hr).1

theorem Row.key_getD_of_lt (r : Row α) {j : Nat} (hj : j < r.cf.length) : r.key.getD j "" = r.cf.getD j "" := by
  rw [Row.key, List.getD_eq_getElem?_getD, List.getElem?_append_left hj, List.getD_eq_getElem?_getD]

theorem Row.key_getD_add (r : Row α) (j : Nat) : r.key.getD (r.cf.length + j) "" = r.sf.getD j "" := by
  rw [Row.key, List.getD_eq_getElem?_getD, List.getElem?_append_right (Nat.le_add_right ..),
    Nat.add_sub_cancel_left, List.getD_eq_getElem?_getD]

/-- the product of strictly increasing level lists is strictly increasing (lexicographic) -/
theorem pairwise_product {ls : List (List Level)} (h : ∀ l ∈ ls, l.Pairwise (· < ·)) :
    (product ls).Pairwise (· < ·) := by
  induction ls with
  | nil => exact List.pairwise_singleton _ _
  | cons l ls ih =>
    have hls := ih fun x hx => h x (List.mem_cons_of_mem _ hx)
    rw [product, List.pairwise_flatMap]
    constructor
    · intro a _
      exact List.pairwise_map.mpr (hls.imp fun hxy => List.cons_lt_cons_iff.mpr (.inr ⟨rfl, hxy⟩))
    · refine (h l List.mem_cons_self).imp fun hab x hx y hy => ?_
      obtain ⟨_, _, rfl⟩ := List.mem_map.mp hx
      obtain ⟨_, _, rfl⟩ := List.mem_map.mp hy
      exact List.cons_lt_cons_iff.mpr (.inl hab)

/-- the product index of column-wise permuted levels is a permutation of the product index -/
theorem product_perm {ls ls' : List (List Level)} (h : List.Forall₂ List.Perm ls ls') :
    (product ls).Perm (product ls') := by
  induction h with
  | nil => exact .refl _
  | cons hp _ ih => exact (List.Perm.flatMap_right _ hp).trans (List.Perm.flatMap_left _ fun a _ => ih.map _)

theorem product_single (l : List Level) : product [l] = l.map (fun a => [a]) := by
  induction l with
  | nil => rfl
  | cons a l ih => exact congrArg ([a] :: ·) ih

theorem product_length (ls : List (List Level)) : (product ls).length = (ls.map List.length).prod := by
  induction ls with
  | nil => rfl
  | cons l ls ih =>
    simp only [product, List.map_cons, List.prod_cons, List.length_flatMap, List.length_map, ih,
      List.map_const', List.sum_replicate]
    rfl

/-! ### the levels of the grouping columns -/

theorem levels_length (kf : Row α → Key) (n : Nat) (rows : List (Row α)) : (levels kf n rows).length = n := by
  simp [levels]

theorem levels_getD (kf : Row α → Key) {n j : Nat} (hj : j < n) (rows : List (Row α)) :
    (levels kf n rows).getD j [] = uniq (col j (rows.map kf)) :=
  getD_map_range _ n j hj

/-- the levels of a column are the sorted distinct values that column takes on ANY row (not per stratum) -/
theorem mem_levels (kf : Row α → Key) (n : Nat) (rows : List (Row α)) (j : Nat) (hj : j < n) (a : Level) :
    a ∈ (levels kf n rows).getD j [] ↔ ∃ r ∈ rows, (kf r).getD j "" = a := by
  rw [levels_getD kf hj, mem_uniq, col, List.map_map, List.mem_map]
  rfl

/-! ### groupby -/

theorem rowsOf_eq_nil_iff (kf : Row α → Key) (k : Key) (rows : List (Row α)) :
    rowsOf kf k rows = [] ↔ k ∉ rows.map kf := by
  simp only [rowsOf, List.filter_eq_nil_iff, List.mem_map, beq_iff_eq, not_exists, not_and]

theorem mem_rowsOf {kf : Row α → Key} {k : Key} {rows : List (Row α)} {r : Row α} :
    r ∈ rowsOf kf k rows ↔ r ∈ rows ∧ kf r = k := by
  simp [rowsOf]

theorem lookup_grouped (kf : Row α → Key) (f : List α → β) (rows : List (Row α)) (k : Key) :
    (grouped kf f rows).lookup k =
      if rowsOf kf k rows = [] then none else some (f (slice (rowsOf kf k rows))) := by
  unfold grouped
  rw [lookup_map_self (fun k => f (slice (rowsOf kf k rows)))]
  simp only [mem_uniq, rowsOf_eq_nil_iff, ite_not]

/-! ### the result table of `_apply_functions` -/

theorem applyFunctions_eq_map (nanv : β) (kf : Row α → Key) {n : Nat} (hn : 0 < n) (f : List α → β)
    (rows : List (Row α)) :
    applyFunctions nanv kf n f rows = (tableIndex kf n rows).map (fun k => (k, cellAt nanv kf f rows k)) := by
  unfold applyFunctions tableIndex
  rw [if_neg (Nat.ne_of_gt hn)]
  split
  · refine List.map_congr_left fun k _ => ?_
    rw [lookup_grouped, cellAt]
    split <;> rfl
  · refine List.map_congr_left fun k hk => ?_
    rw [cellAt, if_neg ((rowsOf_eq_nil_iff kf k rows).not.mpr (not_not.mpr (mem_uniq.mp hk)))]

theorem map_fst_applyFunctions (nanv : β) (kf : Row α → Key) {n : Nat} (hn : 0 < n) (f : List α → β)
    (rows : List (Row α)) : (applyFunctions nanv kf n f rows).map (·.1) = tableIndex kf n rows := by
  rw [applyFunctions_eq_map nanv kf hn, List.map_map]
  exact List.map_id' _

theorem mem_applyFunctions (nanv : β) (kf : Row α → Key) {n : Nat} (hn : 0 < n) (f : List α → β)
    (rows : List (Row α)) {k : Key} {v : β} :
    (k, v) ∈ applyFunctions nanv kf n f rows ↔ k ∈ tableIndex kf n rows ∧ v = cellAt nanv kf f rows k := by
  rw [applyFunctions_eq_map nanv kf hn, List.mem_map]
  exact ⟨fun ⟨_, hk, he⟩ => by cases he; exact ⟨hk, rfl⟩, fun ⟨hk, hv⟩ => ⟨k, hk, hv ▸ rfl⟩⟩

theorem pairwise_tableIndex (kf : Row α → Key) (n : Nat) (rows : List (Row α)) :
    (tableIndex kf n rows).Pairwise (· < ·) := by
  unfold tableIndex
  split
  · refine pairwise_product fun l hl => ?_
    obtain ⟨j, _, rfl⟩ := List.mem_map.mp hl
    exact pairwise_uniq level_trans level_tri _
  · exact pairwise_uniq key_trans key_tri _

/-- the index of `_apply_functions` is strictly increasing (levels by code point, tuples lexicographically) -/
theorem applyFunctions_index_sorted (nanv : β) (kf : Row α → Key) (n : Nat) (f : List α → β)
    (rows : List (Row α)) : ((applyFunctions nanv kf n f rows).map (·.1)).Pairwise (· < ·) := by
  rcases n.eq_zero_or_pos with rfl | hn
  · exact List.pairwise_singleton _ _
  · rw [map_fst_applyFunctions nanv kf hn]
    exact pairwise_tableIndex kf n rows

/-- a result table is determined by its entries as a multiset once its index is strictly increasing -/
theorem table_eq_of_perm_of_sorted {l l' : List (Key × β)} (hp : l.Perm l')
    (h : (l.map (·.1)).Pairwise (· < ·)) (h' : (l'.map (·.1)).Pairwise (· < ·)) : l = l' := by
  rw [List.pairwise_map] at h h'
  exact hp.eq_of_pairwise (fun a b _ _ hab hba => absurd (key_trans _ _ _ hab hba) (key_irrefl _)) h h'

/-- when every tuple has `n` components the index is the product of the levels, also for `n = 1` -/
theorem tableIndex_eq_product (kf : Row α → Key) {n : Nat} (hn : 0 < n) (rows : List (Row α))
    (hlen : ∀ r ∈ rows, (kf r).length = n) : tableIndex kf n rows = product (levels kf n rows) := by
  unfold tableIndex
  split
  · rfl
  -- one column: the observed 1-tuples are the observed values of that column, wrapped
  obtain rfl : n = 1 := Nat.le_antisymm (Nat.not_lt.mp ‹_›) hn
  have hk : rows.map kf = (col 0 (rows.map kf)).map (fun a => [a]) := by
    rw [col, List.map_map, List.map_map]
    refine List.map_congr_left fun r hr => ?_
    show kf r = [(kf r).getD 0 ""]
    obtain ⟨a, ha⟩ := List.length_eq_one_iff.mp (hlen r hr)
    rw [ha]; rfl
  have hlt (a b : Level) : ([a] : Key) < [b] ↔ a < b := by
    rw [List.cons_lt_cons_iff]
    exact ⟨fun h => h.elim id fun h => absurd h.2 (key_irrefl []), .inl⟩
  show _ = product [uniq (col 0 (rows.map kf))]
  rw [product_single, ← uniq_map _ (fun a b h => (List.cons.inj h).1) hlt, ← hk]

/-- when every tuple has `n` components: the whole table as one list equation -/
theorem applyFunctions_eq_table (nanv : β) (kf : Row α → Key) (n : Nat) (hn : 0 < n) (f : List α → β)
    (rows : List (Row α)) (hlen : ∀ r ∈ rows, (kf r).length = n) :
    applyFunctions nanv kf n f rows =
      (product (levels kf n rows)).map (fun k =>
        (k, if rowsOf kf k rows = [] then nanv else f (slice (rowsOf kf k rows)))) := by
  rw [applyFunctions_eq_map nanv kf hn, tableIndex_eq_product kf hn rows hlen]
  rfl

theorem applyFunctions_congr_key (nanv : β) {kf kf' : Row α → Key} (n : Nat) (f : List α → β) {rows : List (Row α)}
    (h : ∀ r ∈ rows, kf r = kf' r) : applyFunctions nanv kf n f rows = applyFunctions nanv kf' n f rows := by
  have e1 : rows.map kf = rows.map kf' := List.map_congr_left h
  have e2 (k : Key) : rowsOf kf k rows = rowsOf kf' k rows := List.filter_congr fun r hr => by rw [h r hr]
  simp only [applyFunctions, grouped, levels, e1, e2]

theorem applyFunctions_congr_rows (nanv : β) (kf : Row α → Key) (n : Nat) (f : List α → β)
    {rows rows' : List (Row α)} (hkeys : ∀ k, k ∈ rows.map kf ↔ k ∈ rows'.map kf)
    (hall : f (slice rows) = f (slice rows'))
    (hcell : ∀ k, f (slice (rowsOf kf k rows)) = f (slice (rowsOf kf k rows'))) :
    applyFunctions nanv kf n f rows = applyFunctions nanv kf n f rows' := by
  rcases n.eq_zero_or_pos with rfl | hn
  · exact congrArg (fun v => [([], v)]) hall
  · have hl : levels kf n rows = levels kf n rows' :=
      List.map_congr_left fun j _ => uniq_eq_of_mem_iff level_trans level_tri level_irrefl fun a => by
        rw [col, col, List.mem_map, List.mem_map]
        exact exists_congr fun k => and_congr_left' (hkeys k)
    simp only [applyFunctions_eq_map nanv kf hn, tableIndex, cellAt, hl, uniq_eq_of_mem_iff key_trans key_tri key_irrefl hkeys,
      rowsOf_eq_nil_iff, hkeys, hcell]

theorem applyFunctions_map {β' : Type} (h : β → β') (nanv : β) (kf : Row α → Key) (n : Nat)
    (f : List α → β) (rows : List (Row α)) :
    (applyFunctions nanv kf n f rows).map (fun p => (p.1, h p.2)) =
      applyFunctions (h nanv) kf n (fun l => h (f l)) rows := by
  rcases n.eq_zero_or_pos with rfl | hn
  · rfl
  · simp only [applyFunctions_eq_map _ kf hn, List.map_map, Function.comp_def, cellAt, apply_ite h]

/-! ### partition of the rows by index tuple -/

/-- For any duplicate-free list of keys containing every observed key, the slices `rowsOf k`
    taken together are a rearrangement of the rows: no row is lost, none is counted twice. -/
theorem partition_perm (kf : Row α → Key) (rows : List (Row α)) (ks : List Key) (hnd : ks.Nodup)
    (hall : ∀ r ∈ rows, kf r ∈ ks) : (ks.flatMap (fun k => rowsOf kf k rows)).Perm rows := by
  induction rows with
  | nil => simp [rowsOf]
  | cons r rs ih =>
    have hcons (k : Key) : rowsOf kf k (r :: rs) = (if kf r = k then [r] else []) ++ rowsOf kf k rs := by
      simp only [rowsOf, List.filter_cons, beq_iff_eq]
      split <;> rfl
    simp only [hcons]
    refine (List.flatMap_append_perm ks _ _).symm.trans ?_
    rw [flatMap_ite_singleton ks hnd (kf r) r (hall r List.mem_cons_self)]
    exact (ih fun x hx => hall x (List.mem_cons_of_mem _ hx)).cons r

end Frame
