import FairModel.Lemmas.Frame
import FairModel.Lemmas.BaseMetrics
import FairModel.Lemmas.XR
import FairModel.Model.MetricPool
import FairModel.Model.Aggregate

/-! Permutation lemmas for the MetricFrame model (C12): slices of permuted rows are permutations of each other,
hence `levels` and `applyFunctions` are invariant for permutation-invariant metric functions; the pool metrics are
permutation invariant; the NaN-skipping min/max of `XRArith` are permutation invariant. -/

-- lets `decide` compare the example row lists of `Properties/C12.lean` (`exRows.Perm exRows'`, `exRows ≠ exRows'`)
deriving instance DecidableEq for Frame.Row

namespace Frame

variable {α β κ : Type}

/-- a metric function that does not look at the order of the rows of its slice -/
def PermInv (f : List α → β) : Prop := ∀ a b : List α, a.Perm b → f a = f b

theorem uniq_levels_congr {l₁ l₂ : List Level} (hm : ∀ x, x ∈ l₁ ↔ x ∈ l₂) : uniq l₁ = uniq l₂ :=
  uniq_eq_of_mem_iff level_trans level_tri level_irrefl hm

theorem uniq_keys_congr {l₁ l₂ : List Key} (hm : ∀ x, x ∈ l₁ ↔ x ∈ l₂) : uniq l₁ = uniq l₂ :=
  uniq_eq_of_mem_iff key_trans key_tri key_irrefl hm

theorem rowsOf_perm (kf : Row α → Key) (k : Key) {rows rows' : List (Row α)} (hp : rows.Perm rows') :
    (rowsOf kf k rows).Perm (rowsOf kf k rows') := hp.filter _

theorem slice_perm {rs rs' : List (Row α)} (hp : rs.Perm rs') : (slice rs).Perm (slice rs') := hp.map _

/-- the levels of every grouping column (hence the Cartesian index) do not depend on the row order —
    no hypothesis on the metric -/
theorem levels_perm (kf : Row α → Key) (n : Nat) {rows rows' : List (Row α)} (hp : rows.Perm rows') :
    levels kf n rows = levels kf n rows' :=
  List.map_congr_left fun _ _ => uniq_levels_congr fun _ => ((hp.map kf).map _).mem_iff

theorem applyFunctions_perm (nanv : β) (kf : Row α → Key) (n : Nat) (f : List α → β) (hf : PermInv f)
    {rows rows' : List (Row α)} (hp : rows.Perm rows') :
    applyFunctions nanv kf n f rows = applyFunctions nanv kf n f rows' :=
  applyFunctions_congr_rows nanv kf n f (fun _ => (hp.map kf).mem_iff) (hf _ _ (slice_perm hp))
    fun k => hf _ _ (slice_perm (rowsOf_perm kf k hp))

theorem applyFunctions_keys_perm (nanv : β) (kf : Row α → Key) (n : Nat) (f : List α → β)
    {rows rows' : List (Row α)} (hp : rows.Perm rows') :
    (applyFunctions nanv kf n f rows).map (·.1) = (applyFunctions nanv kf n f rows').map (·.1) := by
  rcases n.eq_zero_or_pos with rfl | hn
  · rfl
  · rw [map_fst_applyFunctions nanv kf hn, map_fst_applyFunctions nanv kf hn, tableIndex, tableIndex,
      levels_perm kf n hp, uniq_keys_congr fun _ => (hp.map kf).mem_iff]

theorem wf_perm {ncf nsf : Nat} {rows rows' : List (Row α)} (hp : rows.Perm rows') (h : WF ncf nsf rows) :
    WF ncf nsf rows' := fun r hr => h r (hp.mem_iff.mpr hr)

end Frame

namespace MetricPool
open Frame

theorem sumBy_perm (g : Dat → Rat) {a b : List Dat} (hp : a.Perm b) : sumBy g a = sumBy g b :=
  (hp.map g).sum_eq

theorem wsum_perm (p : BaseMetrics.Row → Bool) {a b : List BaseMetrics.Row} (hp : a.Perm b) :
    BaseMetrics.wsum p a = BaseMetrics.wsum p b := by
  unfold BaseMetrics.wsum
  exact ((hp.filter p).map _).sum_eq

theorem rateOf_perm (k : BaseMetrics.Kind) {a b : List BaseMetrics.Row} (hp : a.Perm b) (neg pos : Int) :
    BaseMetrics.rateOf k a neg pos = BaseMetrics.rateOf k b neg pos := by
  cases k <;>
    simp only [BaseMetrics.rateOf, BaseMetrics.tprOf, BaseMetrics.fnrOf, BaseMetrics.fprOf, BaseMetrics.tnrOf,
      BaseMetrics.rowTot, BaseMetrics.cell, wsum_perm _ hp]

theorem rate_perm (k : BaseMetrics.Kind) {a b : List BaseMetrics.Row} (hp : a.Perm b) (pos : Option Int) :
    BaseMetrics.rate k a pos = BaseMetrics.rate k b pos := by
  have hl : BaseMetrics.labelsForCM (BaseMetrics.allLabels a) pos =
      BaseMetrics.labelsForCM (BaseMetrics.allLabels b) pos := by
    unfold BaseMetrics.labelsForCM
    rw [BaseMetrics.uniqueSorted_congr (BaseMetrics.allLabels a) (BaseMetrics.allLabels b) fun _ =>
      ((hp.map _).append (hp.map _)).mem_iff]
  simp only [BaseMetrics.rate, hl, rateOf_perm k hp]

theorem rateCell_perm (k : BaseMetrics.Kind) {a b : List Dat} (hp : a.Perm b) : rateCell k a = rateCell k b := by
  unfold rateCell
  rw [hp.all_eq, rate_perm k (hp.map toBM)]

theorem selRateCell_perm {a b : List Dat} (hp : a.Perm b) : selRateCell a = selRateCell b := by
  unfold selRateCell
  rw [hp.isEmpty_eq, sumBy_perm _ hp, sumBy_perm _ hp]

/-- every metric of the pool (count, selection rate, the four confusion-matrix rates, mean prediction,
    accuracy, the error means and the fingerprint sums) is invariant under permutation of its slice -/
theorem eval_permInv (m : Metric) : PermInv (eval m) := by
  intro a b hp
  cases m <;> simp only [eval, hp.length_eq, selRateCell_perm hp, rateCell_perm _ hp, sumBy_perm _ hp]

end MetricPool

/-- pandas `min` / `max` with `skipna`: the fold is over a left-commutative operation -/
theorem Grouping.apply_perm (g : Grouping) {a b : List XR} (hp : a.Perm b) : g.apply a = g.apply b := by
  cases g
  · have : LeftCommutative XR.minSkip2 := ⟨XR.minSkip2_left_comm⟩
    exact hp.foldr_eq XR.nan
  · have : LeftCommutative XR.maxSkip2 := ⟨XR.maxSkip2_left_comm⟩
    exact hp.foldr_eq XR.nan
