/-
Completeness of the sweep: EVERY threshold operation `ThresholdOperation(">", t)` (and `("<", t)` when flip is
allowed), for an arbitrary threshold `t` (finite or ±inf, possibly equal to a score), predicts on the group's rows
exactly like one of the tradeoff points of `_calculate_tradeoff_points`.  Hence "mixtures of tradeoff points" in
C05 are all randomisations over thresholdings of the scores; in particular the two constant classifiers are tradeoff points.
-/
import FairModel.Lemmas.ThresholdSweep

namespace Threshold
open ThresholdGen

/-- upward closed score predicates -/
def UpClosed (P : Rat → Bool) : Prop := ∀ s s', s ≤ s' → P s = true → P s' = true

theorem below_upClosed (t : Thr) : UpClosed t.below := by
  intro s s' h hs
  cases t with
  | pinf => cases hs
  | ninf => rfl
  | fin q =>
    rw [Thr.below_fin, decide_eq_true_eq] at hs ⊢
    exact hs.trans_le h

theorem not_above_upClosed (t : Thr) : UpClosed (fun s => !t.above s) := by
  intro s s' h hs
  cases t with
  | pinf => cases hs
  | ninf => rfl
  | fin q =>
    simp only [Thr.above_fin, Bool.not_eq_true', decide_eq_false_iff_not, not_lt] at hs ⊢
    exact hs.trans h

theorem UpClosed.false_of_le {P : Rat → Bool} (hP : UpClosed P) {s s' : Rat} (h : s' ≤ s) (hs : ¬ P s = true) :
    P s' = false :=
  Bool.eq_false_iff.mpr fun h' => hs (hP _ _ h h')

/-- on a sorted suffix whose first score satisfies the upward closed `P`, some emitted step has exactly the rows of the
    suffix satisfying `P` above its threshold (the counters `c0`, `c1` play no role here) -/
theorem sweepAux_complete (P : Rat → Bool) (hP : UpClosed P) (suf : List Row) :
    ∀ (c0 c1 : Nat), DescSorted suf → (∀ r, suf.head? = some r → P r.score = true) → suf ≠ [] →
    ∃ s ∈ sweepAux suf c0 c1, ∀ x ∈ suf, s.1.below x.score = P x.score := by
  induction suf with
  | nil => intro _ _ _ _ h; exact absurd rfl h
  | cons r rest ih =>
    intro c0 c1 hs hhead _
    have hPr : P r.score = true := hhead r rfl
    unfold sweepAux
    cases rest with
    | nil =>
      refine ⟨_, List.mem_singleton.mpr rfl, fun x hx => ?_⟩
      rw [List.mem_singleton.mp hx, hPr, src_thrSentinel]
      rfl
    | cons r' rest' =>
      obtain ⟨hr, hs'⟩ := List.pairwise_cons.mp hs
      have hrr' : r'.score ≤ r.score := hr r' List.mem_cons_self
      have ih' := fun h => ih (if r.label then c0 else c0 + 1) (if r.label then c1 + 1 else c1) hs'
        (fun x hx => by cases hx; exact h) (List.cons_ne_nil _ _)
      simp only
      split
      · next heq =>
        -- same score level: the step found for the rest also serves `r`
        obtain ⟨s, hs1, hs2⟩ := ih' (heq ▸ hPr)
        exact ⟨s, hs1, List.forall_mem_cons.mpr ⟨heq ▸ hs2 r' List.mem_cons_self, hs2⟩⟩
      · next hne =>
        have hlt : r'.score < r.score := lt_of_le_of_ne hrr' hne
        by_cases hPr' : P r'.score = true
        · obtain ⟨s, hs1, hs2⟩ := ih' hPr'
          refine ⟨s, List.mem_cons_of_mem _ hs1, List.forall_mem_cons.mpr ⟨?_, hs2⟩⟩
          rw [hPr]
          exact below_upClosed s.1 _ _ hrr' ((hs2 r' List.mem_cons_self).trans hPr')
        · -- `P` holds on `r` and fails from `r'` on: the midpoint emitted here separates them
          obtain ⟨hθ1, hθ2⟩ := midThreshold_between hlt
          refine ⟨_, List.mem_cons_self, List.forall_mem_cons.mpr ⟨?_, fun x hx => ?_⟩⟩
          · rw [hPr, Thr.below_fin]; exact decide_eq_true hθ2
          · have hx' : x.score ≤ r'.score := by
              rcases List.mem_cons.mp hx with rfl | hx
              · exact le_refl _
              · exact (List.pairwise_cons.mp hs').1 x hx
            rw [hP.false_of_le hx' hPr', Thr.below_fin]
            exact decide_eq_false (not_lt.mpr (hx'.trans hθ1.le))

/-- every upward closed set of rows is the set above the threshold of some sweep step -/
theorem sweepSteps_complete (P : Rat → Bool) (hP : UpClosed P) (rows : List Row) :
    ∃ s ∈ sweepSteps rows, ∀ x ∈ rows, s.1.below x.score = P x.score := by
  have hperm := sortDesc_perm rows
  have hpinf : (Thr.pinf, 0, 0) ∈ sweepSteps rows := src_thrInitial ▸ List.mem_cons_self
  cases hL : sortDesc rows with
  | nil =>
    refine ⟨_, hpinf, ?_⟩
    intro x hx
    have := hperm.mem_iff.mpr hx
    rw [hL] at this; simp at this
  | cons r rest =>
    by_cases hr : P r.score = true
    · obtain ⟨s, hs1, hs2⟩ := sweepAux_complete P hP (r :: rest) 0 0 (hL ▸ sortDesc_sorted rows)
        (fun x hx => by simp only [List.head?_cons, Option.some.injEq] at hx; subst hx; exact hr) (by simp)
      refine ⟨s, ?_, fun x hx => hs2 x (hL ▸ hperm.mem_iff.mpr hx)⟩
      unfold sweepSteps; rw [hL]; exact List.mem_cons_of_mem _ hs1
    · -- the largest score fails P, so every score does
      refine ⟨_, hpinf, ?_⟩
      intro x hx
      have hx' : x ∈ r :: rest := hL ▸ hperm.mem_iff.mpr hx
      have hsorted : DescSorted (r :: rest) := hL ▸ sortDesc_sorted rows
      have hle : x.score ≤ r.score := by
        rcases List.mem_cons.mp hx' with rfl | h
        · exact le_refl _
        · exact (List.pairwise_cons.mp hsorted).1 x h
      rw [hP.false_of_le hle hr]
      rfl

theorem confusion_congr {o o' : Op} {rows : List Row} (h : ∀ r ∈ rows, o.apply r.score = o'.apply r.score) :
    confusion o rows = confusion o' rows := by
  unfold confusion expCM
  apply CM.ext' <;> (apply sumBy_congr; intro r hr; simp only [h r hr])

/-- **sweep_complete**: any threshold operation (with "<" only when flip is allowed) has the same confusion
    counts on the group's rows as one of the tradeoff points -/
theorem sweep_complete (flip : Bool) (xm ym : Metric) (rows : List Row) (o : Op)
    (ho : o.gt = true ∨ flip = true) :
    ∃ p ∈ rawPoints flip xm ym rows, p.op.gt = o.gt ∧ confusion p.op rows = confusion o rows := by
  cases hgt : o.gt with
  | true =>
    obtain ⟨s, hs1, hs2⟩ := sweepSteps_complete o.thr.below (below_upClosed _) rows
    refine ⟨_, mem_rawPoints.mpr ⟨s, hs1, (true, true),
      by cases flip <;> simp [operations, operationsFlip, operationsNoFlip], rfl⟩, rfl, ?_⟩
    apply confusion_congr
    intro r hr
    simp only [Op.apply, hgt, if_true]
    exact hs2 r hr
  | false =>
    have hflip : flip = true := by
      rcases ho with h | h
      · rw [hgt] at h; cases h
      · exact h
    obtain ⟨s, hs1, hs2⟩ := sweepSteps_complete (fun x => !o.thr.above x) (not_above_upClosed _) rows
    have hsound := sweepSteps_sound rows s hs1
    have hop : (false, false) ∈ operations flip := by
      rw [hflip]; simp [operations, operationsFlip]
    refine ⟨_, mem_rawPoints.mpr ⟨s, hs1, (false, false), hop, rfl⟩, rfl, ?_⟩
    apply confusion_congr
    intro r hr
    simp only [Op.apply, hgt, Bool.false_eq_true, if_false]
    rw [hsound.2.2 r hr, hs2 r hr]
    simp

/-- hence the metric pair of every admitted operation, for an arbitrary threshold, is the (x, y) of a tradeoff point -/
theorem exists_rawPoint_of_op (flip : Bool) (xm ym : Metric) (rows : List Row) (o : Op) (ho : o.gt = true ∨ flip = true) :
    ∃ p ∈ rawPoints flip xm ym rows, p.x = xm.eval (confusion o rows) ∧ p.y = ym.eval (confusion o rows) := by
  obtain ⟨p, hp, _, hc⟩ := sweep_complete flip xm ym rows o ho
  exact ⟨p, hp, hc ▸ rawPoints_sound flip xm ym rows p hp⟩

/-- the two constant classifiers: `> +inf` predicts nothing positive, `> -inf` everything; both are tradeoff points -/
theorem confusion_pinf (rows : List Row) :
    confusion ⟨true, .pinf⟩ rows = actualCounts 0 0 (nNeg rows) (nPos rows) := by
  rw [confusion_eq_actualCounts]; simp [Op.apply, Thr.below]

theorem confusion_ninf (rows : List Row) :
    confusion ⟨true, .ninf⟩ rows = actualCounts (nNeg rows) (nPos rows) (nNeg rows) (nPos rows) := by
  rw [confusion_eq_actualCounts]; simp [Op.apply, Thr.below, nNeg, nPos]

theorem const_rawPoints (flip : Bool) (xm ym : Metric) (rows : List Row) :
    ∃ p0 ∈ rawPoints flip xm ym rows, ∃ p1 ∈ rawPoints flip xm ym rows,
      (p0.x = xm.eval (actualCounts 0 0 (nNeg rows) (nPos rows)) ∧
        p0.y = ym.eval (actualCounts 0 0 (nNeg rows) (nPos rows))) ∧
      p1.x = xm.eval (actualCounts (nNeg rows) (nPos rows) (nNeg rows) (nPos rows)) ∧
        p1.y = ym.eval (actualCounts (nNeg rows) (nPos rows) (nNeg rows) (nPos rows)) := by
  obtain ⟨p0, h0, h0xy⟩ := exists_rawPoint_of_op flip xm ym rows ⟨true, .pinf⟩ (Or.inl rfl)
  obtain ⟨p1, h1, h1xy⟩ := exists_rawPoint_of_op flip xm ym rows ⟨true, .ninf⟩ (Or.inl rfl)
  rw [confusion_pinf] at h0xy
  rw [confusion_ninf] at h1xy
  exact ⟨p0, h0, p1, h1, h0xy, h1xy⟩

end Threshold
