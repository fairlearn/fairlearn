import FairModel.Lemmas.Prelude
import FairModel.Model.Container

/-! Lemmas for the container model of C12, section (5): conversions that drop the labels (`dropsLabels`), the
label-aligning placement `place` on fresh, positional and labelled columns, and `placeAll` over all arguments of an
entry point. -/

deriving instance DecidableEq for ContainerSites.Site

namespace Cont
open ContainerSites (Conv Site)

theorem dropsLabels_of_ne_raw {c : Conv} {a : Arg} (hc : c ≠ .raw) (hk : c = .kind → a.kind.labelled = false) :
    dropsLabels c a = true := by
  cases c
  case raw => exact absurd rfl hc
  case kind => rw [dropsLabels, hk rfl]; rfl
  all_goals rfl

theorem dropsLabels_sites (ss : List Site) (args : List Arg) (hraw : ∀ s ∈ ss, s.conv ≠ Conv.raw)
    (hk : ∀ p ∈ ss.zip args, p.1.conv = Conv.kind → p.2.kind.labelled = false) :
    ∀ p ∈ (ss.map (·.conv)).zip args, dropsLabels p.1 p.2 = true := by
  intro p hp
  rw [List.zip_map_left, List.mem_map] at hp
  obtain ⟨q, hq, rfl⟩ := hp
  exact dropsLabels_of_ne_raw (hraw q.1 (List.of_mem_zip hq).1) (hk q hq)

theorem convert_eq_convertP (c : Conv) (a : Arg) (h : dropsLabels c a = true) :
    convert c a = convertP c a.payload := by
  cases c <;> first
    | rfl
    | (rw [convert, (Bool.not_eq_true' _).mp h]; rfl)

theorem rangeIndex_nodup (n : Nat) : (rangeIndex n).Nodup := by
  unfold rangeIndex
  exact List.Nodup.map (fun a b h => by simpa using h) List.nodup_range

theorem rangeIndex_length (n : Nat) : (rangeIndex n).length = n := by simp [rangeIndex]

theorem rangeIndex_idxOf (n i : Nat) (h : i < n) : (rangeIndex n).idxOf (i : Int) = i := by
  have hl : i < (rangeIndex n).length := by rw [rangeIndex_length]; exact h
  have hget : (rangeIndex n)[i] = (i : Int) := by simp [rangeIndex]
  have := (rangeIndex_nodup n).idxOf_getElem i hl
  rw [hget] at this
  exact this

/-- Aligning a FRESH Series (RangeIndex) by label is pairing by position. -/
theorem place_fresh (vals : List Rat) :
    place vals.length (.labelled (rangeIndex vals.length) vals) = .ok (vals.map some) := by
  rw [place, if_pos (rangeIndex_nodup _)]
  congr 1
  apply List.ext_getElem (by rw [List.length_map, List.length_map, List.length_range])
  intro i h1 _
  have hi : i < vals.length := by rwa [List.length_map, List.length_range] at h1
  rw [List.getElem_map, List.getElem_map, List.getElem_range, rangeIndex_idxOf _ _ hi, List.getElem?_eq_getElem hi]

theorem place_convertP (c : Conv) (vals : List Rat) :
    place vals.length (convertP c vals) = .ok (vals.map some) := by
  cases c
  case fresh => exact place_fresh vals
  all_goals simp [convertP, place]

theorem placeAll_congr (n : Nat) (convs : List Conv) (args args' : List Arg)
    (hpay : List.Forall₂ (fun a a' => a.payload = a'.payload) args args')
    (h : ∀ p ∈ convs.zip args, dropsLabels p.1 p.2 = true)
    (h' : ∀ p ∈ convs.zip args', dropsLabels p.1 p.2 = true) :
    placeAll n convs args = placeAll n convs args' := by
  induction hpay generalizing convs with
  | nil => rfl
  | @cons a a' as as' hp _ ih =>
    cases convs with
    | nil => rfl
    | cons c cs =>
      obtain ⟨hc, ht⟩ := List.forall_mem_cons.mp h
      obtain ⟨hc', ht'⟩ := List.forall_mem_cons.mp h'
      simp only [placeAll, convert_eq_convertP c a hc, convert_eq_convertP c a' hc', hp, ih cs ht ht']

theorem placeAll_positional (n : Nat) (convs : List Conv) (args : List Arg) (hl : convs.length = args.length)
    (h : ∀ p ∈ convs.zip args, dropsLabels p.1 p.2 = true) (hn : ∀ a ∈ args, a.payload.length = n) :
    placeAll n convs args = .ok (args.map (fun a => a.payload.map some)) := by
  induction convs generalizing args with
  | nil => rw [List.eq_nil_of_length_eq_zero hl.symm]; rfl
  | cons c cs ih =>
    cases args with
    | nil => cases hl
    | cons a as =>
      obtain ⟨hc, ht⟩ := List.forall_mem_cons.mp h
      obtain ⟨ha, hnt⟩ := List.forall_mem_cons.mp hn
      have hp := place_convertP c a.payload
      rw [ha] at hp
      simp only [placeAll, convert_eq_convertP c a hc, hp, List.map_cons, ih as (Nat.succ.inj hl) ht hnt]

/-- repeated labels: `cannot reindex on an axis with duplicate labels`, whatever the values -/
theorem place_dup (n : Nat) (labels : List Int) (vals : List Rat) (h : ¬ labels.Nodup) :
    place n (.labelled labels vals) = .error .dupLabels := by
  simp [place, h]

theorem place_labelled_ok (n : Nat) (labels : List Int) (vals : List Rat) (h : labels.Nodup) :
    place n (.labelled labels vals) = .ok ((List.range n).map (fun (i : Nat) => vals[labels.idxOf (i : Int)]?)) := by
  simp [place, h]

/-- a well-formed Series (as many labels as values): row `i` is NaN exactly when no entry is labelled `i` -/
theorem labelled_entry_none_iff (labels : List Int) (vals : List Rat) (hl : labels.length = vals.length) (i : Int) :
    vals[labels.idxOf i]? = none ↔ i ∉ labels := by
  rw [List.getElem?_eq_none_iff, ← hl]
  constructor
  · exact fun h hm => absurd (List.idxOf_lt_length_of_mem hm) (Nat.not_lt_of_le h)
  · intro h
    rw [List.idxOf_eq_length_iff.mpr h]

/-- … and otherwise it is the value carrying that label, wherever it stands -/
theorem labelled_entry_some (labels : List Int) (vals : List Rat) (hnd : labels.Nodup) (p : Nat)
    (hp : p < labels.length) : vals[labels.idxOf labels[p]]? = vals[p]? := by
  rw [hnd.idxOf_getElem p hp]

end Cont
