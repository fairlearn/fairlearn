/-
The model re-built from the lifted text (`Model/CorrLifted.lean`) against the hand-written one.
`namespace CorrL`: stated UNDER the values of the generated constants (`fitMeanKind`, `fitCenter`, `transformCenter`,
`outEntry`, `transformMean`, `lstsqRcond`, the two index comprehensions).  Those values are the named clauses
`C15.lifted_*`, which `C15.src_model_eq` feeds in: a source edit breaks the `lifted_*` clause that reads the changed
expression, and nothing here.
`namespace CorrRemoverSrc`: the lifted `_create_lookup` tables (`dictGet`, `lookupArray`, `lookupDataFrame`) have no
hand-written twin; these lemmas unfold the generated definitions and are what breaks when `_create_lookup` changes.
-/
import FairModel.Lemmas.CorrRemover
import FairModel.Model.CorrLifted

namespace CorrL
open CorrRemover

theorem zipWith_zipWith_left {α β γ : Type} (g : γ → α → γ) (h : α → β → γ) (l1 : List α) (l2 : List β) :
    List.zipWith g (List.zipWith h l1 l2) l1 = List.zipWith (fun a b => g (h a b) a) l1 l2 := by
  induction l1 generalizing l2 with
  | nil => simp
  | cons a l1 ih =>
    cases l2 with
    | nil => simp
    | cons b l2 => simp [ih]

/-- the lifted `transform` is the hand-written model's, provided the lifted expressions are the documented ones -/
theorem transformSrc_eq (p : Params) (X : Mat)
    (hm : CorrRemoverSrc.transformMean = .stored)
    (hc : CorrRemoverSrc.transformCenter = fun s m => s - m)
    (ho : CorrRemoverSrc.outEntry = fun a u pr => a * (u - pr) + (1 - a) * u)
    (hs : sensIdx p.ids = p.ids) (hk : keptIdx p.ids p.m = nonSensIdx p.ids p.m) :
    transformSrc p X = transform p X := by
  unfold transformSrc transform transformMean
  rw [hm]
  apply List.map_congr_left
  intro x _
  unfold transformRowSrc transformRow blend residRow vsub
  simp only [hc, ho, hs, hk]
  rw [zipWith_zipWith_left]

theorem fitMeanSrc_eq (ids : List Nat) (X : Mat) (hkind : CorrRemoverSrc.fitMeanKind = .perColumn)
    (hs : sensIdx ids = ids) : fitMeanSrc ids X = fitMean ids X := by
  unfold fitMeanSrc fitMean sensSrc sens meanOf
  rw [hkind, hs]

theorem lstsqAssumed_none (A Z β : Mat) (ms mz : Nat) : lstsqAssumed none A Z β ms mz = isLstsq A Z β ms mz := rfl

/-- with an explicit cut-off nothing is assumed: the hypothesis `isLstsqSrc … = true` would be vacuous -/
theorem lstsqAssumed_some (q : Rat) (A Z β : Mat) (ms mz : Nat) : lstsqAssumed (some q) A Z β ms mz = true := rfl

theorem isLstsqSrc_eq (ids : List Nat) (m : Nat) (X β : Mat) (hkind : CorrRemoverSrc.fitMeanKind = .perColumn)
    (hc : CorrRemoverSrc.fitCenter = fun s m => s - m) (hs : sensIdx ids = ids)
    (hk : keptIdx ids m = nonSensIdx ids m) (hr : CorrRemoverSrc.lstsqRcond = none) :
    isLstsqSrc ids m X β = isLstsq (center (sens ids X) (fitMean ids X)) (nonSens ids m X) β ids.length
      (nonSensIdx ids m).length := by
  unfold isLstsqSrc lstsqA
  rw [hr, lstsqAssumed_none, fitMeanSrc_eq ids X hkind hs]
  unfold centerWith useSrc sensSrc
  rw [hc, hs, hk]
  rfl

end CorrL

/-! ### `_create_lookup`: names / positions to positions -/
namespace CorrRemoverSrc

theorem dictGet_of_mem (entries : List (Nat × Nat)) (hk : (entries.map Prod.fst).Nodup) (k v : Nat)
    (hm : (k, v) ∈ entries) : dictGet entries k = v := by
  unfold dictGet
  cases hf : entries.reverse.find? (fun e => e.1 == k) with
  | none =>
    have := List.find?_eq_none.mp hf (k, v) (by simpa using hm)
    simp at this
  | some e =>
    have he := List.mem_of_find?_eq_some hf
    have hp := List.find?_some hf
    have h1 : e.1 = k := by simpa using hp
    have : e = (k, v) := List.inj_on_of_nodup_map hk (by simpa using he) hm (by simpa using h1)
    simp [this]

theorem lookupDataFrame_eq (cols : List Nat) (hn : cols.Nodup) (i : Nat) (h : i < cols.length) :
    lookupDataFrame cols cols[i] = i := by
  unfold lookupDataFrame
  apply dictGet_of_mem
  · simpa [List.map_map, Function.comp_def] using hn
  · simp only [List.mem_map]
    exact ⟨(cols[i], i), by simp [List.mem_zipIdx_iff_getElem?, h], rfl⟩

theorem lookupArray_eq (m i : Nat) (h : i < m) : lookupArray m i = i := by
  unfold lookupArray
  apply dictGet_of_mem
  · simp [List.map_map, Function.comp_def, List.nodup_range]
  · simp [h]

end CorrRemoverSrc
