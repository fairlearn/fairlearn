/-
Lemmas for the multi-metric MetricFrame model (`Model/FrameMulti.lean`):
  * the uniquify loop ends on a fresh column name;
  * what the constructor loop writes into `all_data` (`Extends`: it only adds columns under fresh names) and which
    column every keyword argument is read from (`RelV`); the lookup of a metric in the dict handed to
    `apply_to_dataframe`;
  * `mkRows`: the payload of row `j` is `j`, so the row numbers of a cell are the positions (in the original order)
    of the feature rows carrying the index tuple (`rowIdx`, `rowIdxC`), all of them `< n`;
  * slicing WITHOUT a default (`sliceAt`, `ownKwargsAt`): on row numbers `< length` the `getD _ 0` of `sliceDF` /
    `ownKwargs` is never taken; on a too short column it IS taken (`C01.short_param_padded_artifact` — real
    MetricFrame raises ValueError there);
  * the rows the two driver ops (`frame.eval`, `fm.eval`) build are well formed.
-/
import FairModel.Lemmas.FrameSrc
import FairModel.Model.FrameMulti

namespace FrameMulti
open Frame FramePrims

variable {γ : Type}

/-! ### the vocabulary the C01 statements about a dict of metrics are written in -/

/-- `t'` still holds every column of `t` with its values (and its column names are pairwise distinct if those of `t`
    are): what the constructor loop preserves, since it only adds columns under fresh names -/
def Extends (t t' : AllData) : Prop :=
  ((columns t).Nodup → (columns t').Nodup) ∧ ∀ c ∈ columns t, c ∈ columns t' ∧ getCol t' c = getCol t c

/-- what `_construct_annotated_metric_function` returns for a metric, relative to a table `t` -/
def RelV (t : AllData) (m : MetricSpec γ) (af : Annotated γ) : Prop :=
  af.name = m.name ∧ af.func = m.func ∧ af.positional = FrameSrc.positional_argument_names ∧
  af.mapping.map (fun p => (p.1, getCol t p.2)) = ownVals m ∧ ∀ p ∈ af.mapping, p.2 ∈ columns t

/-- the row numbers (in the original order) of the feature rows equal to the index tuple `k` -/
def rowIdx (feats : List (List Level × List Level)) (k : Key) : List Nat :=
  (feats.zipIdx.filter (fun pj => pj.1.1 ++ pj.1.2 == k)).map (·.2)

/-- … and of the rows whose CONTROL part equals `c` -/
def rowIdxC (feats : List (List Level × List Level)) (c : Key) : List Nat :=
  (feats.zipIdx.filter (fun pj => pj.1.1 == c)).map (·.2)

/-- `df[col]` of the slice with row numbers `idx`: positions outside the column are DROPPED (no default) -/
def sliceAt (v : List Rat) (idx : List Nat) : List Rat := idx.filterMap (fun j => v[j]?)

/-- every non-None sample parameter of `m` has one value per row (a Boolean the driver could evaluate; real
    MetricFrame raises ValueError "Length of values ... does not match length of index" otherwise) -/
def ParamsFull (n : Nat) (m : MetricSpec γ) : Prop :=
  m.params.all (fun p => match p.2 with | none => true | some v => v.length == n) = true

instance (n : Nat) (m : MetricSpec γ) : Decidable (ParamsFull n m) := by unfold ParamsFull; infer_instance

/-- the keyword arrays a metric must receive for the rows `idx`, WITHOUT a default -/
def ownKwargsAt (m : MetricSpec γ) (idx : List Nat) : List (String × List Rat) :=
  m.params.filterMap (fun p => p.2.map (fun v => (p.1, sliceAt v idx)))

/-! ### association lists -/

theorem lookup_of_mem_nodup {β : Type} (l : List (String × β)) (hnd : (l.map Prod.fst).Nodup)
    (c : String) (v : β) (h : (c, v) ∈ l) : l.lookup c = some v := by
  induction l with
  | nil => exact absurd h List.not_mem_nil
  | cons x xs ih =>
    obtain ⟨k, w⟩ := x
    rw [List.map_cons, List.nodup_cons] at hnd
    rw [List.lookup_cons]
    rcases List.mem_cons.mp h with heq | hmem
    · cases heq; rw [beq_self_eq_true]
    · have hne : c ≠ k := fun he => hnd.1 (List.mem_map.mpr ⟨_, hmem, he⟩)
      rw [beq_false_of_ne hne]
      exact ih hnd.2 hmem

theorem lookup_append_of_lookup {β : Type} (l b : List (String × β)) (c : String) (v : β)
    (h : l.lookup c = some v) : (l ++ b).lookup c = some v := by
  rw [List.lookup_append, h]; rfl

/-! ### the uniquify loop `while col_name in all_data.columns: col_name = col_name + "_"` -/

theorem countP_lt {α : Type} (p q : α → Bool) (hpq : ∀ x, p x = true → q x = true) {c : α}
    (hq : q c = true) (hp : ¬ p c = true) (l : List α) (hc : c ∈ l) : l.countP p < l.countP q := by
  induction l with
  | nil => exact absurd hc List.not_mem_nil
  | cons x xs ih =>
    have hmono : xs.countP p ≤ xs.countP q := List.countP_mono_left fun x _ => hpq x
    rw [List.countP_cons, List.countP_cons]
    rcases List.mem_cons.mp hc with rfl | hmem
    · rw [if_pos hq, if_neg hp]
      exact Nat.lt_succ_of_le hmono
    · by_cases hx : p x = true
      · rw [if_pos hx, if_pos (hpq x hx)]
        exact Nat.succ_lt_succ (ih hmem)
      · rw [if_neg hx]
        exact Nat.lt_of_lt_of_le (ih hmem) (Nat.le_add_right _ _)

/-- the loop ends on a name that is not a column: every round strictly decreases the number of
    columns at least as long as the candidate (the candidate itself is one of them) -/
theorem uniquifyAux_fresh (cols : List String) (s : String) (hs : 1 ≤ s.length) (fuel : Nat) :
    ∀ c : String, cols.countP (fun x => decide (c.length ≤ x.length)) < fuel →
      uniquifyAux cols s fuel c ∉ cols := by
  induction fuel with
  | zero => exact fun c h => absurd h (Nat.not_lt_zero _)
  | succ fuel ih =>
    intro c h
    rw [uniquifyAux]
    split
    · next hc =>
      have hlen : (c ++ s).length = c.length + s.length := String.length_append c s
      refine ih (c ++ s) (Nat.lt_of_lt_of_le
        (countP_lt _ _ ?_ ?_ ?_ cols (List.contains_iff_mem.mp hc)) (Nat.le_of_lt_succ h))
      · intro x hx
        rw [decide_eq_true_eq] at hx ⊢
        exact Nat.le_trans (Nat.le_add_right _ _) (hlen ▸ hx)
      · exact decide_eq_true (Nat.le_refl _)
      · rw [decide_eq_true_eq, hlen]
        exact Nat.not_le.mpr (Nat.lt_add_of_pos_right hs)
    · next hc => exact fun hm => hc (List.contains_iff_mem.mpr hm)

theorem uniquifyCol_fresh (t : AllData) (c s : String) (hs : 1 ≤ s.length) :
    uniquifyCol t c s ∉ columns t :=
  uniquifyAux_fresh (columns t) s hs _ c
    (Nat.lt_succ_of_le (List.countP_le_length.trans (List.length_map _).le))

/-! ### what the constructor loop writes -/

theorem getCol_append_of_nodup (front t : AllData) (h : (columns (front ++ t)).Nodup) (c : String)
    (hc : c ∈ columns t) : getCol (front ++ t) c = getCol t c := by
  rw [columns, List.map_append] at h
  rw [getCol, List.lookup_append, List.lookup_eq_none_iff.mpr fun p hp =>
    bne_iff_ne.mpr fun he => (List.nodup_append.mp h).2.2 _ (List.mem_map_of_mem hp) c hc he.symm]
  rfl

theorem getCol_cons_self (t : AllData) (c : String) (v : List Rat) : getCol ((c, v) :: t) c = v := by
  rw [getCol, List.lookup_cons_self]; rfl

theorem getCol_cons_of_ne (t : AllData) {c c' : String} (v : List Rat) (h : c' ≠ c) :
    getCol ((c, v) :: t) c' = getCol t c' := by
  rw [getCol, List.lookup_cons, beq_false_of_ne h]; rfl

theorem Extends.refl (t : AllData) : Extends t t := ⟨id, fun _ hc => ⟨hc, rfl⟩⟩

theorem Extends.trans {t t' t'' : AllData} (h : Extends t t') (h' : Extends t' t'') : Extends t t'' :=
  ⟨h'.1 ∘ h.1, fun c hc => ⟨(h'.2 c (h.2 c hc).1).1, (h'.2 c (h.2 c hc).1).2.trans (h.2 c hc).2⟩⟩

theorem step_some (pre : Option String) (t : AllData) (mp : List (String × String)) (k : String) (v : List Rat) :
    FrameSrc.construct_step pre (t, mp) (k, some v) =
      ((uniquifyCol t (pyFormat pre ++ "_" ++ k) "_", v) :: t,
       mp ++ [(k, uniquifyCol t (pyFormat pre ++ "_" ++ k) "_")]) := rfl

theorem step_none (pre : Option String) (t : AllData) (mp : List (String × String)) (k : String) :
    FrameSrc.construct_step pre (t, mp) (k, none) = (t, mp) := rfl

/-- the loop over `sample_params.items()`: it only ADDS columns with fresh names, and the mapping it returns
    points every non-None keyword at a column holding exactly its values -/
theorem foldl_step_spec (pre : Option String) (ps : List (String × Option (List Rat))) :
    ∀ (t : AllData) (mp : List (String × String)),
      ∃ t' new, ps.foldl (FrameSrc.construct_step pre) (t, mp) = (t', mp ++ new) ∧ Extends t t' ∧
        new.map (fun p => (p.1, getCol t' p.2)) = ps.filterMap (fun p => p.2.map (fun v => (p.1, v))) ∧
        ∀ p ∈ new, p.2 ∈ columns t' := by
  induction ps with
  | nil => exact fun t mp => ⟨t, [], congrArg (Prod.mk t) (List.append_nil mp).symm, .refl t, rfl, fun _ h => nomatch h⟩
  | cons p ps ih =>
    intro t mp
    obtain ⟨k, _ | v⟩ := p
    · rw [List.foldl_cons, step_none]
      exact ih t mp
    · rw [List.foldl_cons, step_some]
      generalize hc : uniquifyCol t (pyFormat pre ++ "_" ++ k) "_" = c
      have hfresh : c ∉ columns t := hc ▸ uniquifyCol_fresh t _ "_" (by decide)
      obtain ⟨t', new, h1, he, h3, h4⟩ := ih ((c, v) :: t) (mp ++ [(k, c)])
      have hcv := he.2 c List.mem_cons_self
      have he0 : Extends t ((c, v) :: t) := ⟨fun h => List.nodup_cons.mpr ⟨hfresh, h⟩, fun _ hc' =>
        ⟨List.mem_cons_of_mem _ hc', getCol_cons_of_ne t v fun e => hfresh (e ▸ hc')⟩⟩
      refine ⟨t', (k, c) :: new, by rw [h1, List.append_assoc]; rfl, he0.trans he, ?_,
        List.forall_mem_cons.mpr ⟨hcv.1, h4⟩⟩
      rw [List.map_cons, h3, hcv.2, getCol_cons_self]
      rfl

theorem RelV_mono {t t' : AllData} {m : MetricSpec γ} {af : Annotated γ} (h : RelV t m af)
    (he : Extends t t') : RelV t' m af := by
  obtain ⟨h1, h2, h3, h4, h5⟩ := h
  refine ⟨h1, h2, h3, ?_, fun p hp => (he.2 _ (h5 p hp)).1⟩
  rw [← h4]
  exact List.map_congr_left fun p hp => by rw [(he.2 _ (h5 p hp)).2]

theorem construct_spec (t : AllData) (m : MetricSpec γ) :
    Extends t (construct t m).1 ∧ RelV (construct t m).1 m (construct t m).2 := by
  obtain ⟨t', new, h1, he, h3, h4⟩ := foldl_step_spec m.colPrefix m.params t []
  simp only [construct, h1]
  exact ⟨he, rfl, rfl, rfl, h3, h4⟩

/-- `_get_annotated_metric_functions` on ANY table: every column it had is still there with its values, and every
    metric is paired with an annotated function whose keyword columns hold exactly the metric's own parameter
    values — for ANY metric names and parameter names -/
theorem constructAll_extends_rel (base : AllData) (ms : List (MetricSpec γ)) :
    Extends base (constructAll base ms).1 ∧
      List.Forall₂ (RelV (constructAll base ms).1) ms (constructAll base ms).2 := by
  -- `constructAll` is a `foldl` that appends on the right: induct from the right
  induction ms using List.reverseRecOn with
  | nil => exact ⟨.refl _, .nil⟩
  | append_singleton ms m ih =>
    obtain ⟨he, hr⟩ := construct_spec (constructAll base ms).1 m
    have hc : constructAll base (ms ++ [m]) = ((construct (constructAll base ms).1 m).1,
        (constructAll base ms).2 ++ [(construct (constructAll base ms).1 m).2]) := by
      simp only [constructAll, List.foldl_append, List.foldl_cons, List.foldl_nil]
    rw [hc]
    exact ⟨ih.1.trans he, List.rel_append (ih.2.imp fun _ _ h => RelV_mono h he) (.cons hr .nil)⟩

theorem constructAll_nodup (yt yp : List Rat) (ms : List (MetricSpec γ)) :
    (columns (constructAll (baseData yt yp) ms).1).Nodup :=
  (constructAll_extends_rel _ ms).1.1 (by simp [columns, baseData])

theorem getCol_of_extends_base {yt yp : List Rat} {t : AllData} (he : Extends (baseData yt yp) t) :
    getCol t "y_true" = yt ∧ getCol t "y_pred" = yp :=
  ⟨(he.2 "y_true" List.mem_cons_self).2, (he.2 "y_pred" (List.mem_cons_of_mem _ List.mem_cons_self)).2⟩

/-! ### what an annotated function calls the metric with -/

theorem ownKwargs_eq_map_ownVals (m : MetricSpec γ) (idx : List Nat) :
    ownKwargs m idx = (ownVals m).map (fun q => (q.1, idx.map (fun j => q.2.getD j 0))) := by
  unfold ownKwargs ownVals
  rw [List.map_filterMap]
  apply List.filterMap_congr
  intro p _
  cases p.2 <;> rfl

/-- an annotated function related to `m` calls `m.func` with the slice of y_true / y_pred and exactly
    `m`'s own parameters, sliced the same way -/
theorem metricFn_of_rel {D : AllData} {yt yp : List Rat} {m : MetricSpec γ} {af : Annotated γ}
    (h : RelV D m af) (he : Extends (baseData yt yp) D) (idx : List Nat) :
    metricFn D af idx =
      m.func [idx.map (fun j => yt.getD j 0), idx.map (fun j => yp.getD j 0)] (ownKwargs m idx) := by
  obtain ⟨_, hf, hp, hm, _⟩ := h
  simp only [metricFn, FrameSrc.annotated_call, hf, hp, FrameSrc.positional_argument_names, List.map_cons,
    List.map_nil, sliceDF, getCol_of_extends_base he]
  congr 1
  rw [ownKwargs_eq_map_ownVals, ← hm, List.map_map]
  rfl

theorem metricFn_construct (yt yp : List Rat) (m : MetricSpec γ) :
    metricFn (construct (baseData yt yp) m).1 (construct (baseData yt yp) m).2 = fun idx =>
      m.func [idx.map (fun j => yt.getD j 0), idx.map (fun j => yp.getD j 0)] (ownKwargs m idx) :=
  funext (metricFn_of_rel (construct_spec _ m).2 (construct_spec _ m).1)

/-! ### the dict handed to `apply_to_dataframe` -/

theorem apply_to_dataframe_fnDict (D : AllData) (afs : List (Annotated γ)) (idx : List Nat) :
    FrameSrc.apply_to_dataframe idx (fnDict D afs) = afs.map (fun af => (af.name, metricFn D af idx)) := by
  rw [FrameSrc.apply_to_dataframe, fnDict, List.map_map]; rfl

/-- looking a metric up by its name in any dict built over the annotated functions, `af ↦ (af.name, G af)`, finds the
    entry of its own annotated function; `G` is general because two dicts are looked up this way: the NaN row
    (`G = fun _ => nanv`) and the dict handed to `apply_to_dataframe` (`G = (metricFn D · idx)`) -/
theorem lookup_of_rel (D : AllData) (ms : List (MetricSpec γ)) (afs : List (Annotated γ))
    (hrel : List.Forall₂ (RelV D) ms afs) (hnd : (ms.map (·.name)).Nodup) (m : MetricSpec γ) (hm : m ∈ ms) :
    ∃ af, RelV D m af ∧
      ∀ G : Annotated γ → γ, (afs.map (fun af => (af.name, G af))).lookup m.name = some (G af) := by
  induction hrel with
  | nil => exact absurd hm List.not_mem_nil
  | @cons x af xs afs' hx _ ih =>
    rw [List.map_cons, List.nodup_cons] at hnd
    simp only [List.map_cons, List.lookup_cons, hx.1]
    rcases List.mem_cons.mp hm with rfl | hm'
    · exact ⟨af, hx, fun G => by rw [beq_self_eq_true]⟩
    · obtain ⟨af', h1, h2⟩ := ih hnd.2 hm'
      refine ⟨af', h1, fun G => ?_⟩
      have hne : m.name ≠ x.name := fun he => hnd.1 (List.mem_map.mpr ⟨m, hm', he⟩)
      rw [beq_false_of_ne hne]
      exact h2 G

/-- column `m.name` of the table `_apply_functions` computes for a dict of metrics is the table it computes for `m`
    alone (every entry wrapped in `some`), for ANY grouping columns `kf`, `n`; `by_group` and `overall` are the two
    instances in `Properties/C01.lean` -/
theorem multi_applyFunctions_column (nanv : γ) (kf : Row Nat → Key) (n : Nat) (yt yp : List Rat)
    (ms : List (MetricSpec γ)) (rows : List (Row Nat)) (hnames : (ms.map (·.name)).Nodup)
    (m : MetricSpec γ) (hm : m ∈ ms) :
    (applyFunctions (nanRow nanv (constructAll (baseData yt yp) ms).2) kf n
        (fun idx => FrameSrc.apply_to_dataframe idx
          (fnDict (constructAll (baseData yt yp) ms).1 (constructAll (baseData yt yp) ms).2)) rows).map
        (fun p => (p.1, p.2.lookup m.name)) =
      (applyFunctions nanv kf n (metricFn (construct (baseData yt yp) m).1 (construct (baseData yt yp) m).2)
        rows).map (fun p => (p.1, some p.2)) := by
  obtain ⟨he, hrel⟩ := constructAll_extends_rel (baseData yt yp) ms
  obtain ⟨af, hr, hl⟩ := lookup_of_rel _ ms _ hrel hnames m hm
  rw [applyFunctions_map (fun row => List.lookup m.name row), applyFunctions_map some, metricFn_construct]
  congr 1
  · exact hl fun _ => nanv
  · funext idx
    rw [apply_to_dataframe_fnDict, hl, metricFn_of_rel hr he idx]

/-! ### `mkRows`: payload = row number -/

theorem mem_mkRows {feats : List (List Level × List Level)} {r : Row Nat} (hr : r ∈ mkRows feats) :
    (r.cf, r.sf) ∈ feats ∧ r.dat < feats.length := by
  obtain ⟨j, hj, rfl⟩ := List.mem_map.mp hr
  have hj := List.mem_range.mp hj
  refine ⟨?_, hj⟩
  show (feats.getD j ([], [])) ∈ feats
  rw [List.getD_eq_getElem?_getD, List.getElem?_eq_getElem hj]
  exact List.getElem_mem hj

theorem mkRows_wf (ncf nsf : Nat) (feats : List (List Level × List Level))
    (h : ∀ p ∈ feats, p.1.length = ncf ∧ p.2.length = nsf) : WF ncf nsf (mkRows feats) :=
  fun _ hr => h _ (mem_mkRows hr).1

theorem mkRows_noMissing (feats : List (List Level × List Level))
    (h : ∀ p ∈ feats, FramePrims.naLevel ∉ p.1 ∧ FramePrims.naLevel ∉ p.2) : FramePrims.NoMissing (mkRows feats) :=
  fun _ hr => h _ (mem_mkRows hr).1

theorem slice_mkRows (feats : List (List Level × List Level)) : slice (mkRows feats) = List.range feats.length := by
  rw [slice, mkRows, List.map_map]
  exact List.map_id' _

theorem mkRows_eq_zipIdx (feats : List (List Level × List Level)) :
    mkRows feats = feats.zipIdx.map (fun pj => ⟨pj.2, pj.1.1, pj.1.2⟩) := by
  refine List.ext_getElem (by simp only [mkRows, List.length_map, List.length_range, List.length_zipIdx])
    fun i h1 _ => ?_
  rw [mkRows, List.length_map, List.length_range] at h1
  simp only [mkRows, List.getD_eq_getElem?_getD, List.getElem_map, List.getElem_range, h1, getElem?_pos,
    Option.getD_some, List.getElem_zipIdx, zero_add]

theorem slice_rowsOf_mkRows (feats : List (List Level × List Level)) (k : Key) :
    slice (rowsOf Row.key k (mkRows feats)) = rowIdx feats k := by
  simp only [slice, rowsOf, rowIdx, mkRows_eq_zipIdx, List.filter_map, List.map_map]
  rfl

theorem slice_rowsOf_ckey_mkRows (feats : List (List Level × List Level)) (c : Key) :
    slice (rowsOf Row.ckey c (mkRows feats)) = rowIdxC feats c := by
  simp only [slice, rowsOf, rowIdxC, mkRows_eq_zipIdx, List.filter_map, List.map_map]
  rfl

/-! ### slicing without a default -/

/-- on row numbers inside the column the `getD _ 0` of `sliceDF` / `ownKwargs` is never taken -/
theorem map_getD_eq_sliceAt (v : List Rat) (idx : List Nat) (h : ∀ j ∈ idx, j < v.length) :
    idx.map (fun j => v.getD j 0) = sliceAt v idx := by
  rw [sliceAt, ← List.filterMap_eq_map']
  refine List.filterMap_congr fun j hj => ?_
  rw [List.getD_eq_getElem?_getD, List.getElem?_eq_getElem (h j hj)]
  rfl

theorem sliceAt_length (v : List Rat) (idx : List Nat) (h : ∀ j ∈ idx, j < v.length) :
    (sliceAt v idx).length = idx.length := by
  rw [← map_getD_eq_sliceAt v idx h, List.length_map]

theorem ownKwargs_eq_ownKwargsAt (n : Nat) (m : MetricSpec γ) (hp : ParamsFull n m) (idx : List Nat)
    (h : ∀ j ∈ idx, j < n) : ownKwargs m idx = ownKwargsAt m idx := by
  refine List.filterMap_congr fun p hpm => ?_
  have hall := List.all_eq_true.mp hp p hpm
  cases hv : p.2 with
  | none => rfl
  | some v =>
    rw [hv] at hall
    rw [Option.map_some, Option.map_some, map_getD_eq_sliceAt v idx fun j hj => (beq_iff_eq.mp hall) ▸ h j hj]

theorem func_getD_eq_sliceAt {yt yp : List Rat} {n : Nat} (hyt : yt.length = n) (hyp : yp.length = n)
    {m : MetricSpec γ} (hpar : ParamsFull n m) {idx : List Nat} (h : ∀ j ∈ idx, j < n) :
    m.func [idx.map (fun j => yt.getD j 0), idx.map (fun j => yp.getD j 0)] (ownKwargs m idx) =
      m.func [sliceAt yt idx, sliceAt yp idx] (ownKwargsAt m idx) := by
  rw [map_getD_eq_sliceAt yt idx (hyt ▸ h), map_getD_eq_sliceAt yp idx (hyp ▸ h), ownKwargs_eq_ownKwargsAt n m hpar idx h]

theorem cellAt_mkRows {yt yp : List Rat} {feats : List (List Level × List Level)} (hyt : yt.length = feats.length)
    (hyp : yp.length = feats.length) {m : MetricSpec γ} (hpar : ParamsFull feats.length m) (nanv : γ)
    (kf : Row Nat → Key) (k : Key) :
    cellAt nanv kf
        (fun idx => m.func [idx.map (fun j => yt.getD j 0), idx.map (fun j => yp.getD j 0)] (ownKwargs m idx))
        (mkRows feats) k =
      if slice (rowsOf kf k (mkRows feats)) = [] then nanv
      else m.func [sliceAt yt (slice (rowsOf kf k (mkRows feats))), sliceAt yp (slice (rowsOf kf k (mkRows feats)))]
        (ownKwargsAt m (slice (rowsOf kf k (mkRows feats)))) := by
  rw [cellAt, func_getD_eq_sliceAt hyt hyp hpar fun j hj => by
    obtain ⟨r, hr, rfl⟩ := List.mem_map.mp hj
    exact (mem_mkRows (mem_rowsOf.mp hr).1).2]
  simp only [slice, List.map_eq_nil_iff]

/-! ### the rows the drivers build are well formed -/

theorem rowFeatures_spec (n : Nat) (cols : List (List Level)) (feats : List (List Level))
    (h : MetricPool.rowFeatures n cols = some feats) :
    feats.length = n ∧ ∀ fs ∈ feats, fs.length = cols.length := by
  unfold MetricPool.rowFeatures at h
  split at h
  · cases h
    refine ⟨by rw [List.length_map, List.length_range], fun fs hfs => ?_⟩
    obtain ⟨i, _, rfl⟩ := List.mem_map.mp hfs
    exact List.length_map _
  · cases h

theorem length_take_drop {fs : List Level} {n ncf : Nat} (hlen : fs.length = n) (hc : ncf ≤ n) :
    (fs.take ncf).length = ncf ∧ (fs.drop ncf).length = n - ncf := by
  subst hlen
  exact ⟨List.length_take_of_le hc, List.length_drop⟩

/-- `fm.eval`: the rows handed to `byGroupFrame` / `overallFrame` satisfy the `WF` hypothesis of the theorems -/
theorem fm_rows_wf (n ncf : Nat) (cols : List (List Level)) (feats : List (List Level))
    (h : MetricPool.rowFeatures n cols = some feats) (hc : ncf ≤ cols.length) :
    WF ncf (cols.length - ncf) (mkRows (feats.map (fun fs => (fs.take ncf, fs.drop ncf)))) := by
  refine mkRows_wf _ _ _ fun p hp => ?_
  obtain ⟨fs, hfs, rfl⟩ := List.mem_map.mp hp
  exact length_take_drop ((rowFeatures_spec n cols feats h).2 fs hfs) hc

/-- `frame.eval`: the rows handed to `byGroup` / `overall` satisfy `WF`, and there is one per input row -/
theorem frame_rows_wf (ncf : Nat) (ys ps p0 p1 : List Rat) (cols : List (List Level))
    (rows : List (Row MetricPool.Dat)) (h : MetricPool.mkRows ncf ys ps p0 p1 cols = some rows) :
    WF ncf (cols.length - ncf) rows ∧ rows.length = ys.length := by
  unfold MetricPool.mkRows at h
  dsimp only at h
  split at h
  · cases h
  · next hg =>
    simp only [Bool.or_eq_true, decide_eq_true_eq, not_or, Nat.not_lt, ne_eq, not_not] at hg
    obtain ⟨feats, hfe, hrows⟩ := Option.bind_eq_some_iff.mp h
    obtain rfl := Option.some.inj hrows
    obtain ⟨hl, hfs⟩ := rowFeatures_spec _ _ _ hfe
    constructor
    · intro r hr
      obtain ⟨⟨d, fs⟩, hmem, rfl⟩ := List.mem_map.mp hr
      exact length_take_drop (hfs fs (List.of_mem_zip hmem).2) hg.2
    · rw [List.length_map, List.length_zip, List.length_map, List.length_zip, List.length_zip, List.length_zip,
        hl, hg.1.1.1, hg.1.1.2, hg.1.2]
      simp only [Nat.min_self]

end FrameMulti
