/-
`LifecycleSrc.guardPredict`: a machine whose prediction step runs through a purity flag IS the machine when the flag is on,
and taints the state at every prediction when it is off.
-/
import FairModel.Lemmas.Lifecycle
import FairModel.Model.LifecycleSrc

namespace LifecycleSrc
open Lifecycle

theorem guardPredict_of_flag {σ : Type} {b : Bool} (hb : b = true) (taint : σ → σ) (M : Machine σ) :
    guardPredict b taint M = M := by
  subst hb
  cases M with
  | mk init step =>
    unfold guardPredict
    congr 1
    funext s o
    cases o <;> rfl

theorem guardPredict_false_predict {σ : Type} (taint : σ → σ) (M : Machine σ) (s : σ) (k : Nat) :
    ((guardPredict false taint M).step s (.predict k)).1 = taint (M.step s (.predict k)).1 ∧
    ((guardPredict false taint M).step s (.predict k)).2 = (M.step s (.predict k)).2 := ⟨rfl, rfl⟩

/-- operations other than `predict` do not see the flag -/
theorem guardPredict_other {σ : Type} (b : Bool) (taint : σ → σ) (M : Machine σ) (s : σ) (o : Op)
    (ho : ∀ k, o ≠ .predict k) : (guardPredict b taint M).step s o = M.step s o := by
  cases o with
  | predict k => exact absurd rfl (ho k)
  | _ => rfl

end LifecycleSrc
