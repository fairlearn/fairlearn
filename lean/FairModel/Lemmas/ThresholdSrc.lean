/-
The tie between `Generated/TradeoffSrc.lean` (lifted on every run from `_tradeoff_curve_utilities.py`) and the
geometry the downstream theorems reason about.  `Model/Threshold.lean` is DEFINED over the generated definitions;
the `src_*` lemmas say what a generated definition has to be, the `*_eq` lemmas what a model function computed WITH the
generated definitions equals in closed form; the proofs of C04 / C05 (hull, interpolation, sweep, parity, optimality)
rest on these.  A one-token edit of the source (`<=` → `<` in the turn test, swapped `p0`/`p1`, `side="left"`, another
midpoint, another sort key …) makes the corresponding lemma here fail.  (The `_pmf_predict` expressions
`ThresholderSrc.interp` / `withIgnore` / `probColumn` are also unfolded by `rfl` in `ruleProb_simple`, `ruleProb_eo` and
`ThresholdPredict.src_probOf`.)
-/
import FairModel.Lemmas.Prelude
import FairModel.Model.Threshold

namespace Threshold

/-! ### `_filter_points_to_get_convex_hull` -/

/-- the turn test of the source: drop `r1` iff slope(r0→r1) ≤ slope(r0→r2), cross-multiplied -/
theorem src_hullDrop (r0 r1 r2 : Pt) :
    dropTest r0 r1 r2 = decide ((r1.y - r0.y) * (r2.x - r0.x) ≤ (r2.y - r0.y) * (r1.x - r0.x)) := rfl

/-- the loop shape `popWhile` mirrors by structural recursion: `while len(selected) >= 2`, `r1 = selected[-1]`,
    `r0 = selected[-2]`, `selected.pop()` removes the last entry -/
theorem src_hull_loop_shape :
    TradeoffSrc.hullMinLen = 2 ∧ TradeoffSrc.hullR1Back = 1 ∧ TradeoffSrc.hullR0Back = 2 ∧
    TradeoffSrc.hullPopsLast = true := by decide

/-- **bridge (the `while` loop)**: the loop computed WITH the lifted shape (`popWhileSrc`: minimal length
    `TradeoffSrc.hullMinLen`, `r1` / `r0` read `hullR1Back` / `hullR0Back` entries from the end, `pop` at the end
    `hullPopsLast`, turn test `hullDrop`) never raises `IndexError`, never runs out of its `len + 1` fuel, and returns what the
    structural recursion `popWhile` returns.  An edit of the loop shape in the source changes the generated values and
    breaks THIS theorem. -/
theorem popWhileSrc_eq (r2 : Pt) : ∀ (fuel : Nat) (st : List Pt), st.length < fuel →
    popWhileSrc r2 fuel st = some (popWhile r2 st)
  | 0, _, h => absurd h (Nat.not_lt_zero _)
  | fuel + 1, [], _ => rfl
  | fuel + 1, [a], _ => rfl
  | fuel + 1, r1 :: r0 :: rest, h => by
    have ih := popWhileSrc_eq r2 fuel (r0 :: rest) (Nat.lt_of_succ_lt_succ h)
    show (if dropTest r0 r1 r2 = true then popWhileSrc r2 fuel (r0 :: rest) else some (r1 :: r0 :: rest)) =
      some (if dropTest r0 r1 r2 = true then popWhile r2 (r0 :: rest) else r1 :: r0 :: rest)
    rw [ih]
    split <;> rfl

theorem hullStepSrc_eq (sel : List Pt) (r2 : Pt) : hullStepSrc sel r2 = some (hullStep sel r2) := by
  simp [hullStepSrc, hullStep, popWhileSrc_eq r2 (sel.length + 1) sel (Nat.lt_succ_self _)]

theorem foldlM_hullStepSrc_eq (pts : List Pt) : ∀ sel : List Pt,
    pts.foldlM hullStepSrc sel = some (pts.foldl hullStep sel) := by
  induction pts with
  | nil => intro sel; rfl
  | cons p ps ih => intro sel; simp [List.foldlM_cons, hullStepSrc_eq, ih]

/-- **bridge (`_filter_points_to_get_convex_hull`)**: for the loop shape lifted from the source the function returns (no
    `IndexError`) Andrew's monotone chain `(hullRev pts).reverse`, the function all hull invariants are proved about -/
theorem hullSrc_eq (pts : List Pt) : hullSrc pts = some (hullRev pts).reverse := by
  simp [hullSrc, hullRev, foldlM_hullStepSrc_eq]

theorem upperHull_eq (pts : List Pt) : upperHull pts = (hullRev pts).reverse := by
  simp [upperHull, hullSrc_eq]

/-! ### sorting -/

theorem src_scoreBefore (y r : Row) : scoreBefore y r = true ↔ y.score < r.score := by
  simp [scoreBefore, TradeoffSrc.scoreSortDescending]

/-- `.sort_values(by=["x", "y"])`, ascending -/
theorem src_lexLt (a b : Pt) : lexLt a b = true ↔ (a.x < b.x ∨ (a.x = b.x ∧ a.y < b.y)) := by
  show (decide (a.x < b.x) || (decide (a.x = b.x) && (decide (a.y < b.y) || (decide (a.y = b.y) && false)))) = true ↔ _
  simp

/-! ### the sweep -/

theorem src_thrInitial : thrInitial = Thr.pinf := rfl
theorem src_thrSentinel : thrSentinel = Thr.ninf := rfl

/-- the threshold between two blocks of scores is their midpoint -/
theorem src_midThreshold (t s : Rat) : TradeoffSrc.midThreshold t s = (t + s) / 2 := rfl

/-- ... which in exact arithmetic is strictly between two distinct scores; this is all the sweep uses of it -/
theorem midThreshold_between {t s : Rat} (h : s < t) :
    s < TradeoffSrc.midThreshold t s ∧ TradeoffSrc.midThreshold t s < t := by
  rw [src_midThreshold, add_comm]
  exact ⟨left_lt_add_div_two.mpr h, add_div_two_lt_right.mpr h⟩

/-- the degenerate-label guard is a disjunction, `_get_counts` is (len, sum, len - sum) -/
theorem src_counts (len sum : Rat) :
    TradeoffSrc.degenerateGuardIsOr = true ∧ TradeoffSrc.countN len sum = len ∧
    TradeoffSrc.countPos len sum = sum ∧ TradeoffSrc.countNeg len sum = len - sum := ⟨rfl, rfl, rfl, rfl⟩

theorem nPos_add_nNeg (rows : List Row) : nPos rows + nNeg rows = rows.length := by
  unfold nPos nNeg
  rw [List.length_eq_countP_add_countP (fun r : Row => r.label)]
  simp only [Bool.not_eq_true, Bool.decide_eq_false]

/-- **bridge (`_get_counts`)**: the lifted count expressions, evaluated on `len(labels)` and `sum(labels)` of 0/1 labels,
    are the number of rows, of positive rows and of negative rows -/
theorem srcCounts_eq (rows : List Row) :
    srcCounts rows = ((rows.length : Rat), (nPos rows : Rat), (nNeg rows : Rat)) := by
  have h := nPos_add_nNeg rows
  have hq : (rows.length : Rat) = (nPos rows : Rat) + (nNeg rows : Rat) := by exact_mod_cast h.symm
  simp only [srcCounts, TradeoffSrc.countN, TradeoffSrc.countPos, TradeoffSrc.countNeg, Prod.mk.injEq, true_and]
  rw [hq]; ring

/-- the sweep points computed with the lifted counts, in terms of `nNeg` / `nPos` -/
theorem rawPoints_eq (flip : Bool) (xm ym : ThresholdGen.Metric) (rows : List Row) :
    rawPoints flip xm ym rows =
      (sweepSteps rows).flatMap (stepPoints (operations flip) xm ym (nNeg rows) (nPos rows)) := by
  simp only [rawPoints, srcCounts_eq]

/-- the "Degenerate labels" guard: with the lifted connective and the lifted counts the guard fires iff the
    group has no positive or no negative row -/
theorem src_degenerate (rows : List Row) : degenerate rows = true ↔ (nPos rows = 0 ∨ nNeg rows = 0) := by
  simp [degenerate, srcCounts_eq, TradeoffSrc.degenerateGuardIsOr]

/-- `_calculate_tradeoff_points` with the lifted guard, in closed form -/
theorem tradeoffPoints_eq (flip : Bool) (xm ym : ThresholdGen.Metric) (rows : List Row) :
    tradeoffPoints flip xm ym rows =
      if nPos rows = 0 ∨ nNeg rows = 0 then none else some (sortLex (rawPoints flip xm ym rows)) := by
  unfold tradeoffPoints
  by_cases h : nPos rows = 0 ∨ nNeg rows = 0
  · rw [if_pos h, if_pos ((src_degenerate rows).mpr h)]
  · rw [if_neg h, if_neg (fun hd => h ((src_degenerate rows).mp hd))]

/-! ### `_get_interpolation_indices` / `_interpolate_curve` -/

/-- `searchsorted(side="right") - 1`, then one step to the left on equality for every grid index ≥ 1 -/
theorem src_interpIndex (xs : List Rat) (i : Nat) (g : Rat) :
    interpIndex xs i g =
      (if countLE xs g = 0 then none else
        if i ≥ 1 ∧ xs[countLE xs g - 1]? = some g then
          (if countLE xs g - 1 = 0 then none else some (countLE xs g - 1 - 1))
        else some (countLE xs g - 1)) := by
  simp only [interpIndex, searchIdx, TradeoffSrc.searchSideRight, TradeoffSrc.searchMinus, TradeoffSrc.corrStart,
    TradeoffSrc.corrStep, if_true, Nat.lt_one_iff]

theorem src_interpDen (xcur xnext g : Rat) : TradeoffSrc.interpP0Den xcur xnext g = xnext - xcur := rfl
theorem src_interpP0 (xcur xnext g : Rat) : TradeoffSrc.interpP0 xcur xnext g = (xnext - g) / (xnext - xcur) := rfl
theorem src_interpP1 (xcur xnext g : Rat) :
    TradeoffSrc.interpP1 xcur xnext g = 1 - (xnext - g) / (xnext - xcur) := rfl
theorem src_interpY (xcur xnext ycur ynext g : Rat) :
    TradeoffSrc.interpY xcur xnext ycur ynext g =
      (xnext - g) / (xnext - xcur) * ycur + (1 - (xnext - g) / (xnext - xcur)) * ynext := rfl

/-- operation0 belongs to the LEFT vertex of the bracket, operation1 to the right one -/
theorem src_interpOps : TradeoffSrc.op0FromNext = false ∧ TradeoffSrc.op1FromNext = true := ⟨rfl, rfl⟩

/-- `interpolateAt` in terms of plain arithmetic -/
theorem src_interpolateAt (hull : List Pt) (i : Nat) (g : Rat) :
    interpolateAt hull i g =
      (match interpIndex (hull.map (·.x)) i g with
       | none => none
       | some k =>
         match hull[k]?, hull[k + 1]? with
         | some a, some b =>
           if b.x - a.x = 0 then none
           else some { x := g, y := (b.x - g) / (b.x - a.x) * a.y + (1 - (b.x - g) / (b.x - a.x)) * b.y,
                       p0 := (b.x - g) / (b.x - a.x), op0 := a.op, p1 := 1 - (b.x - g) / (b.x - a.x), op1 := b.op }
         | _, _ => none) := rfl

/-! ### the glue of `ThresholdOptimizer.fit` (`Generated/ThresholdFitSrc.lean`) -/

/-- the grid is `np.linspace(0, 1, N + 1)`: its `i`-th entry is `i / N` -/
theorem src_gridVal (N i : Nat) : gridVal N i = (i : Rat) / (N : Rat) := by
  simp [gridVal, ThresholdFitSrc.gridLo, ThresholdFitSrc.gridHi, ThresholdFitSrc.gridExtra]

theorem foldl_add_eq_sum {α} (f : α → Rat) (l : List α) (a : Rat) :
    l.foldl (fun acc x => acc + f x) a = a + (l.map f).sum := by
  induction l generalizing a with
  | nil => simp
  | cons x xs ih => simp only [List.foldl_cons, List.map_cons, List.sum_cons]; rw [ih]; ring

/-- the overall curve is the frequency-weighted sum (`len(group) / n`) of the groups' interpolated objectives -/
theorem src_objSimple (groups : List (List Row)) (is : List Interp) :
    objSimple groups is =
      (List.zipWith (fun (g : List Row) (r : Interp) => ((g.length : Rat) / (totalRows groups : Rat)) * r.y) groups is).sum := by
  unfold objSimple
  have h : (fun (acc : Rat) (py : Rat × Rat) => ThresholdFitSrc.objAccum acc py.1 py.2) =
      (fun acc py => acc + (fun (py : Rat × Rat) => py.1 * py.2) py) := rfl
  rw [h, foldl_add_eq_sum]
  simp [ThresholdFitSrc.objInit, ThresholdFitSrc.groupFreq, List.map_zipWith]

/-- `p_ignore = 0` on the ROC diagonal, otherwise `(y - y_best) / (y - x)` -/
theorem src_pIgnore (r : Interp) (yBest : Rat) :
    pIgnore r yBest = if r.y = r.x then 0 else (r.y - yBest) / (r.y - r.x) := by
  simp [pIgnore, ThresholdFitSrc.pIgnoreOnDiagonal, ThresholdFitSrc.pIgnoreDiagValue, ThresholdFitSrc.pIgnoreValue]

/-- the best grid index is `idxmax` (first maximum, `argmaxFirst`); `n_negative = n - n_positive` -/
theorem src_fit_misc (n npos : Rat) :
    ThresholdFitSrc.bestIsIdxmax = true ∧ ThresholdFitSrc.eoNNeg n npos = n - npos := ⟨rfl, rfl⟩

/-- **bridge (`idxmax`)**: the lifted extremum of both methods is the FIRST MAXIMUM (`argmaxFirst`, see
    `argmaxFirst_spec`) -/
theorem bestIndexSimple_eq (l : List Rat) : bestIndexSimple l = argmaxFirst l := rfl
theorem bestIndexEO_eq (l : List Rat) : bestIndexEO l = argmaxFirst l := rfl

/-- **bridge (`np.amin(y_values, axis=1)`)**: the lifted reduction over the groups is the minimum -/
theorem yReduce_eq (l : List Rat) : yReduce l = minList l := rfl

/-- **assumption made explicit**: `np.around(., aroundDecimals)` is the identity on the exact model (the rounding of the float
    objective to 15 decimals is NOT modelled; the correspondence follows the implementation's pick among near-ties) -/
theorem aroundModel_eq (d : Nat) (v : Rat) : aroundModel d v = v := rfl

/-- `prediction_constant=self._x_best` -/
theorem src_predictionConstant (xbest ybest : Rat) : ThresholdFitSrc.predictionConstant xbest ybest = xbest := rfl

theorem totalRows_eq (groups : List (List Row)) : totalRows groups = totalPos groups + totalNeg groups := by
  induction groups with
  | nil => rfl
  | cons g gs ih =>
    have h := nPos_add_nNeg g
    simp only [totalRows, totalPos, totalNeg, List.map_cons, List.sum_cons] at ih ⊢
    omega

/-- **bridge (`n_negative = n - n_positive`)**: the lifted expression is the number of negative rows of all groups -/
theorem eoNegatives_eq (groups : List (List Row)) : eoNegatives groups = (totalNeg groups : Rat) := by
  simp only [eoNegatives, ThresholdFitSrc.eoNNeg, totalRows_eq]
  push_cast; ring

theorem objEO_eq (obj : ThresholdGen.Metric) (groups : List (List Row)) (x y : Rat) :
    objEO obj groups x y = obj.eval (ThresholdGen.eoCounts (totalNeg groups) (totalPos groups) x y) := by
  simp only [objEO, eoNegatives_eq]

/-- **bridge (`_threshold_optimization_for_simple_constraints`)**: the fit computed with the lifted `idxmax` is the fit
    with the first maximum -/
theorem fitSimple_eq (flip : Bool) (xm ym : ThresholdGen.Metric) (N : Nat) (groups : List (List Row)) (force : Option Nat) :
    fitSimple flip xm ym N groups force =
      (match hullsOf flip xm ym groups with
       | none => none
       | some hulls =>
         match curves hulls N with
         | none => none
         | some cs =>
           let objs := cs.map (objSimple groups)
           let iBest := force.getD (argmaxFirst objs)
           match cs[iBest]?, objs[iBest]? with
           | some best, some o => some ⟨iBest, o, best, best.map simpleRule⟩
           | _, _ => none) := rfl

/-- **bridge (`_threshold_optimization_for_equalized_odds`)**: the fit computed with the lifted reduction (`np.amin`), the
    identity rounding, the lifted `idxmax` and the lifted `prediction_constant` is the fit with the pointwise minimum, the
    exact first maximum and `prediction_constant = x_best` -/
theorem fitEO_eq (flip : Bool) (obj : ThresholdGen.Metric) (N : Nat) (groups : List (List Row)) (force : Option Nat) :
    fitEO flip obj N groups force =
      (match hullsOf flip ThresholdGen.eoXMetric ThresholdGen.eoYMetric groups with
       | none => none
       | some hulls =>
         match curves hulls N with
         | none => none
         | some cs =>
           match allSome (cs.map (fun is => minList (is.map (·.y)))) with
           | none => none
           | some ymins =>
             let objs := (List.range (N + 1)).zipWith (fun i y => objEO obj groups (gridVal N i) y) ymins
             let iBest := force.getD (argmaxFirst objs)
             match cs[iBest]?, objs[iBest]?, ymins[iBest]? with
             | some best, some o, some yBest =>
               some (⟨iBest, o, best, best.map (eoRule (gridVal N iBest) yBest)⟩, yBest)
             | _, _, _ => none) := rfl

/-! ### the predict path (`Generated/ThresholderSrc.lean`) -/

/-- operator ">" is `score > threshold`, operator "<" is `score < threshold` (strict, threshold on the right) -/
theorem src_opGt_eq (s t : Rat) : ThresholderSrc.opGt s t = decide (t < s) := by
  simp [ThresholderSrc.opGt]
theorem src_opLt_eq (s t : Rat) : ThresholderSrc.opLt s t = decide (s < t) := by
  simp [ThresholderSrc.opLt]

theorem Thr.below_fin (t s : Rat) : (Thr.fin t).below s = decide (t < s) := src_opGt_eq s t

theorem Thr.above_fin (t s : Rat) : (Thr.fin t).above s = decide (s < t) := src_opLt_eq s t

/-- `_pmf_predict`: `p_ignore * prediction_constant + (1 - p_ignore) * (p0 * operation0(s) + p1 * operation1(s))` -/
theorem src_ruleProb (r : Rule) (s : Rat) :
    ruleProb r s =
      (match r.ign with
       | none => r.p0 * ind (r.op0.apply s) + r.p1 * ind (r.op1.apply s)
       | some (pi, c) => pi * c + (1 - pi) * (r.p0 * ind (r.op0.apply s) + r.p1 * ind (r.op1.apply s))) := by
  unfold ruleProb
  cases r.ign with
  | none => rfl
  | some pc => rfl

end Threshold
