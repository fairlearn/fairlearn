/-
Facts tying the source-parametrised bootstrap model (`Model/BootstrapSrc.lean`, over `Generated/BootstrapSrc.lean`)
to the hand-written one (`Model/Bootstrap.lean`): for the CURRENT generated values they coincide.
-/
import FairModel.Lemmas.Bootstrap
import FairModel.Model.BootstrapSrc

namespace BootstrapSrc
open BaseMetrics Weights Bootstrap Generated.BootstrapSrc

theorem quantileBy_linear (xs : List Rat) (q : Rat) : quantileBy .linear xs q = quantileLinear xs q := rfl

theorem quantilePropBy_linear (xs : List XR) (q : Rat) : quantilePropBy .linear xs q = quantileProp xs q := rfl

theorem quantileSkipBy_linear (xs : List XR) (q : Rat) : quantileSkipBy .linear xs q = quantileSkip xs q := rfl

/-- the lifted quantile calls are `np.quantile` (Series path) and `np.nanquantile` (DataFrame path), both 'linear' -/
theorem quantileXRsrc_eq (frame : Bool) (xs : List XR) (q : Rat) :
    quantileXRsrc frame xs q = quantileXR frame xs q := by
  cases frame <;> rfl

theorem ciOfSrc_eq : ciOfSrc = ciOf := by
  funext frame samples qs
  have h : quantileXRsrc frame samples = quantileXR frame samples := funext (quantileXRsrc_eq frame samples)
  have ho : qsUsed (if frame = true then frameQOrder else seriesQOrder) qs = qs := by cases frame <;> rfl
  rw [ciOfSrc, ciOf, h, ho]

theorem byGroupCISrc_eq : byGroupCISrc = byGroupCI := by
  funext samples qs
  rw [byGroupCISrc, byGroupCI, ciOfSrc_eq]

theorem roundHalfEven_nat (n : Nat) : roundHalfEven (n : Rat) = n := by
  unfold roundHalfEven
  have hf : (n : Rat).floor = (n : Int) := Rat.floor_intCast (n : Int)
  simp only [hf, Int.cast_natCast, sub_self, Int.toNat_natCast]
  norm_num

theorem loopCount_eq_self (B : Nat) : loopCount B = B := by
  have h : loopCountOffset = 0 := rfl
  unfold loopCount
  rw [h]; simp

theorem seedIndex_eq_some_self (i : Nat) : seedIndex i = some i := rfl

end BootstrapSrc
