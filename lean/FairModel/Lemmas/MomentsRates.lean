/-
Lemmas tying `Model/Moments.lean` to the rate functions of `Model/BaseMetrics.lean` (the model behind
MetricFrame's per-group metrics), and the closed form of `ErrorRate.gamma`.
-/
import FairModel.Lemmas.Moments
import FairModel.Lemmas.BaseMetrics

namespace Moments

/-! ### sums over a selection -/

theorem sum_filter_map {α} (q : α → Bool) (f : α → Rat) (l : List α) :
    ((l.filter q).map f).sum = (l.map (fun a => if q a then f a else 0)).sum := by
  induction l with
  | nil => rfl
  | cons a as ih => by_cases h : q a <;> simp [h, ih]

theorem length_filter_cast {α} (q : α → Bool) (l : List α) :
    ((l.filter q).length : Rat) = (l.map (fun a => ind (q a))).sum := by
  induction l with
  | nil => rfl
  | cons a as ih => by_cases h : q a <;> simp [h, ih, ind, add_comm]

theorem filter_length_cons_cast {α} (q : α → Bool) (r : α) (rs : List α) :
    (((r :: rs).filter q).length : Rat) = ind (q r) + ((rs.filter q).length : Rat) := by
  rw [length_filter_cast, length_filter_cast, List.map_cons, List.sum_cons]

/-! ### ErrorRate.gamma -/

theorem errGamma_soft (fp fn : Rat) (ys h : List Rat) (hy : Hard ys) (hh : Soft h) :
    errGamma fp fn ys h
      = (List.zipWith (fun y p => fn * y * (1 - p) + fp * (1 - y) * p) ys h).sum / (ys.length : Rat) := by
  -- one sample: the code splits `y − p` by sign; for `y ∈ {0,1}`, `p ∈ [0,1]` the sign is known
  have term : ∀ y p : Rat, (y = 0 ∨ y = 1) → (0 ≤ p ∧ p ≤ 1) →
      (if decide (0 < y - p) then (y - p) * fn else 0) + (if decide (y - p < 0) then -(y - p) * fp else 0)
        = fn * y * (1 - p) + fp * (1 - y) * p := by
    intro y p hy hp
    simp only [decide_eq_true_eq]
    rcases hy with rfl | rfl
    · rw [if_neg (not_lt.mpr (sub_nonpos.mpr hp.1))]
      split_ifs with h
      · ring
      · rw [le_antisymm (sub_nonneg.mp (not_lt.mp h)) hp.1]; ring
    · rw [if_neg (not_lt.mpr (sub_nonneg.mpr hp.2))]
      split_ifs with h
      · ring
      · rw [le_antisymm hp.2 (sub_nonpos.mp (not_lt.mp h))]; ring
  unfold errGamma MomentsSrc.errorValue
  simp only
  rw [sum_filter_map, sum_filter_map, ← List.sum_map_add, vsub, List.map_zipWith]
  exact congrArg (fun l => List.sum l / _)
    (zipWith_congr_mem _ _ ys h fun y hy' p hp' => term y p (hy y hy') (hh p hp'))

/-! ### BaseMetrics rows of a selection -/

/-- the rows selected by `p`, with their hard predictions, as unit-weight `BaseMetrics` rows -/
def toBM (p : Row → Bool) (rows : List Row) (hp : List Int) : List BaseMetrics.Row :=
  ((rows.zip hp).filter (fun t => p t.1)).map (fun t => ⟨t.1.y, t.2, 1⟩)

/-- rate of predictions equal to 1 among the rows with label `c` (c = 1: TPR, c = 0: FPR) -/
def condRate (c : Int) (bm : List BaseMetrics.Row) : Rat :=
  BaseMetrics.ratio (BaseMetrics.cell bm c 1) (BaseMetrics.rowTot bm 0 1 c)

theorem wsum_toBM (q : BaseMetrics.Row → Bool) (p : Row → Bool) (rows : List Row) (hp : List Int) :
    BaseMetrics.wsum q (toBM p rows hp)
      = (List.zipWith (fun r x => ind (p r && q ⟨r.y, x, 1⟩)) rows hp).sum := by
  unfold BaseMetrics.wsum toBM
  rw [sum_filter_map, List.map_map, sum_filter_map, ← List.map_uncurry_zip_eq_zipWith]
  refine congrArg List.sum (List.map_congr_left fun t _ => ?_)
  show (if p t.1 = true then if q ⟨t.1.y, t.2, 1⟩ = true then (1 : Rat) else 0 else 0) = ind (p t.1 && q ⟨t.1.y, t.2, 1⟩)
  cases p t.1 <;> cases q ⟨t.1.y, t.2, 1⟩ <;> rfl

theorem totalW_toBM (p : Row → Bool) (rows : List Row) (hp : List Int) (hl : hp.length = rows.length) :
    BaseMetrics.totalW (toBM p rows hp) = ((rows.filter p).length : Rat) := by
  have : BaseMetrics.totalW (toBM p rows hp) = BaseMetrics.wsum (fun _ => true) (toBM p rows hp) := by
    rw [BaseMetrics.wsum, List.filter_true]; rfl
  rw [this, wsum_toBM, length_filter_cast, ← zipWith_left_only _ rows hp hl]
  simp only [Bool.and_true]

theorem dot_ind_sel (p : Row → Bool) (rows : List Row) (hp : List Int) :
    dot (rows.map (fun r => ind (p r))) (hp.map (fun x => ind (x == 1)))
      = (List.zipWith (fun r x => ind (p r && x == 1)) rows hp).sum := by
  simp only [dot, List.zipWith_map, ind_mul]

theorem selectionRate_toBM (p : Row → Bool) (rows : List Row) (hp : List Int) (hl : hp.length = rows.length)
    (hne : rows.filter p ≠ []) :
    BaseMetrics.selectionRate (toBM p rows hp) 1 = .ok (meanOn p rows (hp.map (fun x => ind (x == 1)))) := by
  have : (toBM p rows hp).isEmpty = false := by
    rw [List.isEmpty_eq_false_iff]
    intro h
    have := totalW_toBM p rows hp hl
    rw [h] at this
    exact hne (List.eq_nil_of_length_eq_zero (Nat.cast_eq_zero.mp this.symm))
  rw [BaseMetrics.selectionRate, this, if_neg Bool.false_ne_true, wsum_toBM, totalW_toBM p rows hp hl, meanOn,
    dot_ind_sel]

theorem condRate_toBM (P : Row → Bool) (rows : List Row) (hp : List Int) (c : Int)
    (hl : hp.length = rows.length) (hh : ∀ x ∈ hp, x = 0 ∨ x = 1)
    (hne : rows.filter (fun r => P r && r.y == c) ≠ []) :
    meanOn (fun r => P r && r.y == c) rows (hp.map (fun x => ind (x == 1))) = condRate c (toBM P rows hp) := by
  have hpos : ((rows.filter (fun r => P r && r.y == c)).length : Rat) ≠ 0 :=
    Nat.cast_ne_zero.mpr (List.length_pos_of_ne_nil hne).ne'
  -- for hard predictions the two cells of label `c` add up to the number of selected rows with label `c`
  have htot : BaseMetrics.rowTot (toBM P rows hp) 0 1 c = ((rows.filter (fun r => P r && r.y == c)).length : Rat) := by
    unfold BaseMetrics.rowTot BaseMetrics.cell
    rw [wsum_toBM, wsum_toBM, ← sum_zipWith_add, length_filter_cast, ← zipWith_left_only _ rows hp hl]
    refine congrArg List.sum (zipWith_congr_mem _ _ _ _ fun r _ x hx => ?_)
    have hx01 : ind (x == 0) + ind (x == 1) = 1 := by rcases hh x hx with rfl | rfl <;> decide +kernel
    show ind (P r && (r.y == c && x == 0)) + ind (P r && (r.y == c && x == 1)) = ind (P r && r.y == c)
    rw [← Bool.and_assoc, ← Bool.and_assoc, ← ind_mul, ← ind_mul _ (x == 1), ← mul_add, hx01, mul_one]
  rw [condRate, htot, BaseMetrics.ratio, if_neg hpos, BaseMetrics.cell, wsum_toBM, meanOn, dot_ind_sel]
  simp only [Bool.and_assoc]

/-! ### error rate (ErrorRateParity) -/

/-- unit-weight misclassification rate of `BaseMetrics` rows -/
def errRateBM (bm : List BaseMetrics.Row) : Rat :=
  BaseMetrics.wsum (fun b => b.yt != b.yp) bm / BaseMetrics.totalW bm

theorem errRate_toBM (p : Row → Bool) (rows : List Row) (hp : List Int) (hl : hp.length = rows.length)
    (hy : ∀ r ∈ rows, r.y = 0 ∨ r.y = 1) (hh : ∀ x ∈ hp, x = 0 ∨ x = 1) :
    meanOn p rows (predOf erpUtil rows (hp.map (fun x => ind (x == 1)))) = errRateBM (toBM p rows hp) := by
  -- the ErrorRateParity utility of a hard prediction is the 0/1 error
  have hard : ∀ r ∈ rows, ∀ x ∈ hp, ind (p r) * MomentsSrc.predOf (erpUtil.ud r) (ind (x == 1)) (erpUtil.u0 r)
      = ind (p r && (r.y != x)) := by
    intro r hr x hx
    simp only [MomentsSrc.predOf, Util.ud, erpUtil, MomentsSrc.utilDiff, MomentsSrc.erpU0, MomentsSrc.erpU1, ← ind_mul]
    refine congrArg _ ?_
    rcases hy r hr with h0 | h0 <;> rcases hh x hx with rfl | rfl <;> rw [h0] <;> decide +kernel
  rw [meanOn, errRateBM, predOf, List.zipWith_map_right, dot_map_zipWith_eq_sum, zipWith_congr_mem _ _ _ _ hard,
    wsum_toBM, totalW_toBM p rows hp hl]

/-! ### events within a control stratum -/

/-- `control={c},{e}` determines `c` and `e` when the two events have the same length (label events do) -/
theorem ctrlFormat_inj_of_length (c c' e e' : String) (hlen : e.toList.length = e'.toList.length)
    (h : MomentsSrc.ctrlFormat c e = MomentsSrc.ctrlFormat c' e') : c = c' ∧ e = e' := by
  unfold MomentsSrc.ctrlFormat at h
  have h2 := congrArg String.toList h
  simp only [String.toList_append] at h2
  -- strip the (empty) suffix, then split off the events by length
  have h3 := List.append_cancel_right h2
  have he : e.toList = e'.toList := List.append_inj_right' h3 hlen
  have h5 := List.append_cancel_left (List.append_cancel_right (List.append_inj_left' h3 hlen))
  exact ⟨String.toList_inj.mp h5, String.toList_inj.mp he⟩

theorem ctrlFormat_inj (c c' e : String) (h : MomentsSrc.ctrlFormat c e = MomentsSrc.ctrlFormat c' e) : c = c' :=
  (ctrlFormat_inj_of_length c c' e e rfl h).1

theorem ne_ctrlFormat_of_len (c e e' : String) (hlen : e.toList.length = e'.toList.length) :
    e ≠ MomentsSrc.ctrlFormat c e' := by
  intro h
  unfold MomentsSrc.ctrlFormat at h
  have h2 := congrArg (fun s => s.toList.length) h
  simp only [String.toList_append, List.length_append] at h2
  have : (0 : Nat) < ("control=" : String).toList.length := by decide +kernel
  omega

theorem ctrlFormat_ne_self (c e : String) : e ≠ MomentsSrc.ctrlFormat c e := ne_ctrlFormat_of_len c e e rfl

/-- with control features, the event `control=c0,e0` selects the rows of stratum `c0` whose base event is `e0`
    (when the moment's base events have the length of `e0`, as label events have) -/
theorem inE_eventOf_stratum (k : Kind) (r : Row) (c0 e0 : String)
    (hlen : ∀ b, baseEvent k r = some b → b.toList.length = e0.toList.length) :
    inE (eventOf k) (MomentsSrc.ctrlFormat c0 e0) r = ((r.c == some c0) && (baseEvent k r == some e0)) := by
  unfold inE eventOf
  cases hb : baseEvent k r with
  | none => cases r.c <;> simp
  | some b =>
    have hl := hlen b hb
    cases r.c with
    | none => simp [ne_ctrlFormat_of_len c0 b e0 hl]
    | some c =>
      rw [Bool.eq_iff_iff]
      simp only [beq_iff_eq, Bool.and_eq_true, Option.some.injEq]
      exact ⟨ctrlFormat_inj_of_length _ _ _ _ hl, fun ⟨h1, h2⟩ => by rw [h1, h2]⟩

/-- a bare event that is not of the shape `control=…` selects the rows without control value whose base event it is -/
theorem inE_eventOf_bare (k : Kind) (r : Row) (e : String) (hne : ∀ c b, MomentsSrc.ctrlFormat c b ≠ e) :
    inE (eventOf k) e r = ((r.c == none) && (baseEvent k r == some e)) := by
  unfold inE eventOf
  cases baseEvent k r with
  | none => cases r.c <;> rfl
  | some b => cases r.c with
    | none => rfl
    | some c => exact (beq_eq_false_iff_ne.mpr fun h => hne c b (Option.some.inj h)).trans rfl

theorem inE_stratum_of_label (k : Kind) (lab : Int) (e0 c0 : String) (r : Row)
    (hbase : baseEvent k r = if r.y = lab then some e0 else none) :
    inE (eventOf k) (MomentsSrc.ctrlFormat c0 e0) r = ((r.c == some c0) && (r.y == lab)) := by
  rw [inE_eventOf_stratum k r c0 e0 (by rw [hbase]; intro b hb; split at hb <;> cases hb; rfl), hbase]
  by_cases hy : r.y = lab <;> simp [hy]

end Moments
