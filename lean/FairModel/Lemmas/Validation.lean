/-
Lemmas about `Model/Validation.lean` in three parts: outcomes of chains of `if … then raise`; the predicates and counts of
the hand-written checks (`isBinary`, `hasDup`, the label counts of `_get_counts`, the per-group guard); the lifted check
list of `_validate_and_reformat_input` — first match is `List.find?`, and the bridge `validateSrc_eq_validateWith`.
-/
import FairModel.Lemmas.Prelude
import FairModel.Model.Validation

namespace Validation
open Generated.ValidationTables

/-! outcomes of chains of `if … then raise` -/

theorem ite_valueError_eq_ok {p : Prop} [Decidable p] (x : Outcome) :
    (if p then Outcome.valueError else x) = .ok ↔ ¬p ∧ x = .ok := by
  by_cases h : p <;> simp [h]

theorem ite_ne_typeError {p : Prop} [Decidable p] {x y : Outcome} (hx : x ≠ .typeError) (hy : y ≠ .typeError) :
    (if p then x else y) ≠ .typeError := by
  split <;> assumption

/-- two calls that can only end in `ok` or `ValueError` and accept the same inputs have the same outcome -/
theorem Outcome.eq_of_ok_iff {o o' : Outcome} (h : o = .ok ∨ o = .valueError) (h' : o' = .ok ∨ o' = .valueError)
    (hiff : o = .ok ↔ o' = .ok) : o = o' := by
  rcases h with rfl | rfl <;> rcases h' with rfl | rfl <;> simp at hiff ⊢

theorem ite_valueError_kind {p : Prop} [Decidable p] {x : Outcome} (h : x = .ok ∨ x = .valueError) :
    (if p then Outcome.valueError else x) = .ok ∨ (if p then Outcome.valueError else x) = .valueError := by
  split
  · exact Or.inr rfl
  · exact h

theorem isBinary_iff (y : List Rat) : isBinary y = true ↔ ∀ v ∈ y, v = 0 ∨ v = 1 := by
  simp only [isBinary, List.all_eq_true, Bool.or_eq_true, beq_iff_eq]

theorem hasDup_eq_false_iff (l : List String) : hasDup l = false ↔ l.Nodup := by
  induction l with
  | nil => simp [hasDup]
  | cons x xs ih => simp [hasDup, ih]

theorem degenerateGroup_iff (a b : Nat) : degenerateGroup a b = true ↔ a = 0 ∨ b = 0 := by
  simp [degenerateGroup]

/-! the hand-written counts of `_get_counts` (`n_positive = sum(labels)`, `n_negative = n - n_positive`) -/

theorem nPositive_ne_zero_iff (ls : List Rat) : nPositive ls ≠ 0 ↔ ∃ v ∈ ls, v = 1 := by
  rw [nPositive, ← Nat.pos_iff_ne_zero, List.length_pos_iff_exists_mem]
  simp [List.mem_filter]

/-- the `Nat` subtraction in `nNegative` never truncates: it counts the labels other than 1 -/
theorem nNegative_eq (ls : List Rat) : nNegative ls = (ls.filter (fun v => !(v == 1))).length := by
  have := List.length_eq_length_filter_add (l := ls) (· == 1)
  unfold nNegative nPositive; omega

theorem nNegative_ne_zero_iff (ls : List Rat) : nNegative ls ≠ 0 ↔ ∃ v ∈ ls, v ≠ 1 := by
  rw [nNegative_eq, ← Nat.pos_iff_ne_zero, List.length_pos_iff_exists_mem]
  simp only [List.mem_filter, Bool.not_eq_eq_eq_not, Bool.not_true, beq_eq_false_iff_ne, ne_eq]

theorem nPositive_add_nNegative (ls : List Rat) : nPositive ls + nNegative ls = ls.length := by
  rw [nNegative_eq]; exact (List.length_eq_length_filter_add _).symm

/-- for 0/1 labels the source's `sum(labels)` is the number of ones the model counts -/
theorem sum_eq_nPositive (ls : List Rat) (h : ∀ v ∈ ls, v = 0 ∨ v = 1) : ls.sum = (nPositive ls : Rat) := by
  induction ls with
  | nil => rfl
  | cons a l ih =>
    rw [List.forall_mem_cons] at h
    rw [List.sum_cons, ih h.2, nPositive, nPositive, List.filter_cons]
    rcases h.1 with rfl | rfl <;> simp [add_comm]

theorem mem_groupLabels (sf : List Nat) (y : List Rat) (g : Nat) (v : Rat) :
    v ∈ groupLabels sf y g ↔ ∃ p ∈ sf.zip y, p.1 = g ∧ p.2 = v := by
  simp only [groupLabels, List.mem_map, List.mem_filter, beq_iff_eq, Prod.exists, exists_eq_right,
    exists_eq_right_right]

/-- the per-group guard of `_calculate_tradeoff_points`, for 0/1 labels: no group is refused iff every group
    contains both labels -/
theorem anyDegenerate_eq_false_iff (sf : List Nat) (y : List Rat) (hy : ∀ v ∈ y, v = 0 ∨ v = 1) :
    anyDegenerate sf y = false ↔
      ∀ g ∈ sf, (∃ p ∈ sf.zip y, p.1 = g ∧ p.2 = 1) ∧ (∃ p ∈ sf.zip y, p.1 = g ∧ p.2 = 0) := by
  rw [anyDegenerate, List.any_eq_false]
  refine forall₂_congr fun g _ => ?_
  rw [degenerateGroup_iff, not_or, ← ne_eq, ← ne_eq, nPositive_ne_zero_iff, nNegative_ne_zero_iff]
  simp only [mem_groupLabels, exists_eq_right]
  refine and_congr Iff.rfl ⟨?_, ?_⟩
  · rintro ⟨w, ⟨p, hp, hpg, rfl⟩, hw1⟩
    exact ⟨p, hp, hpg, (hy p.2 (List.of_mem_zip hp).2).resolve_right hw1⟩
  · rintro ⟨p, hp, hpg, hp0⟩
    exact ⟨0, ⟨p, hp, hpg, hp0⟩, zero_ne_one⟩

/-! ## the lifted body of `_validate_and_reformat_input` (Generated/ValidateSrc.lean, run by `runChecks`) -/

section Lifted
open Generated.ValidateSrc

/-- first-match semantics is `List.find?` -/
theorem firstFailure_eq_find? (f : Atom → Bool) (cs : List Check) :
    firstFailure f cs = (cs.find? (fun c => evalCond f c.cond)).map (·.exc) := by
  induction cs with
  | nil => rfl
  | cons c cs ih => rw [firstFailure, List.find?_cons, ih]; cases evalCond f c.cond <;> rfl

/-- a list of checks accepts a descriptor iff none of its conditions holds on it (for ANY list of checks) -/
theorem runChecks_ok_iff (cs : List Check) (ey es eb : Bool) (d : MitData) :
    runChecks cs ey es eb d = .ok ↔ ∀ c ∈ cs, evalCond (evalAtom ey es eb d) c.cond = false := by
  rw [runChecks, firstFailure_eq_find?]
  cases h : cs.find? _ with
  | none => exact ⟨fun _ c hc => Bool.eq_false_iff.2 (List.find?_eq_none.1 h c hc), fun _ => rfl⟩
  | some c =>
    refine ⟨fun h' => ?_, fun h' => ?_⟩
    · cases he : c.exc <;> rw [Option.map_some, he] at h' <;> cases h'
    · exact absurd (List.find?_some h) (Bool.eq_false_iff.1 (h' c (List.mem_of_find?_eq_some h)))

/-- if every check of a list raises ValueError, the list never reports anything else -/
theorem runChecks_kind (cs : List Check) (hk : ∀ c ∈ cs, c.exc = .valueError) (ey es eb : Bool) (d : MitData) :
    runChecks cs ey es eb d = .ok ∨ runChecks cs ey es eb d = .valueError := by
  rw [runChecks, firstFailure_eq_find?]
  cases h : cs.find? _ with
  | none => exact Or.inl rfl
  | some c => right; rw [Option.map_some, hk c (List.mem_of_find?_eq_some h)]; rfl

/-- the lifted label set is {0, 1}: the lifted membership test is the hand-written `isBinary` -/
theorem labelsIn_labelSet (y : List Rat) : labelsIn labelSet y = isBinary y := by
  simp [labelsIn, labelSet, isBinary]

/-- what the hand-written `validateWith` accepts, argument by argument -/
theorem validateWith_ok_iff (ey es eb : Bool) (d : MitData) :
    validateWith ey es eb d = .ok ↔
      (ey = true → ∃ y, d.y = some y ∧ y ≠ [] ∧ (eb = true → isBinary y = true))
      ∧ 0 < d.n ∧ (∀ y, d.y = some y → y.length = d.n)
      ∧ (es = true → d.sf ≠ none) ∧ (∀ sf, d.sf = some sf → sf.length = d.n)
      ∧ (∀ cf, d.cf = some cf → cf.length = d.n) := by
  rcases d with ⟨n, y, sf, cf⟩
  simp only [validateWith, ite_valueError_eq_ok]
  refine and_congr ?_ (and_congr ?_ (and_congr ?_ ?_))
  · cases y <;> cases ey <;> simp
  · simp [Nat.pos_iff_ne_zero]
  · cases y <;> simp
  · cases sf <;> cases cf <;> simp [ite_valueError_eq_ok, -bne_iff_ne]

/-- every lifted check raises ValueError, so the lifted validator raises nothing else -/
theorem validateSrc_kind (ey es eb : Bool) (d : MitData) :
    validateSrc ey es eb d = .ok ∨ validateSrc ey es eb d = .valueError :=
  runChecks_kind checks (by decide +kernel) ey es eb d

/-- BRIDGE: the check list lifted from the working tree, run with first-match semantics, is the hand-written model of
    `_validate_and_reformat_input` — for every value of the three flags and every descriptor.  A source edit that drops a
    check the descriptor can see, changes a condition (`is None` / `is not None`, the label set, `expect_y`), or gives a
    check another exception kind changes `checks` and breaks this proof. -/
theorem validateSrc_eq_validateWith (ey es eb : Bool) (d : MitData) :
    validateSrc ey es eb d = validateWith ey es eb d := by
  refine Outcome.eq_of_ok_iff (validateSrc_kind ey es eb d) ?_ ?_ <;> rcases d with ⟨n, y, sf, cf⟩
  · -- every leaf of the `if`-chain of `validateWith` is `ok` or `ValueError`
    cases sf <;> cases cf <;> simp only [validateWith] <;> (repeat' apply ite_valueError_kind) <;> exact Or.inl rfl
  · -- the twelve conditions, read on a descriptor, are the clauses of `validateWith_ok_iff`
    rw [validateWith_ok_iff, validateSrc, runChecks_ok_iff]
    simp only [checks, List.forall_mem_cons, evalCond, evalAtom, labelsIn_labelSet]
    cases y <;> cases sf <;> cases cf <;> simp only [Option.isSome_some, Option.isSome_none, Option.some.injEq,
      Bool.not_true, Bool.not_false, Bool.not_not, Bool.and_true, Bool.and_false, Bool.true_and, Bool.false_and,
      Bool.and_self, Bool.and_eq_false_imp, Bool.not_eq_eq_eq_not, Bool.not_eq_true, List.isEmpty_eq_false_iff, bne_iff_ne,
      beq_iff_eq, ne_eq, List.not_mem_nil, IsEmpty.forall_iff, implies_true, and_self, and_true, true_and, and_self_left,
      false_and, exists_const, exists_eq_left', forall_eq', imp_and, imp_false, and_assoc, Nat.pos_iff_ne_zero, reduceCtorEq,
      not_false_eq_true, not_true_eq_false]

end Lifted

end Validation
