/-
Lemmas for C15 on the list model.  Rows and matrices are compared entry by entry: `ext_getD` / `mat_ext` reduce an
equation between rows / matrices to `getD` / `ent` at every position, every model function has its `length_…` and
`getD_…` / `ent_…` equation, and sums over positions are `Finset.range` sums.
-/
import FairModel.Lemmas.Prelude
import FairModel.Model.CorrRemover

namespace CorrRemover
open Finset

/-! ### list sums as `Finset.range` sums -/

theorem sumTo_eq_sum_range (n : Nat) (f : Nat → Rat) : sumTo n f = ∑ i ∈ range n, f i := by
  unfold sumTo
  induction n with
  | zero => simp
  | succ n ih =>
    rw [List.range_succ, List.map_append, List.sum_append, ih, Finset.sum_range_succ]
    simp

theorem sum_eq_sum_range_getD (l : List Rat) : l.sum = ∑ i ∈ range l.length, l.getD i 0 := by
  induction l with
  | nil => rfl
  | cons a l ih => rw [List.sum_cons, List.length_cons, Finset.sum_range_succ', ih, add_comm]; rfl

/-! ### `getD` of the list constructors used by the model -/

theorem getD_vec {n j : Nat} (f : Nat → Rat) (h : j < n) : (vec n f).getD j 0 = f j := by
  simp [vec, List.getD_eq_getElem?_getD, h]

theorem length_vec (n : Nat) (f : Nat → Rat) : (vec n f).length = n := by simp [vec]

theorem getD_zipWith (f : Rat → Rat → Rat) (a b : List Rat) (i : Nat)
    (ha : i < a.length) (hb : i < b.length) :
    (List.zipWith f a b).getD i 0 = f (a.getD i 0) (b.getD i 0) := by
  simp only [List.getD_eq_getElem?_getD, List.getElem?_zipWith, List.getElem?_eq_getElem ha,
    List.getElem?_eq_getElem hb, Option.getD_some]

theorem getD_map {α β : Type} (f : α → β) (l : List α) (d : α) (d' : β) (i : Nat) (h : i < l.length) :
    (l.map f).getD i d' = f (l.getD i d) := by
  simp only [List.getD_eq_getElem?_getD, List.getElem?_map, List.getElem?_eq_getElem h, Option.map_some,
    Option.getD_some]

theorem ext_getD (a b : List Rat) (hl : a.length = b.length)
    (h : ∀ i, i < a.length → a.getD i 0 = b.getD i 0) : a = b := by
  apply List.ext_getElem hl
  intro i h1 h2
  have := h i h1
  simpa [List.getD_eq_getElem?_getD, h1, h2] using this

theorem length_pick (idx : List Nat) (r : List Rat) : (pick idx r).length = idx.length :=
  List.length_map _

theorem getD_pick (idx : List Nat) (r : List Rat) (k : Nat) (h : k < idx.length) :
    (pick idx r).getD k 0 = r.getD (idx.getD k 0) 0 := by
  unfold pick
  rw [getD_map (fun c => r.getD c 0) idx 0 0 k h]

theorem length_vsub (a b : List Rat) : (vsub a b).length = min a.length b.length :=
  List.length_zipWith

theorem length_rowTimes (r : List Rat) (β : Mat) (mz : Nat) : (rowTimes r β mz).length = mz :=
  length_vec mz _

theorem length_residRow (β : Mat) (sc z : List Rat) : (residRow β sc z).length = z.length := by
  simp [residRow, length_vsub, length_rowTimes]

theorem length_blend (α : Rat) (f u : List Rat) : (blend α f u).length = min f.length u.length :=
  List.length_zipWith

theorem length_transformRow (p : Params) (x : List Rat) :
    (transformRow p x).length = (nonSensIdx p.ids p.m).length := by
  simp [transformRow, length_blend, length_residRow, length_pick]

/-! ### entries of matrices built row-wise -/

theorem ent_map (f : List Rat → List Rat) (X : Mat) (i j : Nat) (h : i < X.length) :
    ent (X.map f) i j = (f (X.getD i [])).getD j 0 := by
  rw [ent, getD_map f X [] [] i h]

theorem getD_colOf (M : Mat) (j i : Nat) (h : i < M.length) :
    (colOf M j).getD i 0 = ent M i j := by
  unfold colOf ent
  rw [getD_map (fun r => r.getD j 0) M [] 0 i h]

theorem length_colOf (M : Mat) (j : Nat) : (colOf M j).length = M.length := List.length_map _

/-- two matrices with the same shape and the same entries are equal -/
theorem mat_ext (A B : Mat) (hl : A.length = B.length)
    (hr : ∀ i, i < A.length → (A.getD i []).length = (B.getD i []).length)
    (he : ∀ i, i < A.length → ∀ j, j < (A.getD i []).length → ent A i j = ent B i j) : A = B := by
  apply List.ext_getElem hl
  intro i h1 h2
  have ea : A.getD i [] = A[i] := by simp [List.getD_eq_getElem?_getD, h1]
  have eb : B.getD i [] = B[i] := by simp [List.getD_eq_getElem?_getD, h2]
  rw [← ea, ← eb]
  apply ext_getD _ _ (hr i h1)
  intro j hj
  exact he i h1 j hj

/-- the coefficient matrix with entries `f q j` -/
def matOf (ms mz : Nat) (f : Nat → Nat → Rat) : Mat := (List.range ms).map (fun q => vec mz (f q))

theorem ent_matOf (ms mz : Nat) (f : Nat → Nat → Rat) (q j : Nat) (hq : q < ms) (hj : j < mz) :
    ent (matOf ms mz f) q j = f q j := by
  unfold ent matOf
  have : ((List.range ms).map (fun q => vec mz (f q))).getD q [] = vec mz (f q) := by
    simp [List.getD_eq_getElem?_getD, hq]
  rw [this, getD_vec _ hj]

/-- entry of the centred sensitive block -/
theorem ent_center (S : Mat) (mean : List Rat) (i k : Nat) (hi : i < S.length)
    (hk : k < (S.getD i []).length) (hm : k < mean.length) :
    ent (center S mean) i k = ent S i k - mean.getD k 0 := by
  unfold center
  rw [ent_map _ _ _ _ hi]
  unfold vsub
  rw [getD_zipWith _ _ _ _ hk hm]
  rfl

theorem length_sens (ids : List Nat) (X : Mat) : (sens ids X).length = X.length := by simp [sens]

/-! ### covariance algebra -/

theorem sum_sub_mean (b : List Rat) : ∑ i ∈ range b.length, (b.getD i 0 - mean b) = 0 := by
  rw [Finset.sum_sub_distrib, ← sum_eq_sum_range_getD, Finset.sum_const, Finset.card_range, nsmul_eq_mul, mean]
  rcases eq_or_ne (b.length : Rat) 0 with h | h
  · rw [h, zero_mul, sub_zero, List.eq_nil_of_length_eq_zero (Nat.cast_eq_zero.mp h)]; rfl
  · rw [mul_div_cancel₀ _ h, sub_self]

/-- the divisor `n − 1` of the sample covariance is non-zero from two rows on -/
theorem natCast_sub_one_ne_zero {n : Nat} (h : 2 ≤ n) : (n : Rat) - 1 ≠ 0 :=
  (sub_pos.2 (Nat.one_lt_cast.2 h)).ne'

/-- `Σ (a_i − ā)(b_i − b̄) = Σ a_i (b_i − b̄)` : only the *second* argument needs to be centred,
    and it must be centred by its own mean -/
theorem covNum_eq (a b : List Rat) (h : a.length = b.length) :
    covNum a b = ∑ i ∈ range b.length, a.getD i 0 * (b.getD i 0 - mean b) := by
  unfold covNum
  rw [sum_eq_sum_range_getD]
  have hl : (List.zipWith (fun x y => (x - mean a) * (y - mean b)) a b).length = b.length := by
    rw [List.length_zipWith, h, Nat.min_self]
  rw [hl]
  have e : ∀ i ∈ range b.length,
      (List.zipWith (fun x y => (x - mean a) * (y - mean b)) a b).getD i 0
        = a.getD i 0 * (b.getD i 0 - mean b) - mean a * (b.getD i 0 - mean b) := by
    intro i hi
    have hi' : i < b.length := Finset.mem_range.mp hi
    rw [getD_zipWith _ _ _ _ (h ▸ hi') hi']
    ring
  rw [Finset.sum_congr rfl e, Finset.sum_sub_distrib, ← Finset.mul_sum, sum_sub_mean]
  ring

theorem mean_colOf (S : Mat) (k : Nat) : mean (colOf S k) = colMean S k := by
  unfold mean colMean
  rw [sum_eq_sum_range_getD, sumTo_eq_sum_range, length_colOf]
  congr 1
  apply Finset.sum_congr rfl
  intro i hi
  exact getD_colOf S k i (Finset.mem_range.mp hi)

/-- For ANY matrix `R` with as many rows as `S`: the covariance numerator of column `j` of `R`
    with column `k` of `S` is entry `(k,j)` of `(S − colMeans S)ᵀ · R`.  This is where centring
    column `k` by ITS OWN mean is used. -/
theorem covNum_col_eq_normalResid (S R : Mat) (ms k j : Nat) (hk : k < ms)
    (hS : ∀ i, i < S.length → (S.getD i []).length = ms) (hR : R.length = S.length) :
    covNum (colOf R j) (colOf S k) = normalResid (center S (colMeans S ms)) R k j := by
  rw [covNum_eq _ _ (by simp [length_colOf, hR]), length_colOf]
  unfold normalResid
  rw [sumTo_eq_sum_range]
  have hc : (center S (colMeans S ms)).length = S.length := by simp [center]
  rw [hc]
  apply Finset.sum_congr rfl
  intro i hi
  have hi' : i < S.length := Finset.mem_range.mp hi
  rw [ent_center S _ i k hi' (by rw [hS i hi']; exact hk) (by rw [colMeans, length_vec]; exact hk)]
  rw [getD_colOf R j i (hR ▸ hi'), getD_colOf S k i hi', mean_colOf]
  unfold colMeans
  rw [getD_vec _ hk]
  ring

/-- the covariance numerator is linear in its first argument -/
theorem covNum_blend (a r z b : List Rat) (α : Rat) (ha : a.length = b.length)
    (hr : r.length = b.length) (hz : z.length = b.length)
    (h : ∀ i, i < b.length → a.getD i 0 = α * r.getD i 0 + (1 - α) * z.getD i 0) :
    covNum a b = α * covNum r b + (1 - α) * covNum z b := by
  rw [covNum_eq a b ha, covNum_eq r b hr, covNum_eq z b hz, Finset.mul_sum, Finset.mul_sum,
    ← Finset.sum_add_distrib]
  apply Finset.sum_congr rfl
  intro i hi
  rw [h i (Finset.mem_range.mp hi)]
  ring

/-! ### rows of `transform` -/

theorem getD_residRow (β : Mat) (sc z : List Rat) (j : Nat) (hj : j < z.length) :
    (residRow β sc z).getD j 0
      = z.getD j 0 - ∑ k ∈ range sc.length, sc.getD k 0 * ent β k j := by
  unfold residRow vsub
  rw [getD_zipWith _ _ _ _ hj (by rw [length_rowTimes]; exact hj)]
  unfold rowTimes
  rw [getD_vec _ hj, sumTo_eq_sum_range]

theorem getD_residual (Sc Z β : Mat) (i : Nat) (hs : i < Sc.length) (hz : i < Z.length) :
    (residual Sc Z β).getD i [] = residRow β (Sc.getD i []) (Z.getD i []) := by
  simp only [residual, List.getD_eq_getElem?_getD, List.getElem?_zipWith, List.getElem?_eq_getElem hs,
    List.getElem?_eq_getElem hz, Option.getD_some]

theorem getD_blend (α : Rat) (f u : List Rat) (j : Nat) (hf : j < f.length) (hu : j < u.length) :
    (blend α f u).getD j 0 = α * f.getD j 0 + (1 - α) * u.getD j 0 := by
  unfold blend
  rw [getD_zipWith _ _ _ _ hf hu]

theorem getD_transformRow (p : Params) (x : List Rat) (j : Nat) (hj : j < (nonSensIdx p.ids p.m).length) :
    (transformRow p x).getD j 0
      = p.alpha * (residRow p.beta (vsub (pick p.ids x) p.mean) (pick (nonSensIdx p.ids p.m) x)).getD j 0
        + (1 - p.alpha) * (pick (nonSensIdx p.ids p.m) x).getD j 0 := by
  have hj' : j < (pick (nonSensIdx p.ids p.m) x).length := by rw [length_pick]; exact hj
  exact getD_blend _ _ _ _ (by rw [length_residRow]; exact hj') hj'

theorem blend_one (f u : List Rat) (h : f.length = u.length) : blend 1 f u = f := by
  apply ext_getD
  · simp [length_blend, h]
  · intro i hi
    rw [length_blend, h, Nat.min_self] at hi
    rw [getD_blend _ _ _ _ (h ▸ hi) hi]; ring

theorem blend_zero (f u : List Rat) (h : f.length = u.length) : blend 0 f u = u := by
  apply ext_getD
  · simp [length_blend, h]
  · intro i hi
    rw [length_blend, h, Nat.min_self] at hi
    rw [getD_blend _ _ _ _ (h ▸ hi) hi]; ring

/-! ### the normal equations -/

theorem isLstsq_iff (Sc Z β : Mat) (ms mz : Nat) :
    isLstsq Sc Z β ms mz = true ↔
      ∀ k, k < ms → ∀ j, j < mz → normalResid Sc (residual Sc Z β) k j = 0 := by
  simp only [isLstsq, List.all_eq_true, List.mem_range, beq_iff_eq]

/-! ### affine combinations of two data rows -/

/-- `t·x + (1−t)·y`, entry by entry.  The same function as the model's `blend`, which combines the two OUTPUT rows of
    `transformRow`; under this name it combines two INPUT rows, so that `C15.transform_affine` can be stated. -/
def lerp (t : Rat) (x y : List Rat) : List Rat := List.zipWith (fun a b => t * a + (1 - t) * b) x y

theorem getD_lerp (t : Rat) (x y : List Rat) (h : x.length = y.length) (c : Nat) :
    (lerp t x y).getD c 0 = t * x.getD c 0 + (1 - t) * y.getD c 0 := by
  rcases Nat.lt_or_ge c x.length with hc | hc
  · exact getD_blend t x y c hc (h ▸ hc)
  · have hy : y.length ≤ c := h ▸ hc
    have hl : (lerp t x y).length ≤ c := by unfold lerp; rw [List.length_zipWith, ← h, Nat.min_self]; exact hc
    simp only [List.getD_eq_getElem?_getD, List.getElem?_eq_none hc, List.getElem?_eq_none hy,
      List.getElem?_eq_none hl, Option.getD_none, mul_zero, add_zero]

end CorrRemover
