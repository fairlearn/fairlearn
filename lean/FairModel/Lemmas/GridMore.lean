/-
Further lemmas about `Model/Grid.lean` (C09): the `while True` loop started from an arbitrary estimate (and
`grid_size ≤ 1`), the grid built at a given radius, the zero vector, the grid offset, the running arg-min,
`allSomeR`, the exact L1 norm on a unit basis, the estimator trained at one grid point, all combined weights zero.
-/
import FairModel.Lemmas.Grid

namespace Grid

/-! ### the search loop started at `n0` -/

/-- The loop started at `n0` stops at `max n0 (least sufficient radius)`. -/
theorem searchFrom_spec {na : List Bool} {f : Bool} (h : 1 ≤ trueDim na f) (gs nl : Nat)
    (hge : gs ≤ (lattice na f nl).length) (hlt : ∀ k < nl, (lattice na f k).length < gs) :
    ∀ (fuel n0 : Nat), nl - n0 + 1 ≤ fuel →
      searchFrom na f gs fuel (n0 : Nat) = some ((max n0 nl : Nat) : Int)
  | 0, n0, hf => absurd hf (Nat.not_succ_le_zero _)
  | fuel + 1, n0, hf => by
    rw [searchFrom, Int.toNat_natCast, srcLattice_eq, enough_def]
    by_cases he : gs ≤ (lattice na f n0).length
    · have : nl ≤ n0 := Nat.le_of_not_lt fun hc => Nat.lt_irrefl _ (Nat.lt_of_le_of_lt he (hlt n0 hc))
      rw [if_pos (decide_eq_true he), Nat.max_eq_left this]
    · have hn : n0 < nl := Nat.lt_of_not_le fun hc => he (le_trans hge (lattice_length_mono h hc))
      rw [if_neg (fun hd => he (of_decide_eq_true hd)), nextUnits_def, searchFrom_spec h gs nl hge hlt fuel (n0 + 1)
          (by rw [Nat.sub_add_eq, Nat.sub_add_cancel (Nat.sub_pos_of_lt hn)]; exact Nat.le_of_succ_le_succ hf),
        Nat.max_eq_right hn.le, Nat.max_eq_right (Nat.succ_le_of_lt hn)]

theorem searchFrom_nUnits {na : List Bool} {f : Bool} (h : 1 ≤ trueDim na f) (gs n0 : Nat) :
    ∃ nl, nUnits na f gs = some nl ∧ gs ≤ (lattice na f nl).length ∧
      searchFrom na f gs (gs + 2) (n0 : Nat) = some ((max n0 nl : Nat) : Int) := by
  obtain ⟨nl, hn, hle, hge, hlt⟩ := nUnits_spec h gs
  exact ⟨nl, hn, hge, searchFrom_spec h gs nl hge hlt (gs + 2) n0
    (Nat.succ_le_succ ((Nat.sub_le nl n0).trans (hle.trans (Nat.le_succ gs))))⟩

/-- "the estimate does not overshoot" (the lifted predicate, evaluated by the driver on the float estimate
    of every generated case) implies `n0 ≤` the least sufficient radius. -/
theorem noOvershoot_le_least (na : List Bool) (f : Bool) (gs n0 nl : Nat) (hd : 1 ≤ trueDim na f)
    (hno : GridSrc.noOvershoot gs (negCount na) (trueDim na f) n0 = true)
    (hge : gs ≤ (lattice na f nl).length) : n0 ≤ nl := by
  simp only [GridSrc.noOvershoot, Bool.or_eq_true, decide_eq_true_eq, GridSrc.estBase, GridSrc.estSub] at hno
  rcases hno with h0 | hle
  · exact h0 ▸ Nat.zero_le _
  · -- if `nl < n0` then `2^k (nl+1)^d < 2^k (n0+1)^d ≤ gs ≤ |lattice nl|`, against `lattice_length_le_cube`
    by_contra hc
    have h2 : (nl + 1) ^ trueDim na f < (n0 + 1) ^ trueDim na f :=
      Nat.pow_lt_pow_left (by omega) (by omega)
    exact absurd (le_trans (of_decide_eq_true hle) (le_trans hge (lattice_length_le_cube na f nl)))
      (Nat.not_le_of_gt (Nat.mul_lt_mul_of_pos_left h2 (Nat.pow_pos (by decide))))

/-- `grid_size ≤ 1`: one point is enough, the search finds radius 0 (and `float(grid_limit) / n_units` raises) -/
theorem nUnits_of_le_one (na : List Bool) (f : Bool) (gs : Nat) (h : gs ≤ 1) : nUnits na f gs = some 0 := by
  rw [nUnits_def, List.find?_range_eq_some]
  exact ⟨decide_eq_true (le_trans h (lattice_length_pos na f 0)), List.mem_range.mpr (Nat.succ_pos gs),
    fun j hj => absurd hj (Nat.not_lt_zero j)⟩

/-! ### the grid built at an arbitrary radius -/

/-- the multiplier vectors built from the first `gs` lattice points of radius `n` -/
def gridAt (na : List Bool) (f : Bool) (gs : Nat) (limit : Rat) (rows : List (List Rat × List Rat))
    (n : Nat) : List (List Rat) :=
  ((lattice na f n).take gs).map (fun v => lambdaOf rows (scaleCoefs limit n v))

theorem grid_ok {na : List Bool} {f : Bool} {gs : Nat} {limit : Rat} {rows : List (List Rat × List Rat)}
    {n : Nat} {g : List (List Rat)} (hg : grid na f gs limit rows = .ok (n, g)) :
    nUnits na f gs = some n ∧ 1 ≤ n ∧ g = gridAt na f gs limit rows n := by
  rw [grid_def] at hg
  split at hg
  · cases hg
  · cases hg
  · next k hk => cases hg; exact ⟨hk, Nat.succ_pos k, rfl⟩

theorem gridFrom_of_search {na : List Bool} {f : Bool} {gs : Nat} {n0 n : Nat}
    (hs : searchFrom na f gs (gs + 2) (n0 : Nat) = some (n : Int)) (limit : Rat)
    (rows : List (List Rat × List Rat)) :
    gridFrom na f gs limit rows n0 =
      if n = 0 then .error .zeroDiv else .ok (n, gridAt na f gs limit rows n) := by
  simp only [gridFrom, gridAt, srcLattice_eq, truncate_def, hs, Int.toNat_natCast, Int.natCast_nonpos_iff]

theorem mem_gridAt {na : List Bool} {f : Bool} {gs : Nat} {limit : Rat} {rows : List (List Rat × List Rat)}
    {n : Nat} {lam : List Rat} (h : lam ∈ gridAt na f gs limit rows n) :
    ∃ v ∈ lattice na f n, lam = lambdaOf rows (scaleCoefs limit n v) := by
  obtain ⟨v, hv, rfl⟩ := List.mem_map.mp h
  exact ⟨v, List.mem_of_mem_take hv, rfl⟩

theorem gridAt_length (na : List Bool) (f : Bool) (gs : Nat) (limit : Rat) (rows : List (List Rat × List Rat))
    (n : Nat) : (gridAt na f gs limit rows n).length = min gs (lattice na f n).length := by
  rw [gridAt, List.length_map, List.length_take]

theorem gridAt_nonneg (na : List Bool) (f : Bool) (gs : Nat) (limit : Rat)
    (rows : List (List Rat × List Rat)) (n : Nat) (hb : basisOK na.length rows = true) :
    ∀ lam ∈ gridAt na f gs limit rows n, ∀ x ∈ lam, 0 ≤ x := by
  intro lam hl
  obtain ⟨v, _, rfl⟩ := mem_gridAt hl
  exact lambdaOf_nonneg rows _ fun r hr => ((basisOK_spec hb).1 r hr).2.2

theorem sum_abs_of_nonneg (l : List Rat) (h : ∀ x ∈ l, 0 ≤ x) : (l.map (fun x => |x|)).sum = l.sum := by
  rw [List.map_congr_left (fun x hx => abs_of_nonneg (h x hx)), List.map_id']

theorem gridAt_l1 (na : List Bool) (f : Bool) (gs : Nat) (limit : Rat) (hlim : 0 ≤ limit)
    (rows : List (List Rat × List Rat)) (n : Nat) (hn : 1 ≤ n) (hb : basisOK na.length rows = true) :
    ∀ lam ∈ gridAt na f gs limit rows n, (lam.map (fun x => |x|)).sum ≤ limit := by
  intro lam hl
  rw [sum_abs_of_nonneg lam (gridAt_nonneg na f gs limit rows n hb lam hl)]
  obtain ⟨v, hv, rfl⟩ := mem_gridAt hl
  have hl1 : (l1 v : Rat) ≤ n := Nat.cast_le.mpr (l1_le_of_mem_lattice hv)
  rw [mem_lattice] at hv
  have hnpos : (0 : Rat) < n := by exact_mod_cast hn
  have hs : 0 ≤ limit / (n : Rat) := div_nonneg hlim hnpos.le
  calc (lambdaOf rows (scaleCoefs limit n v)).sum
      ≤ (l1 v : Rat) * (limit / n) :=
        scale_parts_sum limit n hs v ▸ lambdaOf_sum_le hb _ ((scaleCoefs_length ..).trans hv.1.length_eq)
    _ ≤ (n : Rat) * (limit / n) := mul_le_mul_of_nonneg_right hl1 hs
    _ = limit := mul_div_cancel₀ _ hnpos.ne'

theorem gridAt_nodup (na : List Bool) (f : Bool) (gs : Nat) (limit : Rat) (hlim : 0 < limit)
    (rows : List (List Rat × List Rat)) (n : Nat) (hn : 1 ≤ n) (hu : unitBasis na rows = true) :
    (gridAt na f gs limit rows n).Nodup := by
  have hs : (0 : Rat) < limit / (n : Rat) := div_pos hlim (by exact_mod_cast hn)
  refine List.Nodup.map_on ?_ ((List.take_sublist _ _).nodup (lattice_nodup na f n))
  intro v hv v' hv' heq
  have h1 := (mem_lattice na f n v).mp (List.mem_of_mem_take hv)
  have h2 := (mem_lattice na f n v').mp (List.mem_of_mem_take hv')
  exact lambdaOf_inj hu limit n hs v v' h1.1 h2.1 heq

/-! ### the zero vector -/

theorem signOK_zero : ∀ (bs : List Bool), SignOK bs (List.replicate bs.length 0)
  | [] => trivial
  | _ :: bs => ⟨fun _ => le_refl _, signOK_zero bs⟩

theorem l1_zero (d : Nat) : l1 (List.replicate d 0) = 0 := by
  induction d with
  | zero => rfl
  | succ d ih => rw [List.replicate_succ, l1_cons, ih]; rfl

theorem dot_zeros_right (a : List Rat) (d : Nat) : dot a (List.replicate d 0) = 0 := by
  induction a generalizing d with
  | nil => simp
  | cons x a ih =>
    cases d with
    | zero => simp
    | succ d => simp [List.replicate_succ, ih]

/-! ### the offset -/

theorem zipWith_add_inj : ∀ (a b off : List Rat), a.length = off.length → b.length = off.length →
    List.zipWith GridSrc.withOffset a off = List.zipWith GridSrc.withOffset b off → a = b
  | [], [], _, _, _, _ => rfl
  | [], _ :: _, off, h1, h2, _ => by rw [← h1] at h2; cases h2
  | _ :: _, [], off, h1, h2, _ => by rw [← h2] at h1; cases h1
  | x :: a, y :: b, [], h1, _, _ => by cases h1
  | x :: a, y :: b, o :: off, h1, h2, h => by
    simp only [List.zipWith_cons_cons, List.cons.injEq, GridSrc.withOffset] at h
    rw [add_right_cancel h.1,
      zipWith_add_inj a b off (Nat.succ.inj h1) (Nat.succ.inj h2) h.2]

theorem addOffset_nodup (off : List Rat) (g : List (List Rat)) (hl : ∀ lam ∈ g, lam.length = off.length)
    (hg : g.Nodup) : (addOffset off g).Nodup := by
  unfold addOffset
  refine List.Nodup.map_on ?_ hg
  intro a ha b hb h
  exact zipWith_add_inj a b off (hl a ha) (hl b hb) h

theorem zipWith_withOffset_default : ∀ (lam : List Rat),
    List.zipWith GridSrc.withOffset lam (List.replicate lam.length GridSrc.defaultOffset) = lam
  | [] => rfl
  | x :: l => by
    have ih := zipWith_withOffset_default l
    simp only [List.length_cons, List.replicate_succ, List.zipWith_cons_cons, ih, List.cons.injEq, and_true]
    simp [GridSrc.withOffset, GridSrc.defaultOffset]

/-! ### running arg-min -/

theorem runningArgmin_fold : ∀ (xs : List Rat) (b : Rat) (bi pos : Nat),
    (xs.foldl (fun (st : Rat × Nat × Nat) y =>
      if y < st.1 then (y, st.2.2, st.2.2 + 1) else (st.1, st.2.1, st.2.2 + 1)) (b, bi, pos)).2.1
      = if minL b xs < b then pos + xs.idxOf (minL b xs) else bi
  | [], b, bi, pos => (if_neg (lt_irrefl b)).symm
  | y :: ys, b, bi, pos => by
    rw [List.foldl_cons, minL]
    by_cases hy : y < b
    · rw [if_pos hy, if_pos hy, runningArgmin_fold ys y pos (pos + 1),
        if_pos (lt_of_le_of_lt (minL_le_init y ys) hy)]
      by_cases hlt : minL y ys < y
      · rw [if_pos hlt, List.idxOf_cons_ne _ (ne_of_gt hlt), Nat.add_assoc, Nat.add_comm 1]
      · rw [if_neg hlt, le_antisymm (minL_le_init y ys) (not_lt.mp hlt), List.idxOf_cons_self, Nat.add_zero]
    · rw [if_neg hy, if_neg hy, runningArgmin_fold ys b bi (pos + 1)]
      by_cases hlt : minL b ys < b
      · rw [if_pos hlt, if_pos hlt, List.idxOf_cons_ne _ (fun he : y = minL b ys => hy (he ▸ hlt)), Nat.add_assoc, Nat.add_comm 1]
      · rw [if_neg hlt, if_neg hlt]

theorem mem_take_iff_idxOf_lt {α : Type} [DecidableEq α] : ∀ (l : List α) (a : α) (k : Nat), a ∈ l →
    (a ∈ l.take k ↔ l.idxOf a < k) :=
  fun _ _ _ h => List.mem_take_iff_idxOf_lt h

/-! ### `allSomeR`: the records of `Grid.select` -/

theorem allSomeR_spec : ∀ (l : List (Option Rat)) (r : List Rat), allSomeR l = some r →
    l = r.map some
  | [], r, h => by simp [allSomeR] at h; simp [← h]
  | none :: _, r, h => by simp [allSomeR] at h
  | some a :: l, r, h => by
    simp only [allSomeR, Option.map_eq_some_iff] at h
    obtain ⟨r', hr', rfl⟩ := h
    simp [allSomeR_spec l r' hr']

theorem allSomeR_eq_none : ∀ (l : List (Option Rat)), allSomeR l = none → none ∈ l
  | [], h => by cases h
  | none :: _, _ => List.mem_cons_self
  | some _ :: l, h => List.mem_cons_of_mem _ (allSomeR_eq_none l (Option.map_eq_none_iff.mp h))

/-! ### exact L1 norm on a unit basis -/

theorem getD_vadd (a b : List Rat) (j : Nat) (ha : j < a.length) (hb : j < b.length) :
    (vadd a b).getD j 0 = a.getD j 0 + b.getD j 0 := by
  simp [vadd, List.getD_eq_getElem?_getD, ha, hb]

theorem getD_zeroVec (d j : Nat) : (zeroVec d).getD j 0 = 0 := by
  rw [zeroVec, List.getD_eq_getElem?_getD, List.getElem?_replicate]
  split <;> rfl

theorem getD_nonneg (r : List Rat) (h : ∀ x ∈ r, 0 ≤ x) (j : Nat) : 0 ≤ r.getD j 0 := by
  rw [List.getD_eq_getElem?_getD]
  cases hj : r[j]? with
  | none => exact le_refl _
  | some x => exact h x (List.mem_of_getElem? hj)

theorem getD_colSums (d j : Nat) (hj : j < d) : ∀ (rows : List (List Rat)), (∀ r ∈ rows, r.length = d) →
    (colSums d rows).getD j 0 = (rows.map (·.getD j 0)).sum
  | [], _ => getD_zeroVec d j
  | r :: rows, hl => by
    rw [List.forall_mem_cons] at hl
    rw [colSums_cons, getD_vadd _ _ j (hl.1.symm ▸ hj) ((colSums_length d rows hl.2).symm ▸ hj),
      getD_colSums d j hj rows hl.2, List.map_cons, List.sum_cons]

/-- a column sum of rows with non-negative entries is at least each row's entry -/
theorem colSums_ge_entry (d j : Nat) (hj : j < d) (rows : List (List Rat))
    (hl : ∀ r ∈ rows, r.length = d) (hn : ∀ r ∈ rows, ∀ x ∈ r, 0 ≤ x) :
    ∀ r ∈ rows, r.getD j 0 ≤ (colSums d rows).getD j 0 := by
  intro r hr
  rw [getD_colSums d j hj rows hl]
  exact List.single_le_sum (List.forall_mem_map.mpr fun r hr => getD_nonneg r (hn r hr) j) _
    (List.mem_map_of_mem hr)

theorem getD_unitVec_self (d j : Nat) (hj : j < d) : (unitVec d j).getD j 0 = 1 := by
  simp [unitVec, List.getD_eq_getElem?_getD, hj]

theorem colSums_eq_one {d j : Nat} (hj : j < d) (M : List (List Rat)) (hl : ∀ r ∈ M, r.length = d)
    (hn : ∀ r ∈ M, ∀ x ∈ r, 0 ≤ x) (hle : ∀ x ∈ colSums d M, x ≤ 1) (hu : unitVec d j ∈ M) :
    (colSums d M).getD j 0 = 1 := by
  refine le_antisymm (hle _ ?_) (getD_unitVec_self d j hj ▸ colSums_ge_entry d j hj M hl hn _ hu)
  rw [List.getD_eq_getElem?_getD, List.getElem?_eq_getElem ((colSums_length d M hl).symm ▸ hj)]
  exact List.getElem_mem _

/-- `dot c P = P.sum` when every coefficient is 1 wherever `P` is non-zero -/
theorem dot_eq_sum_of_one : ∀ (c P : List Rat), c.length = P.length →
    (∀ j < P.length, c.getD j 0 = 1 ∨ P.getD j 0 = 0) → dot c P = P.sum
  | [], [], _, _ => dot_nil_left []
  | [], _ :: _, h, _ => by cases h
  | _ :: _, [], h, _ => by cases h
  | x :: c, y :: P, hl, h => by
    rw [dot_cons, List.sum_cons, dot_eq_sum_of_one c P (Nat.succ.inj hl) fun j hj => h (j + 1) (Nat.succ_lt_succ hj)]
    rcases h 0 (Nat.succ_pos _) with h0 | h0
    · rw [show x = 1 from h0, one_mul]
    · rw [show y = 0 from h0, mul_zero]

/-- With a unit basis whose columns sum to at most 1 the L1 norm of the multiplier vector is EXACTLY the
    scaled L1 norm of the lattice point. -/
theorem lambdaOf_sum_eq {na : List Bool} {rows : List (List Rat × List Rat)}
    (hu : unitBasis na rows = true) (hb : basisOK na.length rows = true)
    (limit : Rat) (n : Nat) (hs : 0 < limit / (n : Rat)) (v : List Int) (hv : SignOK na v) :
    (lambdaOf rows (scaleCoefs limit n v)).sum = (l1 v : Rat) * (limit / (n : Rat)) := by
  obtain ⟨hr, hp1, hn1⟩ := basisOK_spec hb
  have hcl : (scaleCoefs limit n v).length = na.length := (scaleCoefs_length ..).trans hv.length_eq
  have hP : ∀ g : Rat → Rat, ((scaleCoefs limit n v).map g).length = na.length :=
    fun g => (List.length_map g).trans hcl
  have hl1 : ∀ r ∈ rows.map (·.1), r.length = na.length := List.forall_mem_map.mpr fun r h => (hr r h).1
  have hl2 : ∀ r ∈ rows.map (·.2), r.length = na.length := List.forall_mem_map.mpr fun r h => (hr r h).2.1
  rw [lambdaOf_sum_dots hb _ hcl,
    dot_eq_sum_of_one _ _ ((colSums_length _ _ hl1).trans (hP _).symm) fun j hj => ?_,
    dot_eq_sum_of_one _ _ ((colSums_length _ _ hl2).trans (hP _).symm) fun j hj => ?_]
  · exact scale_parts_sum limit n hs.le v
  · rw [hP] at hj
    cases hbj : na.getD j false with
    | true =>
      obtain ⟨r, hr', h2, _⟩ := (unitBasis_spec hu j hj).2 hbj
      exact Or.inl (colSums_eq_one hj _ hl2 (List.forall_mem_map.mpr fun r h => (hr r h).2.2.2) hn1
        (h2 ▸ List.mem_map_of_mem hr'))
    | false =>
      rw [getD_scale_part _ _ _ _ _ (hv.length_eq ▸ hj)]
      exact Or.inr (negPart_of_nonneg (mul_nonneg (Int.cast_nonneg (hv.nonneg_of j _ hbj)) hs.le))
  · rw [hP] at hj
    obtain ⟨r, hr', h1, _⟩ := (unitBasis_spec hu j hj).1
    exact Or.inl (colSums_eq_one hj _ hl1 (List.forall_mem_map.mpr fun r h => (hr r h).2.2.1) hp1
      (h1 ▸ List.mem_map_of_mem hr'))

/-! ### the estimator trained at one grid point -/

theorem eraseDups_length_one {l : List Nat} (h : l.eraseDups.length = 1) : ∀ x ∈ l, x = l.headD 0 := by
  cases l with
  | nil => simp at h
  | cons a as =>
    rw [List.eraseDups_cons] at h
    simp only [List.length_cons, Nat.add_eq_right, List.length_eq_zero_iff] at h
    have hf : as.filter (fun b => !b == a) = [] := by
      cases hfl : as.filter (fun b => !b == a) with
      | nil => rfl
      | cons b bs => rw [hfl, List.eraseDups_cons] at h; simp at h
    intro x hx
    simp only [List.headD_cons]
    rcases List.mem_cons.mp hx with rfl | hx
    · rfl
    · by_contra hne
      have : x ∈ as.filter (fun b => !b == a) := by
        simp [List.mem_filter, hx, hne]
      rw [hf] at this; simp at this

theorem weighted01_nonneg : ∀ (data : List (Nat × Rat)) (h : List Nat), (∀ p ∈ data, 0 ≤ p.2) →
    0 ≤ weighted01 data h
  | [], _, _ => by simp [weighted01]
  | _ :: _, [], _ => by simp [weighted01]
  | (y, w) :: data, a :: h, hw => by
    rw [List.forall_mem_cons] at hw
    rw [weighted01]
    refine add_nonneg ?_ (weighted01_nonneg data h hw.2)
    split
    · exact le_refl _
    · exact hw.1

theorem weighted01_map_eq_zero (g : Nat × Rat → Nat) : ∀ (data : List (Nat × Rat)), (∀ p ∈ data, g p = p.1) →
    weighted01 data (data.map g) = 0
  | [], _ => by simp [weighted01]
  | (y, w) :: data, hg => by
    rw [List.forall_mem_cons] at hg
    rw [List.map_cons, weighted01, if_pos hg.1, zero_add]
    exact weighted01_map_eq_zero g data hg.2

theorem relabel_weights_nonneg (w : List Rat) : ∀ p ∈ relabel w, 0 ≤ p.2 := by
  rw [relabel_def]
  refine List.forall_mem_map.mpr fun x _ => ?_
  simp only
  split
  · exact neg_nonneg.mpr (le_of_lt ‹_›)
  · exact not_lt.mp ‹_›

/-- The estimator trained at a grid point (constant DummyClassifier on single-label data, else an exact
    cost-sensitive learner over the class `H`) minimises the weighted 0/1 error over `H`. -/
theorem trainAt_minimises (learner : List (Nat × Rat) → List Nat) (H : List Nat → Prop) (w : List Rat)
    (hex : ∀ h' , H h' → weighted01 (relabel w) (learner (relabel w)) ≤ weighted01 (relabel w) h') :
    ∀ h', H h' → weighted01 (relabel w) (trainAt learner (relabel w)) ≤ weighted01 (relabel w) h' := by
  intro h' hh'
  unfold trainAt
  split
  · next hd =>
    simp only [GridSrc.useDummy, nUnique] at hd
    have hone : ((relabel w).map (·.1)).eraseDups.length = 1 := by
      have := of_decide_eq_true hd
      exact_mod_cast this
    have hall := eraseDups_length_one hone
    rw [weighted01_map_eq_zero _ (relabel w) fun p hp => (hall p.1 (List.mem_map_of_mem hp)).symm]
    exact weighted01_nonneg _ _ (relabel_weights_nonneg w)
  · exact hex h' hh'

theorem relabel_length (w : List Rat) : (relabel w).length = w.length := by simp [relabel_def]

theorem relabel_labels_binary (w : List Rat) : ∀ p ∈ relabel w, p.1 = 0 ∨ p.1 = 1 := by
  intro p hp
  rw [relabel_def] at hp
  obtain ⟨x, _, rfl⟩ := List.mem_map.mp hp
  simp only
  split <;> simp

/-- shape of the trained labeling: one 0/1 label per row (given that the base learner returns such labelings) -/
theorem trainAt_shape (learner : List (Nat × Rat) → List Nat) (w : List Rat)
    (hs : (learner (relabel w)).length = w.length ∧ ∀ x ∈ learner (relabel w), x = 0 ∨ x = 1) :
    (trainAt learner (relabel w)).length = w.length ∧ ∀ x ∈ trainAt learner (relabel w), x = 0 ∨ x = 1 := by
  unfold trainAt
  split
  · refine ⟨by simp [relabel_length], fun x hx => ?_⟩
    obtain ⟨p, hp, rfl⟩ := List.mem_map.mp hx
    cases hrw : relabel w with
    | nil => rw [hrw] at hp; cases hp
    | cons q qs => exact relabel_labels_binary w q (hrw ▸ List.mem_cons_self)
  · exact hs

/-! ### all combined weights zero -/

theorem relabel_zeros (k : Nat) : relabel (List.replicate k 0) = List.replicate k (0, 0) := by
  rw [relabel_def, List.map_replicate, if_neg (lt_irrefl 0), if_neg (lt_irrefl 0)]

theorem eraseDups_replicate_succ (n : Nat) (a : Nat) : (List.replicate (n + 1) a).eraseDups = [a] := by
  rw [List.replicate_succ, List.eraseDups_cons]
  have : (List.replicate n a).filter (fun b => !b == a) = [] := by
    rw [List.filter_eq_nil_iff]
    intro b hb
    rw [List.mem_replicate] at hb
    simp [hb.2]
  rw [this]; simp

end Grid
