import FairModel.Lemmas.Prelude

/-! A sample-weighted mean of a per-row quantity over a partitioned list lies between the
smallest and the largest of the group means that are defined.  Weights are non-negative; a group of
total weight 0 has the mean 0/0 and is skipped.  `num` / `den` / `den_pos` are also what the weight lemmas of
C03, C11 and C14 are stated with. -/

namespace WeightedMean

variable {α κ : Type}

def num (q w : α → Rat) (l : List α) : Rat := (l.map (fun a => q a * w a)).sum
def den (w : α → Rat) (l : List α) : Rat := (l.map w).sum

@[simp] theorem num_nil (q w : α → Rat) : num q w [] = 0 := rfl
@[simp] theorem den_nil (w : α → Rat) : den w [] = 0 := rfl

theorem num_append (q w : α → Rat) (a b : List α) : num q w (a ++ b) = num q w a + num q w b := by
  simp only [num, List.map_append, List.sum_append]

theorem den_append (w : α → Rat) (a b : List α) : den w (a ++ b) = den w a + den w b := by
  simp only [den, List.map_append, List.sum_append]

theorem num_perm (q w : α → Rat) {a b : List α} (h : a.Perm b) : num q w a = num q w b :=
  (h.map _).sum_eq

theorem den_perm (w : α → Rat) {a b : List α} (h : a.Perm b) : den w a = den w b :=
  (h.map _).sum_eq

theorem den_nonneg (w : α → Rat) (l : List α) (hw : ∀ a ∈ l, 0 ≤ w a) : 0 ≤ den w l :=
  List.sum_nonneg (List.forall_mem_map.mpr hw)

theorem den_pos (w : α → Rat) (l : List α) (hw : ∀ a ∈ l, 0 < w a) (hne : l ≠ []) : 0 < den w l := by
  cases l with
  | nil => exact absurd rfl hne
  | cons a l =>
    exact add_pos_of_pos_of_nonneg (hw a List.mem_cons_self)
      (den_nonneg w l fun x hx => (hw x (List.mem_cons_of_mem _ hx)).le)

/-- non-negative weights summing to 0 are all 0, so the weighted sum vanishes as well (0/0) -/
theorem num_eq_zero_of_den_zero (q w : α → Rat) (l : List α) (hw : ∀ a ∈ l, 0 ≤ w a)
    (hd : den w l = 0) : num q w l = 0 := by
  induction l with
  | nil => rfl
  | cons a l ih =>
    obtain ⟨ha, hl⟩ := List.forall_mem_cons.mp hw
    obtain ⟨h1, h2⟩ := (add_eq_zero_iff_of_nonneg ha (den_nonneg w l hl)).mp hd
    exact (congrArg₂ (· + ·) (mul_eq_zero_of_right (q a) h1) (ih hl h2)).trans (add_zero 0)

/-- If every group mean that is defined (total weight ≠ 0) lies in `[m, M]`, so does the mean of the whole
    (`l`, the groups concatenated in any order), provided it is defined. -/
theorem mean_between (q w : α → Rat) (ks : List κ) (g : κ → List α)
    (hw : ∀ k ∈ ks, ∀ a ∈ g k, 0 ≤ w a) (m M : Rat)
    (hb : ∀ k ∈ ks, den w (g k) ≠ 0 →
      m ≤ num q w (g k) / den w (g k) ∧ num q w (g k) / den w (g k) ≤ M)
    {l : List α} (hp : (ks.flatMap g).Perm l) (hne : den w l ≠ 0) :
    m ≤ num q w l / den w l ∧ num q w l / den w l ≤ M := by
  rw [← den_perm w hp] at hne
  rw [← num_perm q w hp, ← den_perm w hp]
  have hd : 0 < den w (ks.flatMap g) :=
    lt_of_le_of_ne (den_nonneg w _ fun a ha =>
      let ⟨k, hk, hak⟩ := List.mem_flatMap.mp ha
      hw k hk a hak) (Ne.symm hne)
  rw [le_div_iff₀ hd, div_le_iff₀ hd]
  -- cleared of denominators, the bounds on the group means add up over the groups
  clear hd hne hp
  induction ks with
  | nil => exact ⟨(mul_zero m).le, (mul_zero M).ge⟩
  | cons k ks ih =>
    obtain ⟨hwk, hws⟩ := List.forall_mem_cons.mp hw
    obtain ⟨hbk, hbs⟩ := List.forall_mem_cons.mp hb
    have hk : m * den w (g k) ≤ num q w (g k) ∧ num q w (g k) ≤ M * den w (g k) := by
      by_cases he : den w (g k) = 0
      · rw [he, num_eq_zero_of_den_zero q w (g k) hwk he, mul_zero, mul_zero]
        exact ⟨le_rfl, le_rfl⟩
      · have hd : 0 < den w (g k) := lt_of_le_of_ne (den_nonneg w (g k) hwk) (Ne.symm he)
        rw [← le_div_iff₀ hd, ← div_le_iff₀ hd]
        exact hbk he
    rw [List.flatMap_cons, num_append, den_append, mul_add, mul_add]
    exact ⟨add_le_add hk.1 (ih hws hbs).1, add_le_add hk.2 (ih hws hbs).2⟩

end WeightedMean
