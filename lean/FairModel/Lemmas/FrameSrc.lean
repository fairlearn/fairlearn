/-
The generated translation of `DisaggregatedResult._apply_functions` (`Generated/FrameSrc.lean`) is the
hand-written model `Frame.applyFunctions` for the key "values of the named columns"
(`apply_functions_eq_model`), and for the column names `MetricFrame.__init__` passes that key is `cf ++ sf`
resp. `cf` (`colVal_names`, `colVal_cnames`).  `Properties/C01.lean` (`src_*_eq_model`) puts the two together.
-/
import FairModel.Lemmas.Frame
import FairModel.Generated.FrameSrc

namespace FrameSrc
open Frame FramePrims

variable {α β : Type}

theorem map_range_getD (l : List Level) : (List.range l.length).map (fun i => l.getD i "") = l := by
  refine List.ext_getElem (by rw [List.length_map, List.length_range]) fun i h1 h2 => ?_
  simp only [List.getD_eq_getElem?_getD, List.getElem_map, List.getElem_range, h2, getElem?_pos, Option.getD_some]

/-- `cfNames` is an `Option` (`None` without control features); the name lists below are spelt with its content -/
theorem cfNames_getD (ncf : Nat) : (cfNames ncf).getD [] = (List.range ncf).map Col.cf := by
  unfold cfNames
  split
  · next h => subst h; rfl
  · rfl

/-- the key built from the named columns is `cf ++ sf` on well-formed rows -/
theorem colVal_names (ncf nsf : Nat) (r : Row α) (hcf : r.cf.length = ncf) (hsf : r.sf.length = nsf) :
    ((List.range ncf).map Col.cf ++ sfNames nsf).map (colVal r) = r.cf ++ r.sf := by
  subst hcf hsf
  simp only [sfNames, List.map_append, List.map_map]
  exact congrArg₂ _ (map_range_getD r.cf) (map_range_getD r.sf)

theorem colVal_cnames (ncf : Nat) (r : Row α) (hcf : r.cf.length = ncf) :
    ((List.range ncf).map Col.cf).map (colVal r) = r.cf := by
  subst hcf
  rw [List.map_map]
  exact map_range_getD r.cf

theorem keyHasNa_names (ncf nsf : Nat) (r : Row α) (hcf : r.cf.length = ncf) (hsf : r.sf.length = nsf)
    (h : naLevel ∉ r.cf ∧ naLevel ∉ r.sf) :
    keyHasNa (((List.range ncf).map Col.cf ++ sfNames nsf).map (colVal r)) = false := by
  rw [colVal_names ncf nsf r hcf hsf]
  simp only [keyHasNa, List.contains_eq_mem, List.mem_append, decide_eq_false_iff_not]
  exact fun h' => h'.elim h.1 h.2

/-- **`groupby(dropna=...)` is irrelevant without missing values**: whatever the flag, rows without a missing feature
    value are grouped as by the plain `groupbyApply` -/
theorem groupbyApplyNa_noMissing (dropna : Bool) (rows : List (Row α)) (names : List Col) (f : List α → β)
    (h : ∀ r ∈ rows, keyHasNa (names.map (colVal r)) = false) :
    groupbyApplyNa dropna rows names f = groupbyApply rows names f := by
  unfold groupbyApplyNa
  cases dropna
  · rfl
  · rw [if_pos rfl, List.filter_eq_self.mpr fun r hr => by rw [h r hr]; rfl]

theorem levels_names (rows : List (Row α)) (names : List Col) :
    names.map (fun c => npUnique (column rows c)) = levels (fun r => names.map (colVal r)) names.length rows := by
  refine List.ext_getElem (by rw [List.length_map, levels_length]) fun i h1 _ => ?_
  rw [List.length_map] at h1
  -- entry `i` on both sides: the sorted distinct values of column `names[i]`
  simp only [npUnique, column, List.getElem_map, levels, col, List.getD_eq_getElem?_getD, List.map_map,
    Function.comp_def, List.getElem?_map, List.getElem_range, h1, getElem?_pos, Option.map_some, Option.getD_some]

/-- the translated `_apply_functions` is the model's, for the key "values of the named columns" (on rows without a
    missing value in these columns) -/
theorem apply_functions_eq_model (nanv : β) (rows : List (Row α)) (f : List α → β) (names : List Col)
    (hk : ∀ r ∈ rows, keyHasNa (names.map (colVal r)) = false) :
    apply_functions nanv rows f (some names) =
      applyFunctions nanv (fun r => names.map (colVal r)) names.length f rows := by
  -- the two `if`s line up; `groupbyApply` is `grouped`; the product of the `npUnique` columns is that of `levels`
  simp only [apply_functions, applyFunctions, Option.isNone_some, Bool.false_or, Option.getD_some, beq_iff_eq,
    decide_eq_true_eq, groupbyApplyNa_noMissing _ rows names f hk, groupbyApply, ungrouped, fromProduct, levels_names]

end FrameSrc
