/-
Cross-property lemmas: ErrorRateParity ↔ `accuracy_score` / `zero_one_loss`.

The utilities of `ErrorRateParity` are `[y, 1 − y]`, so the `pred` vector inside `UtilityParity.gamma` is
`(1 − 2y)·h + y`: for a hard predictor and 0/1 labels the 0/1 ERROR INDICATOR of each row.  On the frame a user
builds from the selected rows (`Cross.selDat`, unit weights) the first-principles `zero_one_loss` of C03
(`zeroOneSpec`) is therefore the moments-side mean of that vector, and `accuracy_score` is one minus it.
-/
import FairModel.Lemmas.CrossFrame

namespace Cross
open Moments Fairness Frame MetricPool XR

/-- for a 0/1 label and a 0/1 prediction the ErrorRateParity `pred` entry `(1 − 2y)·p + y` is the error indicator
    (a table of four cases) -/
theorem ind_err (r : Moments.Row) {p : Rat} (hy : r.y = 0 ∨ r.y = 1) (hp : p = 0 ∨ p = 1) :
    ind (!(((r.y : Rat)) == p)) = MomentsSrc.predOf (erpUtil.ud r) p (erpUtil.u0 r) := by
  have e : MomentsSrc.predOf (erpUtil.ud r) p (erpUtil.u0 r) = (1 - (r.y : Rat) - (r.y : Rat)) * p + (r.y : Rat) := rfl
  rw [e]
  rcases hy with h0 | h0 <;> rcases hp with rfl | rfl <;> rw [h0] <;> decide +kernel

/-- the error indicator, summed over the selected rows -/
theorem sum_ind_err (P : Moments.Row → Bool) (rows : List Moments.Row) (h : List Rat)
    (hy : ∀ r ∈ rows, r.y = 0 ∨ r.y = 1) (hh : Hard h) :
    (List.zipWith (fun (r : Moments.Row) (p : Rat) => ind (P r && !(((r.y : Rat)) == p))) rows h).sum
      = dot (rows.map (fun r => ind (P r))) (predOf erpUtil rows h) := by
  unfold predOf
  rw [dot_map_zipWith_eq_sum]
  congr 1
  apply zipWith_congr_mem
  intro r hr p hp
  rw [← ind_mul, ind_err r (hy r hr) (hh p hp)]

/-- `zero_one_loss` (hard predictions, 0/1 labels) of the selected rows = the moments-side mean of the
    ErrorRateParity utility -/
theorem zeroOneSpec_selDat (P : Moments.Row → Bool) (rows : List Moments.Row) (h : List Rat)
    (hl : h.length = rows.length) (hy : ∀ r ∈ rows, r.y = 0 ∨ r.y = 1) (hh : Hard h) :
    zeroOneSpec (selDat P rows h) = meanOn P rows (predOf erpUtil rows h) := by
  unfold zeroOneSpec meanOn
  rw [wsum_selDat, wsum_selDat]
  simp only [Bool.and_true, datOf]
  rw [sum_ind_count P rows h hl, sum_ind_err P rows h hy hh]

/-- `accuracy_score = 1 − zero_one_loss` on every non-empty selection -/
theorem accuracy_eq_one_sub_zeroOne_selDat (P : Moments.Row → Bool) (rows : List Moments.Row) (h : List Rat)
    (hl : h.length = rows.length) (hne : rows.filter P ≠ []) :
    accuracySpec (selDat P rows h) = 1 - zeroOneSpec (selDat P rows h) := by
  have hs := wsum_split (fun _ => true) (fun d => d.y == d.pred) (selDat P rows h)
  simp only [Bool.true_and] at hs
  have hpos : Fairness.wsum (fun _ => true) (selDat P rows h) ≠ 0 := by
    rw [wsum_selDat]
    simp only [Bool.and_true]
    rw [sum_ind_count P rows h hl]
    have := List.length_pos_of_ne_nil hne
    exact_mod_cast this.ne'
  unfold accuracySpec zeroOneSpec
  rw [eq_sub_iff_add_eq, ← add_div, ← hs, div_self hpos]

/-- the ErrorRateParity event rule IS the DemographicParity event rule (one event per control stratum) -/
theorem eventOf_erp_eq_dp : eventOf .erp = eventOf .dp := by
  funext r; rfl

end Cross
