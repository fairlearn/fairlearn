/-
Fit → predict: the pmf that `InterpolatedThresholder._pmf_predict` (model `Pmf.thrPositive`, over the expressions lifted from
the source) computes from the `interpolation_dict` stored by the fit is, on every row of group `j`, the `ruleProb` of the
fitted rule `j` that the parity / optimality theorems of C04 / C05 talk about; and every fitted Bunch satisfies the
hypotheses (`Pmf.Rule.Valid 0`, and `allGt` without flip) of the C10 range / monotonicity theorems.
-/
import FairModel.Lemmas.ThresholdOpt
import FairModel.Lemmas.Pmf
import FairModel.Model.ThresholdPredict

namespace ThresholdPredict
open Threshold ThresholdGen

/-- `ThresholdOperation.__call__` of the stored operation = the operation the fit reasons about (incl. ±inf) -/
theorem apply_toThrOp (o : Op) (s : Rat) : (toThrOp o).apply s = ind (o.apply s) := by
  obtain ⟨gt, thr⟩ := o
  cases gt <;> cases thr <;> simp [toThrOp, toXR, Pmf.ThrOp.apply, Op.apply, Thr.below, Thr.above, ind]

/-- `_pmf_predict`'s expression on the stored Bunch = `ruleProb` of the fitted rule -/
theorem positive_toPmfRule (r : Rule) (s : Rat) : (toPmfRule r).positive s = ruleProb r s := by
  unfold Pmf.Rule.positive Pmf.Rule.interp ruleProb toPmfRule
  simp only [apply_toThrOp]
  cases r.ign with
  | none => rfl
  | some pc => rfl

theorem dictOf_keys (names : List String) (rules : List Rule) (hlen : names.length = rules.length) :
    (dictOf names rules).map (·.1) = names := by
  induction names generalizing rules with
  | nil => simp [dictOf]
  | cons n ns ih =>
    cases rules with
    | nil => simp at hlen
    | cons r rs =>
      simp only [dictOf, List.zipWith_cons_cons, List.map_cons, List.cons.injEq, true_and]
      exact ih rs (by simpa using hlen)

theorem dictOf_mem (names : List String) (rules : List Rule) (j : Nat) (hj : j < names.length) (hj' : j < rules.length) :
    (names[j], toPmfRule rules[j]) ∈ dictOf names rules := by
  unfold dictOf
  rw [List.mem_iff_getElem]
  exact ⟨j, by rw [List.length_zipWith]; exact lt_min hj hj', List.getElem_zipWith⟩

/-- **the pmf `predict` uses for a row of group `j` is the fitted rule `j`** (distinct sensitive-feature values) -/
theorem thrPositive_dictOf (names : List String) (rules : List Rule) (hnd : names.Nodup)
    (hlen : names.length = rules.length) (j : Nat) (hj : j < names.length) (hj' : j < rules.length) (s : Rat) :
    Pmf.thrPositive (dictOf names rules) names[j] s = ruleProb rules[j] s := by
  rw [Pmf.thrPositive_of_mem (dictOf names rules) names[j] (toPmfRule rules[j]) s
      (by rw [dictOf_keys names rules hlen]; exact hnd) (dictOf_mem names rules j hj hj')]
  exact positive_toPmfRule _ s

/-- expected value of metric `m` on `rows` when row scores are turned into probabilities by the fitted model's
    `_pmf_predict` for sensitive-feature value `name` -/
def predictedMetric (m : Metric) (dict : List (String × Pmf.Rule)) (name : String) (rows : List Row) : Rat :=
  m.eval (expCM (fun s => Pmf.thrPositive dict name s) rows)

theorem predictedMetric_eq (m : Metric) (names : List String) (rules : List Rule) (hnd : names.Nodup)
    (hlen : names.length = rules.length) (j : Nat) (hj : j < names.length) (hj' : j < rules.length) (rows : List Row) :
    predictedMetric m (dictOf names rules) names[j] rows = expectedMetric m rules[j] rows := by
  unfold predictedMetric expectedMetric
  congr 2
  funext s
  exact thrPositive_dictOf names rules hnd hlen j hj hj' s

theorem toPmfRule_allGt {flip : Bool} (r : Rule) (hf : flip = false) (h0 : r.op0.gt = true ∨ flip = true)
    (h1 : r.op1.gt = true ∨ flip = true) : (toPmfRule r).allGt = true := by
  subst hf
  simp [Pmf.Rule.allGt, toPmfRule, toThrOp, h0.resolve_right Bool.false_ne_true, h1.resolve_right Bool.false_ne_true]

theorem toPmfRule_valid (r : Rule) (h0 : 0 ≤ r.p0) (h1 : 0 ≤ r.p1) (hs : r.p0 + r.p1 = 1)
    (hign : ∀ pi c, r.ign = some (pi, c) → 0 ≤ pi ∧ pi ≤ 1 ∧ 0 ≤ c ∧ c ≤ 1) : (toPmfRule r).Valid 0 :=
  ⟨h0, h1, by simp [toPmfRule, hs], by simp [toPmfRule, hs], fun pi c h => hign pi c h⟩

theorem valid_simple {H : List Pt} {g : Rat} {r : Interp} (hr : InterpSound H g r) :
    (toPmfRule (simpleRule r)).Valid 0 :=
  toPmfRule_valid _ hr.p0_nonneg hr.p1_nonneg hr.sum_one fun _ _ h => by cases h

theorem valid_eo {H : List Pt} {g : Rat} {r : Interp} (hr : InterpSound H g r) (xBest yBest : Rat)
    (hpi : 0 ≤ pIgnore r yBest ∧ pIgnore r yBest ≤ 1) (hx : 0 ≤ xBest ∧ xBest ≤ 1) :
    (toPmfRule (eoRule xBest yBest r)).Valid 0 :=
  toPmfRule_valid _ hr.p0_nonneg hr.p1_nonneg hr.sum_one fun _ _ h => by cases h; exact ⟨hpi.1, hpi.2, hx.1, hx.2⟩

theorem exists_of_mem_dictOf {names : List String} {rules : List Rule} {e : String × Pmf.Rule} (he : e ∈ dictOf names rules) :
    ∃ j, ∃ (_ : j < names.length) (hj' : j < rules.length), e.2 = toPmfRule rules[j] := by
  unfold dictOf at he
  obtain ⟨j, hj, hget⟩ := List.mem_iff_getElem.mp he
  rw [List.length_zipWith] at hj
  exact ⟨j, (lt_min_iff.mp hj).1, (lt_min_iff.mp hj).2, by rw [← hget, List.getElem_zipWith]⟩

theorem predictLabels_length (names : List String) (fit : Fit) (rows : List (String × Rat)) (us : List Rat) :
    (predictLabels names fit rows us).length = min rows.length us.length := by
  rw [predictLabels, List.length_zipWith, predictPmf, Pmf.thrPmf, List.length_map]

theorem src_probOf (row : Rat × Rat) : probOf row = row.2 := by
  simp [probOf, ThresholderSrc.probColumn]

theorem predictLabels_get (names : List String) (fit : Fit) (rows : List (String × Rat)) (us : List Rat)
    (i : Nat) (hi : i < rows.length) (hu : i < us.length) (h : i < (predictLabels names fit rows us).length) :
    (predictLabels names fit rows us)[i] =
      Pmf.bernoulli (Pmf.thrPositive (dictOf names fit.rules) rows[i].1 rows[i].2) us[i] := by
  simp [predictLabels, predictPmf, Pmf.thrPmf, src_probOf, Pmf.pmfRow, (Pmf.src_cols _).2]

end ThresholdPredict
