/-
Lemmas that only C06 needs (so `Lemmas/Oracle.lean` does not import them): sums over the groups of one event, mixtures
of predictors, constant predictors, the two clip semantics and the declared range of the regression losses.
-/
import FairModel.Lemmas.MomentsReduction

namespace Moments

/-! ### sums over a list of groups -/

theorem sum_ind_eq (G : List String) (hnd : G.Nodup) (a : String) :
    (G.map (fun g => ind (a == g))).sum = if a ∈ G then 1 else 0 := by
  induction G with
  | nil => rfl
  | cons x xs ih =>
    rw [List.nodup_cons] at hnd
    simp only [List.map_cons, List.sum_cons, ih hnd.2, List.mem_cons]
    by_cases hax : a = x
    · subst hax
      simp [ind, hnd.1]
    · have : (a == x) = false := by simp [hax]
      simp [ind, this, hax]

theorem sum_groups (G : List String) (hnd : G.Nodup) (p : Row → Bool) (rows : List Row) (u : List Rat)
    (hG : ∀ r ∈ rows, p r = true → r.g ∈ G) :
    (G.map (fun g => dot (rows.map (fun r => ind (p r && r.g == g))) u)).sum
      = dot (rows.map (fun r => ind (p r))) u := by
  induction rows generalizing u with
  | nil => simp
  | cons r rs ih =>
    cases u with
    | nil => simp
    | cons x xs =>
      simp only [List.map_cons, dot_cons]
      rw [List.sum_map_add, ih xs (fun r' hr' => hG r' (by simp [hr']))]
      congr 1
      have : (fun g : String => ind (p r && r.g == g) * x) = (fun g => (ind (p r) * x) * ind (r.g == g)) := by
        funext g; rw [← ind_mul]; ring
      rw [this, List.sum_map_mul_left, sum_ind_eq G hnd]
      by_cases hp : p r = true
      · simp [hG r (by simp) hp]
      · have : p r = false := by simpa using hp
        simp [this, ind]

theorem filter_length_eq_dot (p : Row → Bool) (rows : List Row) :
    ((rows.filter p).length : Rat) = dot (rows.map (fun r => ind (p r))) (List.replicate rows.length 1) := by
  have := dot_ones_right (rows.map (fun r => ind (p r)))
  rw [List.length_map] at this
  rw [this, length_filter_cast]

/-- the groups observed together with event `e`, in index order -/
def groupsOf (ev : Ev) (rows : List Row) (e : String) : List String :=
  ((observedPairs ev rows).filter (fun q => q.1 == e)).map (·.2)

theorem mem_groupsOf (ev : Ev) (rows : List Row) (e g : String) :
    g ∈ groupsOf ev rows e ↔ Observed ev rows e g := by
  unfold groupsOf
  rw [← mem_observedPairs]
  simp only [List.mem_map, List.mem_filter, beq_iff_eq, Prod.exists]
  constructor
  · rintro ⟨a, b, ⟨hm, rfl⟩, rfl⟩; exact hm
  · intro h; exact ⟨e, g, ⟨h, rfl⟩, rfl⟩

theorem nodup_groupsOf (ev : Ev) (rows : List Row) (e : String) : (groupsOf ev rows e).Nodup := by
  unfold groupsOf
  have hn := (nodup_observedPairs ev rows).filter (fun q => q.1 == e)
  refine List.Nodup.map_on ?_ hn
  intro a ha b hb hab
  simp only [List.mem_filter, beq_iff_eq] at ha hb
  exact Prod.ext (ha.2.trans hb.2.symm) hab

theorem sum_groups_event (ev : Ev) (rows : List Row) (e : String) (u : List Rat) :
    ((groupsOf ev rows e).map (fun g => dot (rows.map (fun r => ind (inEG ev e g r))) u)).sum
      = dot (rows.map (fun r => ind (inE ev e r))) u :=
  sum_groups (groupsOf ev rows e) (nodup_groupsOf ev rows e) (inE ev e) rows u
    (fun r hr h => (mem_groupsOf ev rows e r.g).mpr ⟨r, hr, by simpa [inE] using h, rfl⟩)

theorem sum_groups_count (ev : Ev) (rows : List Row) (e : String) :
    ((groupsOf ev rows e).map (fun g => (countEG ev rows e g : Rat))).sum = (countE ev rows e : Rat) := by
  unfold countEG countE
  simp only [filter_length_eq_dot]
  exact sum_groups_event ev rows e _

/-- the event's mean is the `P(g | e)`-weighted mean of its groups' means, and those weights sum to 1: for any
    `a`, `b`, `Σ_g P(g|e)·(a·mean_{e,g}(u) + b·mean_e(u)) = (a + b)·mean_e(u)` -/
theorem sum_groups_affine (ev : Ev) (rows : List Row) (e g0 : String) (u : List Rat) (hobs : Observed ev rows e g0)
    (a b : Rat) :
    ((groupsOf ev rows e).map (fun g => probEG ev rows e g / probE ev rows e
        * (a * meanOn (inEG ev e g) rows u + b * meanOn (inE ev e) rows u))).sum
      = (a + b) * meanOn (inE ev e) rows u := by
  have hn : (rows.length : Rat) ≠ 0 := Nat.cast_ne_zero.mpr (rows_pos ev rows e g0 hobs).ne'
  have he : (countE ev rows e : Rat) ≠ 0 := Nat.cast_ne_zero.mpr (countE_pos ev rows e g0 hobs).ne'
  have hw : ∀ g, probEG ev rows e g / probE ev rows e = (countE ev rows e : Rat)⁻¹ * (countEG ev rows e g : Rat) := by
    intro g; rw [probEG, probE, div_div_div_cancel_right₀ hn, div_eq_inv_mul]
  have hmean : ∀ g ∈ groupsOf ev rows e, probEG ev rows e g / probE ev rows e * meanOn (inEG ev e g) rows u
      = (countE ev rows e : Rat)⁻¹ * dot (rows.map (fun r => ind (inEG ev e g r))) u := by
    intro g hg
    have hg' : (countEG ev rows e g : Rat) ≠ 0 :=
      Nat.cast_ne_zero.mpr (countEG_pos ev rows e g ((mem_groupsOf ev rows e g).mp hg)).ne'
    rw [hw, meanOn, ← countEG, mul_assoc, mul_div_cancel₀ _ hg']
  have hone : ((groupsOf ev rows e).map (fun g => probEG ev rows e g / probE ev rows e)).sum = 1 := by
    simp only [hw]
    rw [List.sum_map_mul_left, sum_groups_count, inv_mul_cancel₀ he]
  rw [List.map_congr_left fun g hg => (mul_add _ _ _).trans (congrArg₂ _ (mul_left_comm _ a _) (mul_comm _ _)),
    List.sum_map_add, List.sum_map_mul_left, List.sum_map_mul_left, List.map_congr_left hmean,
    List.sum_map_mul_left, sum_groups_event, hone, mul_one, add_mul, meanOn, ← countE, div_eq_inv_mul]

/-! ### mixtures of predictors -/

/-- pointwise mixture `Σ_j w_j · h_j` of predictors of length `n` -/
def mix (n : Nat) (ws : List Rat) (hs : List (List Rat)) : List Rat :=
  (ws.zip hs).foldr (fun p acc => vadd (p.2.map (fun x => p.1 * x)) acc) (List.replicate n 0)

theorem mix_nil (n : Nat) (hs : List (List Rat)) : mix n [] hs = List.replicate n 0 := by simp [mix]
theorem mix_nil_right (n : Nat) (ws : List Rat) : mix n ws [] = List.replicate n 0 := by simp [mix]
theorem mix_cons (n : Nat) (w : Rat) (ws : List Rat) (h : List Rat) (hs : List (List Rat)) :
    mix n (w :: ws) (h :: hs) = vadd (h.map (fun x => w * x)) (mix n ws hs) := by simp [mix]

theorem mix_length (n : Nat) (ws : List Rat) (hs : List (List Rat)) (hall : ∀ h ∈ hs, h.length = n) :
    (mix n ws hs).length = n := by
  induction ws generalizing hs with
  | nil => simp [mix_nil]
  | cons w ws ih =>
    cases hs with
    | nil => simp [mix_nil_right]
    | cons h hs =>
      rw [mix_cons]
      simp only [vadd, List.length_zipWith, List.length_map]
      rw [ih hs (fun h' hh' => hall h' (by simp [hh'])), hall h (by simp)]
      simp

theorem dot_mix (v : List Rat) (n : Nat) (ws : List Rat) (hs : List (List Rat)) (hlen : ws.length = hs.length)
    (hall : ∀ h ∈ hs, h.length = n) :
    dot v (mix n ws hs) = dot ws (hs.map (fun h => dot v h)) := by
  induction ws generalizing hs with
  | nil => simp [mix_nil, dot_zeros]
  | cons w ws ih =>
    cases hs with
    | nil => cases hlen
    | cons h hs =>
      have hall' : ∀ h' ∈ hs, h'.length = n := fun h' hh' => hall h' (List.mem_cons_of_mem _ hh')
      rw [mix_cons, dot_vadd_right _ _ _ (by rw [List.length_map, hall h List.mem_cons_self, mix_length n ws hs hall']),
        dot_smul_right, ih hs (Nat.succ.inj hlen) hall', List.map_cons, dot_cons]

theorem dot_const_right (ws : List Rat) {α} (l : List α) (c : Rat) (hlen : ws.length = l.length) :
    dot ws (l.map (fun _ => c)) = ws.sum * c := by
  rw [dot_comm, dot, List.zipWith_map_left, sum_zipWith_mul_left, List.zipWith_comm, zipWith_left_only _ ws l hlen.symm,
    List.map_id', mul_comm]

/-! ### constant predictors -/

theorem meanOn_const (p : Row → Bool) (rows : List Row) (c : Rat) (hne : (rows.filter p).length ≠ 0) :
    meanOn p rows (List.replicate rows.length c) = c := by
  have : List.replicate rows.length c = (List.replicate rows.length 1).map (fun x => c * x) := by
    rw [List.map_replicate, mul_one]
  rw [meanOn, this, dot_smul_right, ← filter_length_eq_dot, mul_div_cancel_right₀ _ (Nat.cast_ne_zero.mpr hne)]

/-! ### the regression losses -/

theorem lr_absR_eq (x : Rat) : LossRange.absR x = |x| := absR_eq x

/-- `np.clip(x, lo, hi)` = `minimum(hi, maximum(x, lo))`, for bounds in either order -/
theorem clipR_eq (x lo hi : Rat) : MomentsSrc.clipR x lo hi = min hi (max x lo) := by
  rw [MomentsSrc.clipR, ite_lt_eq_max]
  split
  · next h => rw [min_eq_left h.le]
  · next h => rw [min_eq_right (not_lt.mp h)]

theorem clipR_of_le (x lo hi : Rat) (h : lo ≤ hi) : MomentsSrc.clipR x lo hi = max lo (min x hi) := by
  rw [clipR_eq, max_min_distrib_left, max_eq_right h, min_comm, max_comm]

/-- with the bounds in the wrong order numpy's clip is the constant `hi` -/
theorem clipR_of_gt (x lo hi : Rat) (h : hi < lo) : MomentsSrc.clipR x lo hi = hi := by
  rw [clipR_eq, min_eq_left (h.le.trans (le_max_right _ _))]

theorem clipS_of_le (x lo hi : Rat) (h : lo ≤ hi) : MomentsSrc.clipS x lo hi = MomentsSrc.clipR x lo hi := by
  rw [MomentsSrc.clipS, if_neg (not_lt.mpr h)]

theorem clipR_between (x lo hi : Rat) :
    min lo hi ≤ MomentsSrc.clipR x lo hi ∧ MomentsSrc.clipR x lo hi ≤ max lo hi := by
  rw [clipR_eq]
  exact ⟨le_min (min_le_right _ _) ((min_le_left _ _).trans (le_max_right _ _)),
    (min_le_left _ _).trans (le_max_right _ _)⟩

theorem clipS_between (x lo hi : Rat) :
    min lo hi ≤ MomentsSrc.clipS x lo hi ∧ MomentsSrc.clipS x lo hi ≤ max lo hi := by
  unfold MomentsSrc.clipS
  split
  · rw [min_comm, max_comm]; exact clipR_between x hi lo
  · exact clipR_between x lo hi

theorem abs_sub_le_of_between {lo hi a b : Rat} (ha : min lo hi ≤ a ∧ a ≤ max lo hi) (hb : min lo hi ≤ b ∧ b ≤ max lo hi) :
    |a - b| ≤ |hi - lo| ∧ (a - b) * (a - b) ≤ (hi - lo) * (hi - lo) := by
  have h : |a - b| ≤ |hi - lo| := by
    rw [← max_sub_min_eq_abs lo hi]
    exact abs_sub_le_iff.mpr ⟨sub_le_sub ha.2 hb.1, sub_le_sub hb.2 ha.1⟩
  refine ⟨h, ?_⟩
  rw [← abs_mul_abs_self (a - b), ← abs_mul_abs_self (hi - lo)]
  exact mul_self_le_mul_self (abs_nonneg _) h

theorem dot_mem_bounds (w v : List Rat) (a b : Rat) (hl : v.length = w.length) (hw : ∀ x ∈ w, 0 ≤ x)
    (hv : ∀ x ∈ v, a ≤ x ∧ x ≤ b) : a * w.sum ≤ dot w v ∧ dot w v ≤ b * w.sum := by
  induction w generalizing v with
  | nil => simp
  | cons x xs ih =>
    cases v with
    | nil => cases hl
    | cons y ys =>
      obtain ⟨h1, h2⟩ := ih ys (Nat.succ.inj hl) (fun z hz => hw z (List.mem_cons_of_mem _ hz))
        (fun z hz => hv z (List.mem_cons_of_mem _ hz))
      have hx := hw x List.mem_cons_self
      obtain ⟨hy1, hy2⟩ := hv y List.mem_cons_self
      rw [List.sum_cons, dot_cons, mul_add, mul_add, mul_comm a, mul_comm b]
      exact ⟨add_le_add (mul_le_mul_of_nonneg_left hy1 hx) h1, add_le_add (mul_le_mul_of_nonneg_left hy2 hx) h2⟩

end Moments
