/-
Per-group results for the ThresholdOptimizer model: for a group with both labels and a constraint metric on the
x-axis the tradeoff curve exists, spans [0,1], every grid value gets a non-degenerate interpolation, the expected
x-metric of the interpolated rule is exactly the grid value and its expected y-metric is the interpolated y, which
dominates every mixture of the group's threshold rules with the same x (`mixture_le_line`).
-/
import FairModel.Lemmas.ThresholdInterp
import FairModel.Lemmas.ThresholdComplete

namespace Threshold
open ThresholdGen

/-- the metrics that can be constrained: the values of SIMPLE_CONSTRAINTS and the x-axis of equalized odds (FPR).  Only the
    x-axis has to run from 0 to 1 between the two constant classifiers (`constraint_extremes`) for every grid value to be
    bracketed; the y-axis (TPR for equalized odds) is the objective side and needs no such property -/
def IsConstraintMetric (xm : Metric) : Prop := xm ∈ simpleConstraints.map (·.2) ∨ xm = eoXMetric

instance (xm : Metric) : Decidable (IsConstraintMetric xm) := by unfold IsConstraintMetric; infer_instance

/-- at the two ends of the sweep (nothing / everything predicted positive) a constraint metric is 0 and 1, or 1 and 0;
    which end has x = 0 depends on the metric only -/
theorem constraint_extremes (xm : Metric) (hx : IsConstraintMetric xm) :
    (∀ nneg npos : Nat, nneg ≠ 0 → npos ≠ 0 →
      xm.eval (actualCounts 0 0 nneg npos) = 0 ∧ xm.eval (actualCounts nneg npos nneg npos) = 1) ∨
    (∀ nneg npos : Nat, nneg ≠ 0 → npos ≠ 0 →
      xm.eval (actualCounts 0 0 nneg npos) = 1 ∧ xm.eval (actualCounts nneg npos nneg npos) = 0) := by
  have key : ∀ nneg npos : Nat, nneg ≠ 0 → npos ≠ 0 →
      ((nneg : Rat) ≠ 0 ∧ (npos : Rat) ≠ 0 ∧ (npos : Rat) + (nneg : Rat) ≠ 0) := by
    intro nneg npos hn hp
    have h1 : (0 : Rat) < npos := Nat.cast_pos.mpr (Nat.pos_of_ne_zero hp)
    have h2 : (0 : Rat) < nneg := Nat.cast_pos.mpr (Nat.pos_of_ne_zero hn)
    exact ⟨h2.ne', h1.ne', (add_pos h1 h2).ne'⟩
  cases xm
  case false_negative_rate | true_negative_rate =>
    right; intro nneg npos hn hp; obtain ⟨a, b, c⟩ := key nneg npos hn hp
    simp [Metric.eval, actualCounts, CM.positives, CM.negatives, a, b]
  case accuracy_score | balanced_accuracy_score => exact absurd hx (by decide)
  all_goals
    left; intro nneg npos hn hp; obtain ⟨a, b, c⟩ := key nneg npos hn hp
    simp [Metric.eval, actualCounts, CM.predicted_positives, CM.n, CM.positives, CM.negatives, a, b, c]

/-- `H` is the group's tradeoff curve, it is a good hull of the sorted sweep points, and it spans [0, 1] on the x-axis -/
structure GroupCurve (flip : Bool) (xm ym : Metric) (rows : List Row) (H : List Pt) : Prop where
  eq : tradeoffCurve flip xm ym rows = some H
  good : GoodHull H (sortLex (rawPoints flip xm ym rows))
  head : ∃ p, H.head? = some p ∧ p.x ≤ 0
  last : ∃ p, H.getLast? = some p ∧ 1 ≤ p.x

theorem groupCurve_exists (flip : Bool) (xm ym : Metric) (rows : List Row) (hx : IsConstraintMetric xm)
    (hp : nPos rows ≠ 0) (hn : nNeg rows ≠ 0) :
    ∃ H, GroupCurve flip xm ym rows H := by
  have hs := pairwise_sortLex (rawPoints flip xm ym rows)
  have good := upperHull_good _ hs
  -- the two constant classifiers are on the curve, one at x = 0 and one at x = 1
  obtain ⟨p0, h0, p1, h1, ⟨h0x, _⟩, h1x, _⟩ := const_rawPoints flip xm ym rows
  rw [← mem_sortLex] at h0 h1
  obtain ⟨q0, q1, hq0, hq1, hq0x, hq1x⟩ : ∃ q0 q1, q0 ∈ sortLex (rawPoints flip xm ym rows) ∧
      q1 ∈ sortLex (rawPoints flip xm ym rows) ∧ q0.x = 0 ∧ q1.x = 1 := by
    rcases constraint_extremes xm hx with hE | hE
    · exact ⟨_, _, h0, h1, h0x.trans (hE _ _ hn hp).1, h1x.trans (hE _ _ hn hp).2⟩
    · exact ⟨_, _, h1, h0, h1x.trans (hE _ _ hn hp).2, h0x.trans (hE _ _ hn hp).1⟩
  refine ⟨upperHull (sortLex (rawPoints flip xm ym rows)), ?_, good, ?_, ?_⟩
  · unfold tradeoffCurve
    rw [tradeoffPoints_eq, if_neg (not_or.mpr ⟨hp, hn⟩)]
    rfl
  · obtain ⟨p, hp1, hp2⟩ := sorted_head_le hs hq0
    exact ⟨p, good.head.trans hp1, hq0x ▸ hp2.x_le⟩
  · obtain ⟨p, hp1, hp2⟩ := sorted_le_last hs hq1
    exact ⟨p, good.last.trans hp1, hq1x ▸ hp2.x_le⟩

theorem bothLabels_of_tradeoffCurve {flip : Bool} {xm ym : Metric} {rows : List Row} {H : List Pt}
    (h : tradeoffCurve flip xm ym rows = some H) : nPos rows ≠ 0 ∧ nNeg rows ≠ 0 := by
  unfold tradeoffCurve at h; rw [tradeoffPoints_eq] at h
  by_cases hc : nPos rows = 0 ∨ nNeg rows = 0
  · rw [if_pos hc] at h; simp at h
  · push Not at hc; exact hc

/-! ### grid values
`gridVal 0 0 = 0 + 0 * (1 - 0) / 0 = 0` (Lean's `x / 0 = 0` gives numpy's value of the one-point grid `[0.]`), so nothing
below needs `1 ≤ N` except where `N` itself is the index. -/

theorem gridVal_zero (N : Nat) : gridVal N 0 = 0 := by rw [src_gridVal, Nat.cast_zero, zero_div]

theorem gridVal_pos {N i : Nat} (hN : 1 ≤ N) (hi : 1 ≤ i) : 0 < gridVal N i := by
  rw [src_gridVal]
  exact div_pos (Nat.cast_pos.mpr hi) (Nat.cast_pos.mpr hN)

theorem gridVal_nonneg (N i : Nat) : 0 ≤ gridVal N i := by
  rw [src_gridVal]; exact div_nonneg (Nat.cast_nonneg i) (Nat.cast_nonneg N)

theorem gridVal_le_one {N i : Nat} (hi : i ≤ N) : gridVal N i ≤ 1 := by
  rw [src_gridVal]
  exact div_le_one_of_le₀ (Nat.cast_le.mpr hi) (Nat.cast_nonneg N)

theorem gridVal_self {N : Nat} (hN : 1 ≤ N) : gridVal N N = 1 := by
  rw [src_gridVal]
  exact div_self (Nat.cast_pos.mpr hN).ne'

/-- every grid point of a good group gets a proper interpolation -/
theorem group_interpolate {flip : Bool} {xm ym : Metric} {rows : List Row} {H : List Pt}
    (gc : GroupCurve flip xm ym rows H) {N i : Nat} (hi : i ≤ N) :
    ∃ r, interpolateAt H i (gridVal N i) = some r ∧ InterpSound H (gridVal N i) r :=
  interpolateAt_sound H i (gridVal N i) (fun h => h ▸ gridVal_zero N)
    (fun h => gridVal_pos (h.trans hi) h) (gridVal_le_one hi) gc.head gc.last gc.good.strict

theorem ruleProb_simple (r : Interp) :
    ruleProb (simpleRule r) = fun s => r.p0 * ind (r.op0.apply s) + r.p1 * ind (r.op1.apply s) := rfl

theorem hull_vertex_sound {flip : Bool} {xm ym : Metric} {rows : List Row} {H : List Pt}
    (gc : GroupCurve flip xm ym rows H) {a : Pt} (ha : a ∈ H) :
    a.x = xm.eval (confusion a.op rows) ∧ a.y = ym.eval (confusion a.op rows) :=
  rawPoints_sound flip xm ym rows a ((mem_sortLex _ _).mp (gc.good.sub a ha))

/-- the two operations of an interpolation are hull vertices' operations, hence admitted by the comparison class -/
theorem interp_ops_allowed {flip : Bool} {xm ym : Metric} {rows : List Row} {H : List Pt}
    (gc : GroupCurve flip xm ym rows H) {g : Rat} {r : Interp} (hr : InterpSound H g r) :
    (r.op0.gt = true ∨ flip = true) ∧ (r.op1.gt = true ∨ flip = true) := by
  obtain ⟨l1, a, b, l2, hH, ho0, ho1, _⟩ := hr.verts
  -- the operator "<" appears among the tradeoff points only with `flip`
  have hm : ∀ v ∈ H, v.op.gt = true ∨ flip = true := fun v hv => by
    obtain ⟨s, _, o, ho, rfl⟩ := mem_rawPoints.mp ((mem_sortLex _ _).mp (gc.good.sub v hv))
    cases flip with
    | true => exact Or.inr rfl
    | false => exact Or.inl (by rw [List.mem_singleton.mp ho])
  rw [ho0, ho1]
  exact ⟨hm a (by rw [hH]; simp), hm b (by rw [hH]; simp)⟩

/-- expected x- and y-metric of the plain interpolated rule: exactly the grid value and the interpolated y -/
theorem expected_simple {flip : Bool} {xm ym : Metric} {rows : List Row} {H : List Pt}
    (gc : GroupCurve flip xm ym rows H) {g : Rat} {r : Interp} (hr : InterpSound H g r) :
    expectedMetric xm (simpleRule r) rows = g ∧ expectedMetric ym (simpleRule r) rows = r.y := by
  obtain ⟨l1, a, b, l2, hH, ho0, ho1, _, hx, hy, _⟩ := hr.verts
  obtain ⟨hax, hay⟩ := hull_vertex_sound gc (a := a) (by rw [hH]; simp)
  obtain ⟨hbx, hby⟩ := hull_vertex_sound gc (a := b) (by rw [hH]; simp)
  -- the rule is the `p0 : p1` mixture of the two vertices' operations, and every metric is affine
  have key : ∀ m : Metric, expectedMetric m (simpleRule r) rows =
      r.p0 * m.eval (confusion a.op rows) + r.p1 * m.eval (confusion b.op rows) := fun m => by
    unfold expectedMetric
    rw [ruleProb_simple, eval_expCM_mix m r.p0 r.p1 _ _ rows hr.sum_one, ho0, ho1]; rfl
  exact ⟨by rw [key, ← hax, ← hbx]; exact hx, by rw [key, ← hay, ← hby]; exact hy.symm⟩

/-- the probabilities of the plain interpolated rule are in [0,1] -/
theorem ruleProb_simple_range {H : List Pt} {g : Rat} {r : Interp} (hr : InterpSound H g r) (s : Rat) :
    0 ≤ ruleProb (simpleRule r) s ∧ ruleProb (simpleRule r) s ≤ 1 := by
  rw [ruleProb_simple]
  have ind_range : ∀ b, 0 ≤ ind b ∧ ind b ≤ 1 := fun b => by
    cases b; exacts [⟨le_refl 0, zero_le_one⟩, ⟨zero_le_one, le_refl 1⟩]
  exact ⟨add_nonneg (mul_nonneg hr.p0_nonneg (ind_range _).1) (mul_nonneg hr.p1_nonneg (ind_range _).1),
    hr.sum_one ▸ add_le_add (mul_le_of_le_one_right hr.p0_nonneg (ind_range _).2)
      (mul_le_of_le_one_right hr.p1_nonneg (ind_range _).2)⟩

/-- a randomisation over threshold rules: weights and the tradeoff points chosen -/
abbrev Mixture := List (Rat × Pt)

def Mixture.weight (m : Mixture) : Rat := (m.map (·.1)).sum
def Mixture.x (m : Mixture) : Rat := (m.map (fun wp => wp.1 * wp.2.x)).sum
def Mixture.y (m : Mixture) : Rat := (m.map (fun wp => wp.1 * wp.2.y)).sum

/-- weights are non-negative, sum to 1, and every point is one of `pts` -/
def Mixture.Valid (m : Mixture) (pts : List Pt) : Prop :=
  (∀ wp ∈ m, 0 ≤ wp.1 ∧ wp.2 ∈ pts) ∧ m.weight = 1

theorem Mixture.single {p : Pt} {pts : List Pt} (h : p ∈ pts) :
    Mixture.Valid [(1, p)] pts ∧ Mixture.x [(1, p)] = p.x ∧ Mixture.y [(1, p)] = p.y :=
  ⟨⟨fun wp hwp => by rw [List.mem_singleton.mp hwp]; exact ⟨zero_le_one, h⟩, by simp [Mixture.weight]⟩,
    by simp [Mixture.x], by simp [Mixture.y]⟩

theorem mixture_cross_sum (a b : Pt) (m : Mixture) :
    (m.map (fun wp => wp.1 * cross a b wp.2)).sum =
      (b.x - a.x) * (m.y - a.y * m.weight) - (b.y - a.y) * (m.x - a.x * m.weight) := by
  induction m with
  | nil => simp [Mixture.x, Mixture.y, Mixture.weight]
  | cons wp m ih =>
    simp only [Mixture.x, Mixture.y, Mixture.weight, List.map_cons, List.sum_cons] at ih ⊢
    rw [ih]; unfold cross; ring

/-- **mixture_le_line**: a mixture of points that all lie on or below the line through `a`, `b` (with
    `a.x < b.x`) lies on or below that line: its y is at most the line's value `ry` at the mixture's x -/
theorem mixture_le_line (a b : Pt) (pts : List Pt) (m : Mixture) (g ry : Rat)
    (hsup : ∀ q ∈ pts, cross a b q ≤ 0) (hab : a.x < b.x) (hv : m.Valid pts) (hx : m.x = g)
    (hline : (b.x - a.x) * (ry - a.y) = (b.y - a.y) * (g - a.x)) : m.y ≤ ry := by
  -- a non-negatively weighted sum of non-positive crosses is `≤ 0`; it equals `(b.x - a.x) * (m.y - ry)`, and `b.x - a.x > 0`
  have h1 : (m.map (fun wp => wp.1 * cross a b wp.2)).sum ≤ 0 :=
    (List.sum_le_card_nsmul _ 0 fun x hx => by
      obtain ⟨wp, hwp, rfl⟩ := List.mem_map.mp hx
      exact mul_nonpos_of_nonneg_of_nonpos (hv.1 wp hwp).1 (hsup _ (hv.1 wp hwp).2)).trans_eq (nsmul_zero _)
  rw [mixture_cross_sum, hv.2, hx, mul_one, mul_one, ← hline, ← mul_sub, sub_sub_sub_cancel_right] at h1
  exact sub_nonpos.mp (nonpos_of_mul_nonpos_right h1 (sub_pos.mpr hab))

/-- the interpolated y of a good group dominates every mixture of the group's tradeoff points with x = g -/
theorem interp_dominates {flip : Bool} {xm ym : Metric} {rows : List Row} {H : List Pt}
    (gc : GroupCurve flip xm ym rows H) {g : Rat} {r : Interp} (hr : InterpSound H g r)
    (m : Mixture) (hv : m.Valid (rawPoints flip xm ym rows)) (hx : m.x = g) : m.y ≤ r.y := by
  obtain ⟨l1, a, b, l2, hH, _, _, hab, _, _, hline⟩ := hr.verts
  have hsup : ∀ q ∈ rawPoints flip xm ym rows, cross a b q ≤ 0 := fun q hq =>
    gc.good.supporting l1 a b l2 hH q ((mem_sortLex _ _).mpr hq)
  exact mixture_le_line a b _ m g r.y hsup hab hv hx hline

end Threshold
