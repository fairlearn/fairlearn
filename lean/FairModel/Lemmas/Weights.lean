/-
Helper lemmas for C11: integer weights = multiplicities, scale invariance, and the lift through
grouping / aggregates.  Part A works on the base-metric model (`BaseMetrics.replicate`,
`weighted`, `scale`), part B on the grouped rows of `Model/Weights.lean`.
-/
import FairModel.Lemmas.BaseMetrics
import FairModel.Lemmas.WeightedMean
import FairModel.Model.Weights

/-! ### physical replication `l.flatMap fun a => replicate (k a) (g a)` against the weighted list `l.map h`:
with multiplicities ≥ 1 both show the same values of anything the weight cannot change, and are empty together -/

theorem List.mem_map_flatMap_replicate {α β γ : Type} (f : β → γ) (g h : α → β) (k : α → Nat) (l : List α)
    (hk : ∀ a ∈ l, 1 ≤ k a) (hf : ∀ a, f (g a) = f (h a)) (x : γ) :
    x ∈ (l.flatMap fun a => List.replicate (k a) (g a)).map f ↔ x ∈ (l.map h).map f := by
  simp only [List.mem_map, List.mem_flatMap, List.mem_replicate]
  constructor
  · rintro ⟨_, ⟨a, ha, _, rfl⟩, rfl⟩
    exact ⟨_, ⟨a, ha, rfl⟩, (hf a).symm⟩
  · rintro ⟨_, ⟨a, ha, rfl⟩, rfl⟩
    exact ⟨_, ⟨a, ha, Nat.ne_of_gt (hk a ha), rfl⟩, hf a⟩

theorem List.isEmpty_flatMap_replicate {α β : Type} (g h : α → β) (k : α → Nat) (l : List α)
    (hk : ∀ a ∈ l, 1 ≤ k a) :
    (l.flatMap fun a => List.replicate (k a) (g a)).isEmpty = (l.map h).isEmpty := by
  cases l with
  | nil => rfl
  | cons a l =>
    obtain ⟨n, hn⟩ := Nat.exists_eq_add_of_le' (hk a List.mem_cons_self)
    rw [List.flatMap_cons, hn, List.replicate_succ]; rfl

namespace BaseMetrics

/-- a row predicate that does not look at the weight (all predicates of the model are such) -/
def WeightBlind (p : Row → Bool) : Prop := ∀ (r : Row) (w' : Rat), p { r with w := w' } = p r

/-- all multiplicities are positive integers (the property's quantifier).  `rate` and `selectionRate` need it: a row
    of multiplicity 0 vanishes from the replicated data, and with it its labels and possibly the last row;
    `meanPrediction` does not, a weight 0 contributes nothing to either sum. -/
def PosMult {α} (rows : List (α × Nat)) : Prop := ∀ p ∈ rows, 1 ≤ p.2

/-- `scale` (Model/BaseMetrics.lean) for `mean_prediction` rows -/
def scaleP (c : Rat) (rows : List PRow) : List PRow := rows.map (fun r => { r with w := c * r.w })

/-! ### A.1 sums over replicated rows -/

theorem weightBlind_cell (a b : Int) : WeightBlind (fun r => r.yt == a && r.yp == b) := fun _ _ => rfl

theorem weightBlind_sel (pos : Int) : WeightBlind (fun r => r.yp == pos) := fun _ _ => rfl

theorem wsum_replicate_one (p : Row → Bool) (r : Row) (k : Nat) :
    wsum p (List.replicate k r) = if p r then (k : Rat) * r.w else 0 := by
  rw [wsum, List.filter_replicate]
  split
  · rw [List.map_replicate, List.sum_replicate, nsmul_eq_mul]
  · rfl

theorem wsum_replicate (p : Row → Bool) (hp : WeightBlind p) (rows : List (Row × Nat)) :
    wsum p (replicate rows) = wsum p (weighted rows) := by
  induction rows with
  | nil => rfl
  | cons x xs ih =>
    show wsum p (List.replicate x.2 { x.1 with w := 1 } ++ replicate xs) =
      wsum p ({ x.1 with w := (x.2 : Rat) } :: weighted xs)
    rw [wsum_append, wsum_cons, wsum_replicate_one, ih, hp x.1 1, hp x.1 x.2, mul_one]

theorem wsum_true_eq_totalW (rows : List Row) : wsum (fun _ => true) rows = totalW rows := by
  simp [wsum, totalW]

theorem totalW_replicate (rows : List (Row × Nat)) :
    totalW (replicate rows) = totalW (weighted rows) := by
  rw [← wsum_true_eq_totalW, ← wsum_true_eq_totalW]
  exact wsum_replicate _ (fun _ _ => rfl) rows

theorem cell_replicate (rows : List (Row × Nat)) (a b : Int) :
    cell (replicate rows) a b = cell (weighted rows) a b :=
  wsum_replicate _ (weightBlind_cell a b) rows

theorem rateOf_replicate (k : Kind) (rows : List (Row × Nat)) (neg pos : Int) :
    rateOf k (replicate rows) neg pos = rateOf k (weighted rows) neg pos := by
  cases k <;> simp only [rateOf, tprOf, fnrOf, fprOf, tnrOf, rowTot, cell_replicate]

/-! ### A.2 replicated rows show the same values as the weighted rows (multiplicities ≥ 1) -/

theorem allLabels_replicate (rows : List (Row × Nat)) (hk : PosMult rows) (x : Int) :
    x ∈ allLabels (replicate rows) ↔ x ∈ allLabels (weighted rows) := by
  unfold allLabels
  rw [List.mem_append, List.mem_append]
  exact or_congr
    (List.mem_map_flatMap_replicate (α := Row × Nat) (·.yt) (fun x => { x.1 with w := 1 })
      (fun x => { x.1 with w := (x.2 : Rat) }) (·.2) rows hk (fun _ => rfl) x)
    (List.mem_map_flatMap_replicate (α := Row × Nat) (·.yp) (fun x => { x.1 with w := 1 })
      (fun x => { x.1 with w := (x.2 : Rat) }) (·.2) rows hk (fun _ => rfl) x)

theorem labelsForCM_congr (a b : List Int) (p : Option Int) (h : uniqueSorted a = uniqueSorted b) :
    labelsForCM a p = labelsForCM b p := by
  unfold labelsForCM
  rw [h]

theorem rate_replicate (k : Kind) (rows : List (Row × Nat)) (hk : PosMult rows) (p : Option Int) :
    rate k (replicate rows) p = rate k (weighted rows) p := by
  unfold rate
  rw [labelsForCM_congr _ _ p (uniqueSorted_congr _ _ (allLabels_replicate rows hk))]
  simp only [rateOf_replicate]

theorem selectionRate_replicate (rows : List (Row × Nat)) (hk : PosMult rows) (pos : Int) :
    selectionRate (replicate rows) pos = selectionRate (weighted rows) pos := by
  unfold selectionRate
  rw [wsum_replicate _ (weightBlind_sel pos), totalW_replicate]
  exact congrArg (fun b : Bool => if b = true then _ else _) (List.isEmpty_flatMap_replicate _ _ (fun x : Row × Nat => x.2) rows hk)

/-- with at least one row and positive multiplicities the total weight is positive: the quotients of
    `selection_rate` / `mean_prediction` on weighted data are genuine -/
theorem totalW_weighted_pos (rows : List (Row × Nat)) (hk : PosMult rows) (hne : rows ≠ []) :
    0 < totalW (weighted rows) :=
  WeightedMean.den_pos (fun r : Row => r.w) _
    (fun r hr => by obtain ⟨p, hp, rfl⟩ := List.mem_map.mp hr; exact Nat.cast_pos.mpr (hk p hp))
    (by simpa [weighted] using hne)

theorem totalP_weighted_pos (rows : List (PRow × Nat)) (hk : PosMult rows) (hne : rows ≠ []) :
    0 < totalP (weightedP rows) :=
  WeightedMean.den_pos (fun r : PRow => r.w) _
    (fun r hr => by obtain ⟨p, hp, rfl⟩ := List.mem_map.mp hr; exact Nat.cast_pos.mpr (hk p hp))
    (by simpa [weightedP] using hne)

theorem psum_replicateP (f : PRow → Rat) (c : PRow → Rat)
    (hf : ∀ (r : PRow) (w' : Rat), f { r with w := w' } = c r * w') (rows : List (PRow × Nat)) :
    ((replicateP rows).map f).sum = ((weightedP rows).map f).sum := by
  induction rows with
  | nil => rfl
  | cons x xs ih =>
    show ((List.replicate x.2 { x.1 with w := 1 } ++ replicateP xs).map f).sum =
      (({ x.1 with w := (x.2 : Rat) } :: weightedP xs).map f).sum
    rw [List.map_append, List.sum_append, ih, List.map_cons, List.sum_cons, List.map_replicate, List.sum_replicate,
      nsmul_eq_mul, hf, hf, mul_one,
      mul_comm]

theorem meanPrediction_replicateP (rows : List (PRow × Nat)) :
    meanPrediction (replicateP rows) = meanPrediction (weightedP rows) := by
  unfold meanPrediction
  rw [psum_replicateP (fun r => r.pred * r.w) (·.pred) (fun _ _ => rfl),
    psum_replicateP (·.w) (fun _ => 1) (fun _ _ => (one_mul _).symm)]

/-! ### A.3 scale invariance -/

theorem wsum_scale (p : Row → Bool) (hp : WeightBlind p) (c : Rat) (rows : List Row) :
    wsum p (scale c rows) = c * wsum p rows := by
  induction rows with
  | nil => exact (mul_zero c).symm
  | cons r rs ih =>
    rw [scale, List.map_cons, ← scale, wsum_cons, wsum_cons, ih, hp r]
    split <;> ring

theorem totalW_scale (c : Rat) (rows : List Row) : totalW (scale c rows) = c * totalW rows := by
  rw [← wsum_true_eq_totalW, ← wsum_true_eq_totalW]
  exact wsum_scale _ (fun _ _ => rfl) c rows

theorem ratio_scale (c n d : Rat) (hc : c ≠ 0) : ratio (c * n) (c * d) = ratio n d := by
  simp only [ratio, mul_eq_zero, hc, false_or, mul_div_mul_left _ _ hc]

theorem cell_scale (c : Rat) (rows : List Row) (a b : Int) :
    cell (scale c rows) a b = c * cell rows a b :=
  wsum_scale _ (weightBlind_cell a b) c rows

theorem rateOf_scale (k : Kind) (c : Rat) (hc : c ≠ 0) (rows : List Row) (neg pos : Int) :
    rateOf k (scale c rows) neg pos = rateOf k rows neg pos := by
  cases k <;> simp only [rateOf, tprOf, fnrOf, fprOf, tnrOf, rowTot, cell_scale, ← mul_add] <;>
    exact ratio_scale c _ _ hc

theorem scale_cols (c : Rat) (rows : List Row) :
    (scale c rows).map (·.yt) = rows.map (·.yt) ∧ (scale c rows).map (·.yp) = rows.map (·.yp) ∧
    (scale c rows).map (·.w) = (rows.map (·.w)).map (c * ·) := by
  refine ⟨?_, ?_, ?_⟩ <;> simp [scale, Function.comp_def]

theorem allLabels_scale (c : Rat) (rows : List Row) : allLabels (scale c rows) = allLabels rows := by
  rw [allLabels, (scale_cols c rows).1, (scale_cols c rows).2.1, allLabels]

theorem rate_scale (k : Kind) (c : Rat) (hc : c ≠ 0) (rows : List Row) (p : Option Int) :
    rate k (scale c rows) p = rate k rows p := by
  unfold rate
  simp only [allLabels_scale, rateOf_scale k c hc]

theorem selectionRate_scale (c : Rat) (hc : c ≠ 0) (rows : List Row) (pos : Int) :
    selectionRate (scale c rows) pos = selectionRate rows pos := by
  unfold selectionRate
  rw [wsum_scale _ (weightBlind_sel pos), totalW_scale, mul_div_mul_left _ _ hc, scale, List.isEmpty_map]

theorem meanPrediction_scaleP (c : Rat) (hc : c ≠ 0) (rows : List PRow) :
    meanPrediction (scaleP c rows) = meanPrediction rows := by
  have e : ∀ f : PRow → Rat, (∀ r : PRow, f { r with w := c * r.w } = c * f r) →
      ((scaleP c rows).map f).sum = c * (rows.map f).sum := fun f hf => by
    rw [scaleP, List.map_map, ← List.sum_map_mul_left]
    exact congrArg _ (List.map_congr_left fun r _ => hf r)
  rw [meanPrediction, meanPrediction, e _ (fun r => by ring), e _ (fun _ => rfl), mul_div_mul_left _ _ hc]

end BaseMetrics

/-! ## B. grouped rows (Model/Weights.lean) -/

namespace Weights
open BaseMetrics

def rowPairs (rows : List (WRow × Nat)) : List (Row × Nat) := rows.map (fun p => (p.1.toRow, p.2))
def prowPairs (rows : List (WRow × Nat)) : List (PRow × Nat) := rows.map (fun p => (p.1.toPRow, p.2))

theorem posMult_rowPairs (rows : List (WRow × Nat)) (hk : PosMult rows) : PosMult (rowPairs rows) := by
  intro p hp
  obtain ⟨q, hq, rfl⟩ := List.mem_map.mp hp
  exact hk q hq

theorem wReplicate_cons (x : WRow × Nat) (xs : List (WRow × Nat)) :
    wReplicate (x :: xs) = List.replicate x.2 { x.1 with w := 1 } ++ wReplicate xs :=
  List.flatMap_cons

theorem map_toRow_wReplicate (rows : List (WRow × Nat)) :
    (wReplicate rows).map WRow.toRow = replicate (rowPairs rows) := by
  simp [wReplicate, rowPairs, replicate, WRow.toRow, List.map_flatMap, List.flatMap_map]

theorem map_toRow_wWeighted (rows : List (WRow × Nat)) :
    (wWeighted rows).map WRow.toRow = weighted (rowPairs rows) := by
  simp [wWeighted, weighted, rowPairs, WRow.toRow, Function.comp_def]

theorem map_toPRow_wReplicate (rows : List (WRow × Nat)) :
    (wReplicate rows).map WRow.toPRow = replicateP (prowPairs rows) := by
  simp [wReplicate, prowPairs, replicateP, WRow.toPRow, List.map_flatMap, List.flatMap_map]

theorem map_toPRow_wWeighted (rows : List (WRow × Nat)) :
    (wWeighted rows).map WRow.toPRow = weightedP (prowPairs rows) := by
  simp [wWeighted, weightedP, prowPairs, WRow.toPRow, Function.comp_def]

theorem map_toRow_wScale (c : Rat) (rows : List WRow) :
    (wScale c rows).map WRow.toRow = scale c (rows.map WRow.toRow) := by
  simp [wScale, scale, WRow.toRow, Function.comp_def]

theorem map_toPRow_wScale (c : Rat) (rows : List WRow) :
    (wScale c rows).map WRow.toPRow = scaleP c (rows.map WRow.toPRow) := by
  simp [wScale, scaleP, WRow.toPRow, Function.comp_def]

/-- weight k ≡ k unit copies, for each of the six metrics (public functions incl. label handling) -/
theorem eval_weighted_eq_replicate (m : Metric) (rows : List (WRow × Nat)) (hk : PosMult rows) :
    eval m (wWeighted rows) = eval m (wReplicate rows) := by
  cases m with
  | rate k pos =>
    simp only [eval, map_toRow_wReplicate, map_toRow_wWeighted]
    exact (rate_replicate k _ (posMult_rowPairs rows hk) pos).symm
  | sel pos =>
    simp only [eval, map_toRow_wReplicate, map_toRow_wWeighted]
    exact (selectionRate_replicate _ (posMult_rowPairs rows hk) pos).symm
  | meanPred =>
    simp only [eval, meanPred, map_toPRow_wReplicate, map_toPRow_wWeighted, meanPrediction_replicateP]
    rw [← map_toPRow_wReplicate, ← map_toPRow_wWeighted, List.isEmpty_map, List.isEmpty_map,
      wReplicate, List.isEmpty_flatMap_replicate _ _ (fun x : WRow × Nat => x.2) rows hk, ← wWeighted]

theorem eval_scale (m : Metric) (c : Rat) (hc : c ≠ 0) (rows : List WRow) :
    eval m (wScale c rows) = eval m rows := by
  cases m with
  | rate k pos => simp only [eval, map_toRow_wScale, rate_scale k c hc]
  | sel pos => simp only [eval, map_toRow_wScale, selectionRate_scale c hc]
  | meanPred =>
    simp only [eval, meanPred, map_toPRow_wScale, meanPrediction_scaleP c hc]
    simp [scaleP]

/-! ### grouping commutes with the three weight transformations -/

theorem groupRows_wReplicate (key : Int) (rows : List (WRow × Nat)) :
    groupRows key (wReplicate rows) = wReplicate (groupPairs key rows) := by
  induction rows with
  | nil => rfl
  | cons x xs ih =>
    rw [wReplicate_cons]
    unfold groupRows at ih ⊢
    rw [List.filter_append, ih, List.filter_replicate]
    unfold groupPairs
    rw [List.filter_cons]
    by_cases h : x.1.g == key
    · simp only [h, if_true]; rw [wReplicate_cons]
    · simp only [h]; simp

theorem groupRows_wWeighted (key : Int) (rows : List (WRow × Nat)) :
    groupRows key (wWeighted rows) = wWeighted (groupPairs key rows) := by
  rw [groupRows, wWeighted, List.filter_map]; rfl

theorem groupRows_wScale (key : Int) (c : Rat) (rows : List WRow) :
    groupRows key (wScale c rows) = wScale c (groupRows key rows) := by
  rw [groupRows, wScale, List.filter_map]; rfl

theorem posMult_groupPairs (key : Int) (rows : List (WRow × Nat)) (hk : PosMult rows) :
    PosMult (groupPairs key rows) :=
  fun p hp => hk p (List.mem_of_mem_filter hp)

theorem keys_wReplicate (rows : List (WRow × Nat)) (hk : PosMult rows) :
    keys (wReplicate rows) = keys (wWeighted rows) :=
  uniqueSorted_congr _ _ (List.mem_map_flatMap_replicate (α := WRow × Nat) (·.g) (fun x => { x.1 with w := 1 })
    (fun x => { x.1 with w := (x.2 : Rat) }) (·.2) rows hk (fun _ => rfl))

theorem keys_wScale (c : Rat) (rows : List WRow) : keys (wScale c rows) = keys rows := by
  simp [keys, wScale, Function.comp_def]

theorem byGroup_weighted_eq_replicate (m : Metric) (rows : List (WRow × Nat)) (hk : PosMult rows) :
    byGroup m (wWeighted rows) = byGroup m (wReplicate rows) := by
  unfold byGroup
  rw [keys_wReplicate rows hk]
  apply List.map_congr_left
  intro key _
  rw [groupRows_wWeighted, groupRows_wReplicate,
    eval_weighted_eq_replicate m _ (posMult_groupPairs key rows hk)]

theorem byGroup_scale (m : Metric) (c : Rat) (hc : c ≠ 0) (rows : List WRow) :
    byGroup m (wScale c rows) = byGroup m rows := by
  unfold byGroup
  rw [keys_wScale]
  apply List.map_congr_left
  intro key _
  rw [groupRows_wScale, eval_scale m c hc]

theorem frame_weighted_eq_replicate (m : Metric) (rows : List (WRow × Nat)) (hk : PosMult rows) :
    frame m (wWeighted rows) = frame m (wReplicate rows) := by
  unfold frame
  rw [eval_weighted_eq_replicate m rows hk, byGroup_weighted_eq_replicate m rows hk,
    keys_wReplicate rows hk]

theorem frame_scale (m : Metric) (c : Rat) (hc : c ≠ 0) (rows : List WRow) :
    frame m (wScale c rows) = frame m rows := by
  unfold frame
  rw [eval_scale m c hc, byGroup_scale m c hc, keys_wScale]

end Weights
