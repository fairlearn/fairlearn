/-
Helper lemmas for `Model/Moments.lean` (C06, C07): algebra of `dot` and of sums over aligned lists, index
membership, the specification-level `meanOn`, the columns of `U` against a vector, and the projection of multiplier pairs.
-/
import FairModel.Lemmas.Prelude
import FairModel.Model.Moments

namespace Moments

/-! ### vocabulary of the property statements -/

/-- a pair is *observed*: some row carries this event and this group -/
def Observed (ev : Ev) (rows : List Row) (e g : String) : Prop := ∃ r ∈ rows, ev r = some e ∧ r.g = g

/-- mean of the values `u` (aligned with the rows) over the rows satisfying `p` -/
def meanOn (p : Row → Bool) (rows : List Row) (u : List Rat) : Rat :=
  dot (rows.map (fun r => ind (p r))) u / ((rows.filter p).length : Rat)

def posPart (w : List Rat) : Rat := (w.map (fun x => if 0 < x then x else 0)).sum

/-- every entry is 0 or 1 -/
def Hard (h : List Rat) : Prop := ∀ x ∈ h, x = 0 ∨ x = 1

/-- every entry is in [0,1] -/
def Soft (h : List Rat) : Prop := ∀ x ∈ h, 0 ≤ x ∧ x ≤ 1


/-! ### dedup / sort -/

theorem mem_dedupFirst {α} [DecidableEq α] (a : α) (l : List α) : a ∈ dedupFirst l ↔ a ∈ l := by
  induction l with
  | nil => simp [dedupFirst]
  | cons x xs ih =>
    simp only [dedupFirst, List.mem_cons, List.mem_filter, ih]
    by_cases h : a = x <;> simp [h]

theorem nodup_dedupFirst {α} [DecidableEq α] (l : List α) : (dedupFirst l).Nodup := by
  induction l with
  | nil => simp [dedupFirst]
  | cons x xs ih =>
    simp only [dedupFirst, List.nodup_cons, List.mem_filter]
    exact ⟨by simp, ih.filter _⟩

theorem insertBy_eq_orderedInsert {α} (le : α → α → Bool) (x : α) (l : List α) :
    insertBy le x l = l.orderedInsert (le · ·) x := by
  induction l with
  | nil => rfl
  | cons y ys ih => unfold insertBy; rw [List.orderedInsert_cons, ih]

theorem sortBy_eq_insertionSort {α} (le : α → α → Bool) (l : List α) : sortBy le l = l.insertionSort (le · ·) :=
  congrArg (List.foldr · [] l) (funext₂ (insertBy_eq_orderedInsert le))

theorem sortBy_perm {α} (le : α → α → Bool) (l : List α) : (sortBy le l).Perm l :=
  sortBy_eq_insertionSort le l ▸ List.perm_insertionSort _ l

theorem mem_sortedDistinct {α} [DecidableEq α] (le : α → α → Bool) (a : α) (l : List α) :
    a ∈ sortedDistinct le l ↔ a ∈ l := by
  unfold sortedDistinct
  rw [(sortBy_perm le _).mem_iff, mem_dedupFirst]

theorem nodup_sortedDistinct {α} [DecidableEq α] (le : α → α → Bool) (l : List α) :
    (sortedDistinct le l).Nodup := by
  unfold sortedDistinct
  rw [(sortBy_perm le _).nodup_iff]; exact nodup_dedupFirst l

/-! ### insertion sort with a total order yields THE sorted list -/

section sort
variable {α : Type} (le : α → α → Bool)
  (htot : ∀ a b, le a b = true ∨ le b a = true)
  (htr : ∀ a b c, le a b = true → le b c = true → le a c = true)

include htot htr in
theorem pairwise_sortBy (l : List α) : (sortBy le l).Pairwise (fun a b => le a b = true) :=
  have : Std.Total (le · ·) := ⟨htot⟩
  have : IsTrans α (le · ·) := ⟨htr⟩
  sortBy_eq_insertionSort le l ▸ List.pairwise_insertionSort _ l

include htot htr in
/-- `sortedDistinct` depends only on the SET of values: two sorted duplicate-free lists with the same members -/
theorem sortedDistinct_congr [DecidableEq α] (hanti : ∀ a b, le a b = true → le b a = true → a = b)
    {l l' : List α} (hm : ∀ x, x ∈ l ↔ x ∈ l') : sortedDistinct le l = sortedDistinct le l' :=
  have hd : (dedupFirst l).Perm (dedupFirst l') :=
    (List.perm_ext_iff_of_nodup (nodup_dedupFirst l) (nodup_dedupFirst l')).mpr fun x => by
      rw [mem_dedupFirst, mem_dedupFirst]; exact hm x
  (((sortBy_perm le _).trans hd).trans (sortBy_perm le _).symm).eq_of_pairwise (fun a b _ _ => hanti a b)
    (pairwise_sortBy le htot htr _) (pairwise_sortBy le htot htr _)

end sort

/-! ### the two orders of the moments' indices (`strLe`, `pairLe`) are total orders -/

theorem strLe_total (a b : String) : strLe a b = true ∨ strLe b a = true := by
  simp only [strLe, decide_eq_true_eq]; exact String.le_total a b

theorem strLe_trans (a b c : String) : strLe a b = true → strLe b c = true → strLe a c = true := by
  simp only [strLe, decide_eq_true_eq]; exact String.le_trans

theorem strLe_antisymm (a b : String) : strLe a b = true → strLe b a = true → a = b := by
  simp only [strLe, decide_eq_true_eq]; exact String.le_antisymm

theorem pairLe_iff (a b : String × String) : pairLe a b = true ↔ a.1 < b.1 ∨ (a.1 = b.1 ∧ a.2 ≤ b.2) := by
  simp [pairLe]

theorem pairLe_total (a b : String × String) : pairLe a b = true ∨ pairLe b a = true := by
  rw [pairLe_iff, pairLe_iff]
  by_cases h1 : a.1 < b.1
  · exact Or.inl (Or.inl h1)
  by_cases h2 : b.1 < a.1
  · exact Or.inr (Or.inl h2)
  have he : a.1 = b.1 := String.le_antisymm (String.not_lt.mp h2) (String.not_lt.mp h1)
  rcases String.le_total a.2 b.2 with h | h
  · exact Or.inl (Or.inr ⟨he, h⟩)
  · exact Or.inr (Or.inr ⟨he.symm, h⟩)

theorem pairLe_trans (a b c : String × String) : pairLe a b = true → pairLe b c = true → pairLe a c = true := by
  rw [pairLe_iff, pairLe_iff, pairLe_iff]
  rintro (h1 | ⟨h1, h1'⟩) (h2 | ⟨h2, h2'⟩)
  · exact Or.inl (String.lt_trans h1 h2)
  · exact Or.inl (h2 ▸ h1)
  · exact Or.inl (h1 ▸ h2)
  · exact Or.inr ⟨h1.trans h2, String.le_trans h1' h2'⟩

theorem pairLe_antisymm (a b : String × String) : pairLe a b = true → pairLe b a = true → a = b := by
  rw [pairLe_iff, pairLe_iff]
  rintro (h1 | ⟨h1, h1'⟩) (h2 | ⟨h2, h2'⟩)
  · exact absurd h2 (String.lt_asymm h1)
  · rw [h2] at h1; exact absurd h1 (String.lt_irrefl _)
  · rw [h1] at h2; exact absurd h2 (String.lt_irrefl _)
  · exact Prod.ext h1 (String.le_antisymm h1' h2')

/-! ### sums over aligned lists and dot products

`zipWith f l l'` is `map (uncurry f) (zip l l')`, so sums of `zipWith`s add, scale and are compared member by member
without any length hypothesis.  Where lengths matter they are used as `cases hl` (a `nil` against a `cons`) and
`Nat.succ.inj hl` (the step). -/

theorem zipWith_congr_mem {α β γ} (f g : α → β → γ) (l : List α) (l' : List β)
    (h : ∀ a ∈ l, ∀ b ∈ l', f a b = g a b) : List.zipWith f l l' = List.zipWith g l l' := by
  rw [← List.map_uncurry_zip_eq_zipWith, ← List.map_uncurry_zip_eq_zipWith]
  exact List.map_congr_left fun t ht => h t.1 (List.of_mem_zip ht).1 t.2 (List.of_mem_zip ht).2

theorem sum_zipWith_add {α β} (f g : α → β → Rat) (l : List α) (l' : List β) :
    (List.zipWith (fun a b => f a b + g a b) l l').sum = (List.zipWith f l l').sum + (List.zipWith g l l').sum := by
  simp only [← List.map_uncurry_zip_eq_zipWith, ← List.sum_map_add]; rfl

theorem sum_zipWith_mul_left {α β} (c : Rat) (f : α → β → Rat) (l : List α) (l' : List β) :
    (List.zipWith (fun a b => c * f a b) l l').sum = c * (List.zipWith f l l').sum := by
  simp only [← List.map_uncurry_zip_eq_zipWith, ← List.sum_map_mul_left]; rfl

theorem zipWith_left_only {α β γ} (φ : α → γ) (l : List α) (l' : List β) (hl : l'.length = l.length) :
    List.zipWith (fun a _ => φ a) l l' = l.map φ := by
  induction l generalizing l' with
  | nil => rfl
  | cons a as ih => cases l' with
    | nil => cases hl
    | cons b bs => rw [List.zipWith_cons_cons, ih bs (Nat.succ.inj hl), List.map_cons]

@[simp] theorem dot_nil_left (b : List Rat) : dot [] b = 0 := by simp [dot]
@[simp] theorem dot_nil_right (a : List Rat) : dot a [] = 0 := by simp [dot]
@[simp] theorem dot_cons (x y : Rat) (a b : List Rat) : dot (x :: a) (y :: b) = x * y + dot a b := by
  simp [dot]

theorem dot_comm (a b : List Rat) : dot a b = dot b a := by
  rw [dot, dot, List.zipWith_comm]
  exact congrArg (fun f => (List.zipWith f b a).sum) (funext fun x => funext fun y => mul_comm y x)

theorem dot_append (a b c d : List Rat) (h : a.length = c.length) :
    dot (a ++ b) (c ++ d) = dot a c + dot b d := by
  induction a generalizing c with
  | nil => cases c with
    | nil => simp
    | cons y ys => cases h
  | cons x xs ih => cases c with
    | nil => cases h
    | cons y ys => simp only [List.cons_append, dot_cons, ih ys (Nat.succ.inj h), add_assoc]

theorem dot_map_add {α} (f g : α → Rat) (l : List α) (v : List Rat) :
    dot (l.map (fun a => f a + g a)) v = dot (l.map f) v + dot (l.map g) v := by
  simp only [dot, List.zipWith_map_left, add_mul, sum_zipWith_add]

theorem dot_map_smul {α} (c : Rat) (f : α → Rat) (l : List α) (v : List Rat) :
    dot (l.map (fun a => c * f a)) v = c * dot (l.map f) v := by
  simp only [dot, List.zipWith_map_left, mul_assoc, sum_zipWith_mul_left]

theorem dot_map_zero {α} (l : List α) (v : List Rat) : dot (l.map (fun _ => (0 : Rat))) v = 0 := by
  simpa using dot_map_smul 0 (fun _ => 0) l v

theorem dot_map_congr {α} (f g : α → Rat) (l : List α) (v : List Rat) (h : ∀ a ∈ l, f a = g a) :
    dot (l.map f) v = dot (l.map g) v := by
  rw [List.map_congr_left h]

theorem dot_map_add_right (ws : List Rat) {α} (l : List α) (f g : α → Rat) :
    dot ws (l.map (fun a => f a + g a)) = dot ws (l.map f) + dot ws (l.map g) := by
  rw [dot_comm, dot_map_add, dot_comm _ ws, dot_comm _ ws]

theorem dot_map_smul_right (ws : List Rat) {α} (l : List α) (c : Rat) (f : α → Rat) :
    dot ws (l.map (fun a => c * f a)) = c * dot ws (l.map f) := by
  rw [dot_comm, dot_map_smul, dot_comm]

theorem dot_smul_right (v h : List Rat) (c : Rat) : dot v (h.map (fun x => c * x)) = c * dot v h := by
  simpa using dot_map_smul_right v h c id

theorem dot_zeros (v : List Rat) (n : Nat) : dot v (List.replicate n 0) = 0 := by
  induction v generalizing n with
  | nil => rfl
  | cons x xs ih => cases n with
    | zero => rfl
    | succ m => simp [List.replicate_succ, ih m]

theorem dot_nonneg (a b : List Rat) (ha : ∀ x ∈ a, 0 ≤ x) (hb : ∀ x ∈ b, 0 ≤ x) : 0 ≤ dot a b := by
  induction a generalizing b with
  | nil => rfl
  | cons x xs ih =>
    cases b with
    | nil => rfl
    | cons y ys =>
      rw [dot_cons]
      exact add_nonneg (mul_nonneg (ha x List.mem_cons_self) (hb y List.mem_cons_self))
        (ih ys (fun z hz => ha z (List.mem_cons_of_mem _ hz)) (fun z hz => hb z (List.mem_cons_of_mem _ hz)))

theorem dot_ones_right (v : List Rat) : dot v (List.replicate v.length 1) = v.sum := by
  induction v with
  | nil => rfl
  | cons x xs ih => rw [List.length_cons, List.replicate_succ, dot_cons, ih, mul_one, List.sum_cons]

theorem dot_map_zipWith_eq_sum {α β} (f : α → Rat) (g : α → β → Rat) (l : List α) (l' : List β) :
    dot (l.map f) (List.zipWith g l l') = (List.zipWith (fun a b => f a * g a b) l l').sum := by
  induction l generalizing l' with
  | nil => rfl
  | cons a as ih => cases l' with
    | nil => rfl
    | cons b bs => rw [List.map_cons, List.zipWith_cons_cons, dot_cons, ih bs, List.zipWith_cons_cons, List.sum_cons]

/-- a vector computed row by row from `l` and an aligned vector `h`, paired again with `l`: one map over the zipped
    pairs — the form in which a joint permutation of `l` and `h` acts (`List.Perm.map`, `List.Perm.sum_eq`) -/
theorem zipWith_zipWith_self {β γ δ ε : Type} (f : β → δ → ε) (g : β → γ → δ) (l : List β) (h : List γ) :
    List.zipWith f l (List.zipWith g l h) = (l.zip h).map (fun p => f p.1 (g p.1 p.2)) := by
  induction l generalizing h with
  | nil => rfl
  | cons r rs ih =>
    cases h with
    | nil => rfl
    | cons x xs => rw [List.zipWith_cons_cons, List.zipWith_cons_cons, ih, List.zip_cons_cons, List.map_cons]

theorem zip_fst_perm {β γ : Type} {a a' : List β} {b b' : List γ} (hl : a.length = b.length)
    (hl' : a'.length = b'.length) (hp : (a.zip b).Perm (a'.zip b')) : a.Perm a' := by
  have h1 := hp.map Prod.fst
  rwa [List.map_fst_zip (Nat.le_of_eq hl), List.map_fst_zip (Nat.le_of_eq hl')] at h1

/-- values computed row by row travel with their rows; `F'` is `F` computed from the permuted data -/
theorem zip_map_perm {β γ : Type} {l l' : List β} (hp : l.Perm l') (F F' : β → γ) (h : ∀ r, F r = F' r) :
    (l.zip (l.map F)).Perm (l'.zip (l'.map F')) := by
  have self : ∀ (G : β → γ) (l : List β), l.zip (l.map G) = l.map (fun r => (r, G r)) := fun G l => by
    induction l with
    | nil => rfl
    | cons a l ih => rw [List.map_cons, List.zip_cons_cons, ih, List.map_cons]
  rw [self, self, ← funext h]
  exact hp.map _

theorem vsub_eq_zip (ys h : List Rat) : vsub ys h = (ys.zip h).map (fun p => p.1 - p.2) :=
  (List.map_zip_eq_zipWith (f := fun p : Rat × Rat => p.1 - p.2)).symm

theorem sum_zipWith_affine {α} (a b : α → Rat) (l : List α) (h : List Rat) (hl : h.length = l.length) :
    (List.zipWith (fun r p => a r * p + b r) l h).sum = dot (l.map a) h + (l.map b).sum := by
  rw [sum_zipWith_add, zipWith_left_only _ l h hl, dot, List.zipWith_map_left]

theorem dot_map_affine {α} (f a b : α → Rat) (l : List α) (h : List Rat) (hl : h.length = l.length) :
    dot (l.map f) (List.zipWith (fun r p => a r * p + b r) l h)
      = dot (l.map (fun r => a r * f r)) h + (l.map (fun r => f r * b r)).sum := by
  rw [dot_map_zipWith_eq_sum, ← sum_zipWith_affine _ _ l h hl]
  exact congrArg List.sum (congrArg (List.zipWith · l h) (funext fun r => funext fun p => by ring))

theorem dot_sub_right (w a b : List Rat) (hab : a.length = b.length) :
    dot w a - dot w b = dot w (vsub a b) := by
  induction w generalizing a b with
  | nil => simp
  | cons x xs ih =>
    cases a with
    | nil => cases b with
      | nil => simp [vsub]
      | cons _ _ => cases hab
    | cons p ps => cases b with
      | nil => cases hab
      | cons q qs =>
        rw [vsub, List.zipWith_cons_cons, dot_cons, dot_cons, dot_cons, ← vsub, ← ih ps qs (Nat.succ.inj hab)]
        ring

theorem dot_congr_on {α} (f : α → Rat) (l : List α) (u u' : List Rat)
    (hl : u.length = l.length) (hl' : u'.length = l.length)
    (h : ∀ t ∈ l.zip (u.zip u'), f t.1 ≠ 0 → t.2.1 = t.2.2) :
    dot (l.map f) u = dot (l.map f) u' := by
  induction l generalizing u u' with
  | nil => rfl
  | cons x xs ih =>
    cases u with
    | nil => cases hl
    | cons p ps =>
      cases u' with
      | nil => cases hl'
      | cons p' ps' =>
        rw [List.map_cons, dot_cons, dot_cons,
          ih ps ps' (Nat.succ.inj hl) (Nat.succ.inj hl') (fun t ht => h t (List.mem_cons_of_mem _ ht))]
        by_cases hx : f x = 0
        · rw [hx, zero_mul, zero_mul]
        · have hpp : p = p' := h (x, p, p') List.mem_cons_self hx
          rw [hpp]

/-! ### counting -/

theorem ind_mul (a b : Bool) : ind a * ind b = ind (a && b) := by
  cases a <;> cases b <;> decide +kernel

theorem ind_nonneg (a : Bool) : 0 ≤ ind a := by cases a <;> [exact le_refl _; exact zero_le_one]

theorem ind_sq (a : Bool) : ind a * ind a = ind a := by cases a <;> decide +kernel

theorem inEG_eq (ev : Ev) (e g : String) (r : Row) : inEG ev e g r = (inE ev e r && (r.g == g)) := rfl

theorem mem_pairs (ev : Ev) (rows : List Row) (e g : String) :
    (e, g) ∈ pairs ev rows ↔ ∃ r ∈ rows, ev r = some e ∧ r.g = g := by
  unfold pairs
  simp only [List.mem_filterMap, Option.map_eq_some_iff, Prod.mk.injEq]
  constructor
  · rintro ⟨r, hr, e', he', rfl, rfl⟩; exact ⟨r, hr, he', rfl⟩
  · rintro ⟨r, hr, he, rfl⟩; exact ⟨r, hr, e, he, rfl, rfl⟩

theorem mem_observedPairs (ev : Ev) (rows : List Row) (e g : String) :
    (e, g) ∈ observedPairs ev rows ↔ Observed ev rows e g := by
  unfold observedPairs Observed
  rw [mem_sortedDistinct, mem_pairs]

theorem nodup_observedPairs (ev : Ev) (rows : List Row) : (observedPairs ev rows).Nodup :=
  nodup_sortedDistinct _ _

theorem countEG_pos (ev : Ev) (rows : List Row) (e g : String) (h : Observed ev rows e g) :
    0 < countEG ev rows e g := by
  obtain ⟨r, hr, he, hg⟩ := h
  unfold countEG
  apply List.length_pos_of_mem (a := r)
  simp [List.mem_filter, hr, inEG, he, hg]

theorem countE_pos (ev : Ev) (rows : List Row) (e g : String) (h : Observed ev rows e g) :
    0 < countE ev rows e := by
  obtain ⟨r, hr, he, _⟩ := h
  unfold countE
  apply List.length_pos_of_mem (a := r)
  simp [List.mem_filter, hr, inE, he]

theorem rows_pos (ev : Ev) (rows : List Row) (e g : String) (h : Observed ev rows e g) :
    0 < rows.length := by
  obtain ⟨r, hr, _, _⟩ := h
  exact List.length_pos_of_mem hr

/-! ### specification-level means -/

theorem meanOn_congr (p q : Row → Bool) (rows : List Row) (u : List Rat) (h : ∀ r ∈ rows, p r = q r) :
    meanOn p rows u = meanOn q rows u := by
  unfold meanOn
  rw [List.filter_congr h]
  congr 2
  exact List.map_congr_left (fun r hr => by rw [h r hr])

/-- a column `a/P(e) · 1[e] + b/P(e,g) · 1[e,g]` against any vector is `n · (a · mean_e + b · mean_{e,g})`
    (`x / (c/n) = n·(x/c)` also when a count is 0, so no side condition) -/
theorem dot_event_column (ev : Ev) (rows : List Row) (a b : Rat) (e g : String) (u : List Rat) :
    dot (rows.map (fun r => a / probE ev rows e * ind (inE ev e r) + b / probEG ev rows e g * ind (inEG ev e g r))) u
      = (rows.length : Rat) * (a * meanOn (inE ev e) rows u + b * meanOn (inEG ev e g) rows u) := by
  have key : ∀ x c : Rat, x / (c / (rows.length : Rat)) = (rows.length : Rat) * (x / c) := by
    intro x c; rw [div_div_eq_mul_div]; ring
  rw [dot_map_add, dot_map_smul, dot_map_smul, probE, probEG, key, key]
  unfold meanOn countE countEG; ring

theorem dot_uPlus (ev : Ev) (rows : List Row) (ratio : Rat) (e g : String) (u : List Rat) :
    dot (uCol ev rows ratio ⟨.plus, e, g⟩) u
      = (rows.length : Rat) * (meanOn (inE ev e) rows u - ratio * meanOn (inEG ev e g) rows u) := by
  have : (fun r : Row => uEntry ev rows ratio r ⟨.plus, e, g⟩)
       = (fun r : Row => 1 / probE ev rows e * ind (inE ev e r) + -ratio / probEG ev rows e g * ind (inEG ev e g r)) := by
    funext r; simp only [uEntry, MomentsSrc.uPlus, ind_mul, ← inEG_eq]; ring
  rw [uCol, this, dot_event_column]; ring

theorem dot_uMinus (ev : Ev) (rows : List Row) (ratio : Rat) (e g : String) (u : List Rat) :
    dot (uCol ev rows ratio ⟨.minus, e, g⟩) u
      = (rows.length : Rat) * (meanOn (inEG ev e g) rows u - ratio * meanOn (inE ev e) rows u) := by
  have : (fun r : Row => uEntry ev rows ratio r ⟨.minus, e, g⟩)
       = (fun r : Row => -ratio / probE ev rows e * ind (inE ev e r) + 1 / probEG ev rows e g * ind (inEG ev e g r)) := by
    funext r; simp only [uEntry, MomentsSrc.uMinus, ind_mul, ← inEG_eq]; ring
  rw [uCol, this, dot_event_column]; ring

theorem uEntry_of_no_event (ev : Ev) (rows : List Row) (ratio : Rat) (r : Row) (k : Key) (h : ev r = none) :
    uEntry ev rows ratio r k = 0 := by
  have : ind (inE ev k.event r) = 0 := by rw [inE, h]; rfl
  unfold uEntry
  cases k.sign <;> simp only [this, MomentsSrc.uPlus, MomentsSrc.uMinus, zero_mul, mul_zero, zero_div, add_zero]

theorem uEntry_minus_ratio_one (ev : Ev) (rows : List Row) (r : Row) (e g : String) :
    uEntry ev rows 1 r ⟨.minus, e, g⟩ = - uEntry ev rows 1 r ⟨.plus, e, g⟩ := by
  simp only [uEntry, MomentsSrc.uPlus, MomentsSrc.uMinus]; ring

/-! ### projection of multiplier pairs -/

/-- the conditional form in which the lifted sources write a maximum -/
theorem ite_lt_eq_max (x lo : Rat) : (if x < lo then lo else x) = max x lo := by
  split
  · next h => rw [max_eq_right h.le]
  · next h => rw [max_eq_left (not_lt.mp h)]

theorem clip0_eq_max (x : Rat) : clip0 x = max x 0 := ite_lt_eq_max x 0

theorem clip0_nonneg (x : Rat) : 0 ≤ clip0 x := by rw [clip0_eq_max]; exact le_max_right _ _

theorem clip0_sub (x : Rat) : clip0 x - clip0 (-x) = x := by
  rw [clip0_eq_max, clip0_eq_max]
  rcases le_total 0 x with h | h
  · rw [max_eq_left h, max_eq_right (neg_nonpos.mpr h), sub_zero]
  · rw [max_eq_right h, max_eq_left (neg_nonneg.mpr h), zero_sub, neg_neg]

theorem clip0_add_le (a b : Rat) (ha : 0 ≤ a) (hb : 0 ≤ b) : clip0 (a - b) + clip0 (-(a - b)) ≤ a + b := by
  rw [clip0_eq_max, clip0_eq_max, max_zero_add_max_neg_zero_eq_abs_self]
  exact (abs_sub a b).trans_eq (by rw [abs_of_nonneg ha, abs_of_nonneg hb])

/-! the LIFTED text of `UtilityParity.project_lambda` (`Generated/ProjectLambdaSrc.lean`) against the closed forms the
    proofs use: a change of a sign, of the clip threshold / replacement value, of the order "negate, then clip" or of the
    `ratio == 1.0` guard in the source breaks exactly these lemmas (and with them C07 `project_lambda_*`) -/

theorem src_posOf_clip0 (a b : Rat) : ProjectLambdaSrc.posOf a b = clip0 (a - b) := rfl

theorem src_negOf_clip0 (a b : Rat) : ProjectLambdaSrc.negOf a b = clip0 (-(a - b)) := rfl

theorem src_projects_iff (ratio : Rat) : ProjectLambdaSrc.projects ratio = true ↔ ratio = 1 := by
  simp [ProjectLambdaSrc.projects]

/-- one pair against `(g − ε, −g − ε)`: the projected pair has the same difference and a sum that is not larger -/
theorem project_pair_le (eps a b g : Rat) (heps : 0 ≤ eps) (ha : 0 ≤ a) (hb : 0 ≤ b) :
    a * (g - eps) + b * (-g - eps) ≤ clip0 (a - b) * (g - eps) + clip0 (-(a - b)) * (-g - eps) := by
  have key : clip0 (a - b) * (g - eps) + clip0 (-(a - b)) * (-g - eps)
      = a * (g - eps) + b * (-g - eps) + (a + b - (clip0 (a - b) + clip0 (-(a - b)))) * eps := by
    rw [sub_eq_iff_eq_add.mp (clip0_sub (a - b))]; ring
  rw [key]
  exact le_add_of_nonneg_right (mul_nonneg (sub_nonneg.mpr (clip0_add_le a b ha hb)) heps)

/-- pairwise form of the projection inequality for ratio 1 (`gm = -gp`) -/
theorem project_pairs_le (eps : Rat) (heps : 0 ≤ eps) (lp lm gp : List Rat)
    (hp : ∀ x ∈ lp, 0 ≤ x) (hm : ∀ x ∈ lm, 0 ≤ x)
    (h1 : lp.length = gp.length) (h2 : lm.length = gp.length) :
    dot lp (gp.map (fun x => x - eps)) + dot lm (gp.map (fun x => -x - eps))
      ≤ dot ((List.zipWith (· - ·) lp lm).map clip0) (gp.map (fun x => x - eps))
        + dot ((List.zipWith (· - ·) lp lm).map (fun x => clip0 (-x))) (gp.map (fun x => -x - eps)) := by
  induction gp generalizing lp lm with
  | nil => simp
  | cons g gs ih =>
    cases lp with
    | nil => cases h1
    | cons a as =>
      cases lm with
      | nil => cases h2
      | cons b bs =>
        have := add_le_add
          (project_pair_le eps a b g heps (hp a List.mem_cons_self) (hm b List.mem_cons_self))
          (ih as bs (fun x hx => hp x (List.mem_cons_of_mem _ hx)) (fun x hx => hm x (List.mem_cons_of_mem _ hx))
            (Nat.succ.inj h1) (Nat.succ.inj h2))
        simp only [List.map_cons, List.zipWith_cons_cons, dot_cons]
        rw [add_add_add_comm, add_add_add_comm (clip0 (a - b) * (g - eps))]
        exact this

/-! ### hard and soft predictions; the lifted absolute value -/

theorem Hard.soft {h : List Rat} (hh : Hard h) : Soft h := by
  intro x hx; rcases hh x hx with rfl | rfl <;> constructor <;> norm_num

/-- each generated file carries its own copy of `absR` (`MomentsSrc`, `OracleSrc`, `LossRange`): the same text, hence
    `Oracle.absR_eq` and `lr_absR_eq` beside this one -/
theorem absR_eq (x : Rat) : MomentsSrc.absR x = |x| := by
  unfold MomentsSrc.absR; split
  · next h => rw [abs_of_neg h]
  · next h => rw [abs_of_nonneg (not_lt.mp h)]

theorem vsub_zeros (h : List Rat) : vsub h (List.replicate h.length 0) = h := by
  induction h with
  | nil => rfl
  | cons x xs ih => rw [List.length_cons, List.replicate_succ, vsub, List.zipWith_cons_cons, ← vsub, ih, sub_zero]

theorem hard_replicate (n : Nat) (c : Rat) (hc : c = 0 ∨ c = 1) : Hard (List.replicate n c) := by
  intro x hx
  rw [(List.mem_replicate.mp hx).2]; exact hc

end Moments
