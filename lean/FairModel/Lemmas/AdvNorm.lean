/-
The norm kind of C16: the norm that normalises dLA/dW is LIFTED (`AdvProjection.NormKind`, `torchNorm`, `tfNorm`); the model
(`Adversarial.gradWithN`, `engineGradN`) computes WITH it.  This file: the three norms themselves (they vanish on the same
tensors and are ordered); what is true for EVERY norm kind and what needs the 2-norm is in
`Properties/C16.lean`.
-/
import FairModel.Lemmas.Adversarial

namespace Adversarial
open AdvProjection

/-! ### the model with a norm kind: its Frobenius instance, its two branches -/

theorem gradWithN_frobenius (k : InnerKind) (A B : Mat) (α : Rat) :
    gradWithN k .frobenius A B α = gradWith k A B α := rfl

theorem engineGradN_frobenius (k : InnerKind) (t : TinyKind) (A B : Mat) (α : Rat) :
    engineGradN k .frobenius t A B α = engineGrad k t A B α := rfl

theorem engineGradN_nonzero (k : InnerKind) (n : NormKind) (t : TinyKind) (A B : Mat) (α : Rat) (hB : frob B B ≠ 0) :
    engineGradN k n t A B α = some (gradWithN k n A B α) := by
  simp [engineGradN, hB]

theorem engineGradN_zero (k : InnerKind) (n : NormKind) (A B : Mat) (α : Rat) (hB : frob B B = 0) :
    engineGradN k n .float32 A B α = some A ∧ engineGradN k n .float64 A B α = none := by
  simp [engineGradN, hB]

/-! ### `absR`, `maxR` are `|·|`, `max` -/

theorem absR_eq_abs (x : Rat) : absR x = |x| := by
  unfold absR
  split
  · next h => rw [abs_of_neg h]
  · next h => rw [abs_of_nonneg (not_lt.mp h)]

theorem maxR_eq_max (x y : Rat) : maxR x y = max x y := by
  unfold maxR
  split
  · next h => rw [max_eq_right (le_of_lt h)]
  · next h => rw [max_eq_left (not_lt.mp h)]

theorem absR_mul_self (x : Rat) : absR x * absR x = x * x := by
  rw [absR_eq_abs]; exact abs_mul_abs_self x

theorem absR_nonneg (x : Rat) : 0 ≤ absR x := by rw [absR_eq_abs]; exact abs_nonneg x

theorem absR_eq_zero (x : Rat) : absR x = 0 ↔ x = 0 := by rw [absR_eq_abs]; exact abs_eq_zero

/-! ### L1 and max-abs norm: non-negative, zero exactly on the zero tensor -/

theorem sum_absR_nonneg (v : Vec) : 0 ≤ (v.map absR).sum := by
  induction v with
  | nil => exact le_rfl
  | cons x xs ih => exact add_nonneg (absR_nonneg x) ih

theorem sum_absR_eq_zero (v : Vec) : (v.map absR).sum = 0 ↔ ∀ x ∈ v, x = 0 := by
  induction v with
  | nil => simp
  | cons x xs ih =>
    simp only [List.map_cons, List.sum_cons, List.mem_cons, forall_eq_or_imp, absR_eq_zero, ih,
      add_eq_zero_iff_of_nonneg (absR_nonneg x) (sum_absR_nonneg xs)]

theorem foldl_maxR_ge_acc (l : Vec) (acc : Rat) : acc ≤ l.foldl maxR acc := by
  induction l generalizing acc with
  | nil => exact le_rfl
  | cons x xs ih => exact le_trans (maxR_eq_max acc x ▸ le_max_left _ _) (ih (maxR acc x))

theorem foldl_maxR_ge_mem (l : Vec) (acc x : Rat) (hx : x ∈ l) : x ≤ l.foldl maxR acc := by
  induction l generalizing acc with
  | nil => cases hx
  | cons y ys ih =>
    rcases List.mem_cons.mp hx with rfl | h
    · exact le_trans (maxR_eq_max acc x ▸ le_max_right _ _) (foldl_maxR_ge_acc ys _)
    · exact ih _ h

theorem foldl_maxR_eq_acc_or_mem (l : Vec) (acc : Rat) : l.foldl maxR acc = acc ∨ l.foldl maxR acc ∈ l := by
  induction l generalizing acc with
  | nil => exact Or.inl rfl
  | cons y ys ih =>
    rw [List.foldl_cons, List.mem_cons]
    rcases ih (maxR acc y) with h | h
    · rw [h, maxR]
      split
      · exact Or.inr (Or.inl rfl)
      · exact Or.inl rfl
    · exact Or.inr (Or.inr h)

theorem maxAbs_nonneg (B : Mat) : 0 ≤ maxAbs B := foldl_maxR_ge_acc _ 0

/-- the max-abs norm is 0 (empty tensor) or the absolute value of an entry -/
theorem maxAbs_eq_zero_or_absR (B : Mat) : maxAbs B = 0 ∨ ∃ x ∈ flat B, maxAbs B = absR x := by
  rcases foldl_maxR_eq_acc_or_mem ((flat B).map absR) 0 with h | h
  · exact Or.inl h
  · obtain ⟨x, hx, hxe⟩ := List.mem_map.mp h
    exact Or.inr ⟨x, hx, hxe.symm⟩

theorem maxAbs_eq_zero (B : Mat) : maxAbs B = 0 ↔ ∀ x ∈ flat B, x = 0 := by
  constructor
  · intro h x hx
    have h1 := foldl_maxR_ge_mem _ 0 (absR x) (List.mem_map_of_mem (f := absR) hx)
    exact (absR_eq_zero x).mp (le_antisymm (h ▸ h1) (absR_nonneg x))
  · intro h
    rcases maxAbs_eq_zero_or_absR B with h0 | ⟨x, hx, hxe⟩
    · exact h0
    · rw [hxe, h x hx]; rfl

theorem l1_nonneg (B : Mat) : 0 ≤ l1 B := sum_absR_nonneg _

theorem l1_eq_zero (B : Mat) : l1 B = 0 ↔ ∀ x ∈ flat B, x = 0 := sum_absR_eq_zero _

/-- every lifted norm kind vanishes exactly when the tensor is zero: the zero branch of the loop body (`‖B‖ₙ = 0`, the
    regulariser `tiny` decides) is the same set of inputs for all of them -/
theorem normSq_eq_zero_iff (n : NormKind) (B : Mat) : normSq n B = 0 ↔ frob B B = 0 := by
  cases n
  · rfl
  · rw [normSq, mul_self_eq_zero, l1_eq_zero, frob_self_eq_zero_flat]
  · rw [normSq, mul_self_eq_zero, maxAbs_eq_zero, frob_self_eq_zero_flat]

theorem normSq_nonneg (n : NormKind) (B : Mat) : 0 ≤ normSq n B := by
  cases n
  · exact frob_self_nonneg B
  · exact mul_self_nonneg _
  · exact mul_self_nonneg _

/-! ### max-abs ≤ 2-norm ≤ L1 -/

theorem dot_self_le_sum_absR_sq (v : Vec) : dot v v ≤ (v.map absR).sum * (v.map absR).sum := by
  induction v with
  | nil => simp
  | cons x xs ih =>
    rw [dot_cons, List.map_cons, List.sum_cons, ← absR_mul_self x, add_mul_self_eq]
    exact add_le_add (le_add_of_nonneg_right
      (mul_nonneg (mul_nonneg zero_le_two (absR_nonneg x)) (sum_absR_nonneg xs))) ih

theorem mul_self_le_dot_self_of_mem (v : Vec) (x : Rat) (hx : x ∈ v) : x * x ≤ dot v v := by
  induction v with
  | nil => cases hx
  | cons y ys ih =>
    rcases List.mem_cons.mp hx with rfl | h
    · exact le_add_of_nonneg_right (dot_self_nonneg ys)
    · exact le_trans (ih h) (le_add_of_nonneg_left (mul_self_nonneg y))

theorem maxAbs_sq_le_frob (B : Mat) : maxAbs B * maxAbs B ≤ frob B B := by
  rw [frob_self_eq_dot]
  rcases maxAbs_eq_zero_or_absR B with h | ⟨x, hx, h⟩
  · rw [h, mul_zero]; exact dot_self_nonneg (flat B)
  · rw [h, absR_mul_self]; exact mul_self_le_dot_self_of_mem _ x hx

theorem frob_le_l1_sq (B : Mat) : frob B B ≤ l1 B * l1 B :=
  frob_self_eq_dot B ▸ dot_self_le_sum_absR_sq (flat B)

end Adversarial
