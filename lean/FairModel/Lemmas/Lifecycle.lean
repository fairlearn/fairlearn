/-
Generic facts about the `Lifecycle.Machine`s.  First the vocabulary the C19 statements use beside the model's (named rule
vectors, witness data sets, `maskPickle`, `PredictPure`) and the embeddings of the specification's states the proofs use.
Then: a relation kept by every step relates the states, results and views of two machines for every call history
(`runFrom_sim`, `view_eq_of_sim`; an invariant is the one-machine case, an embedding the functional case), so a machine whose
states are the image of the specification's under an embedding that commutes with every step *is* the specification.
Last: length facts about traces and the driver's columns.
-/
import FairModel.Lemmas.Prelude
import FairModel.Model.Lifecycle

namespace Lifecycle

def D1 : Data := ⟨1, 3⟩
def D2 : Data := ⟨2, 3⟩
/-- a data set with a different number of columns -/
def D2w : Data := ⟨2, 4⟩

def gsRepaired : GSRules := ⟨.repaired, .copyPerFit⟩
def egRepaired : EGRules := ⟨.copyPerFit, .repaired⟩
def gsReentrant : GSRules := ⟨.repaired, .reentrant⟩
def egReentrant : EGRules := ⟨.reentrant, .repaired⟩

/-! embeddings of the specification state into each machine (the states a *repaired* machine can reach) -/

def gsEmb (t : Option Data) : GSState := ⟨Moment.new, t.map some, t⟩

def egEmb (nuGiven : Bool) (t : Option Data) : EGState :=
  ⟨Moment.new, if nuGiven then some .given else none, t.isSome, t.map (fun d => (d, egFreshNu nuGiven d))⟩

def toEmb (t : Option Data) : TOState := ⟨[], t.map (fun d => ([d], d))⟩

def crEmb (t : Option Data) : CRState := ⟨t.map (·.width), t⟩

def advEmb : Option Data → AdvState
  | none => advInit
  | some d => ⟨true, true, some [d]⟩

namespace Machine
variable {σ τ : Type}

/-- the same machine with the *result* of `pickle` not looked at (its effect on the state is kept) -/
def maskPickle (M : Machine σ) : Machine σ where
  init := M.init
  step s o := match o with
    | .pickle => ((M.step s o).1, .ok)
    | _ => M.step s o

/-- a prediction leaves the modelled state alone -/
def PredictPure (M : Machine σ) : Prop := ∀ s k, (M.step s (.predict k)).1 = s

theorem runFrom_append (M : Machine σ) (s : σ) (a b : List Op) :
    M.runFrom s (a ++ b) = M.runFrom (M.runFrom s a) b := by
  simp [runFrom, List.foldl_append]

theorem run_snoc (M : Machine σ) (ops : List Op) (o : Op) :
    M.run (ops ++ [o]) = (M.step (M.run ops) o).1 := by
  simp [run, runFrom, List.foldl_append]

theorem run_single (M : Machine σ) (o : Op) : M.run [o] = (M.step M.init o).1 := rfl

/-- relational simulation on states: a relation kept by every step of a history relates the states at its end -/
theorem runFrom_sim (M : Machine σ) (N : Machine τ) (R : σ → τ → Prop) :
    ∀ (ops : List Op) (s : σ) (t : τ), (∀ s t, ∀ o ∈ ops, R s t → R (M.step s o).1 (N.step t o).1) →
      R s t → R (M.runFrom s ops) (N.runFrom t ops) := by
  intro ops
  induction ops with
  | nil => intro s t _ h; exact h
  | cons o os ih =>
    intro s t hstep h
    exact ih _ _ (fun s t o' ho' => hstep s t o' (List.mem_cons_of_mem _ ho')) (hstep s t o List.mem_cons_self h)

/-- the one-machine case; the invariant only has to survive the operations that occur in the history, so a hypothesis on
    the history (no `clone`, only data of one width) can be used in the step -/
theorem run_invariant (M : Machine σ) (P : σ → Prop) (ops : List Op)
    (hstep : ∀ s, ∀ o ∈ ops, P s → P (M.step s o).1) (h0 : P M.init) : P (M.run ops) :=
  runFrom_sim M M (fun s _ => P s) ops _ M.init (fun s _ => hstep s) h0

/-- relational simulation: related states stay related, give the same results and look the same -/
theorem view_eq_of_sim (M : Machine σ) (N : Machine τ) (R : σ → τ → Prop) (c : σ → Cls) (c' : τ → Cls)
    (h0 : R M.init N.init)
    (hstep : ∀ s t o, R s t → R (M.step s o).1 (N.step t o).1 ∧ (M.step s o).2 = (N.step t o).2)
    (hcls : ∀ s t, R s t → c s = c' t) (ops : List Op) :
    M.view c ops = N.view c' ops := by
  suffices ∀ s t, R s t → (M.traceFrom s ops).map (fun p => (p.1, c p.2)) = (N.traceFrom t ops).map (fun p => (p.1, c' p.2))
    from this _ _ h0
  induction ops with
  | nil => intro _ _ _; rfl
  | cons o os ih =>
    intro s t h
    obtain ⟨h1, h2⟩ := hstep s t o h
    simp only [traceFrom, List.map_cons]
    rw [h2, hcls _ _ h1, ih _ _ h1]

/-- functional simulation: if `emb` commutes with every step, it commutes with every history … -/
theorem run_eq_embed (M : Machine σ) (N : Machine τ) (emb : τ → σ) (h0 : M.init = emb N.init)
    (hstep : ∀ t o, (M.step (emb t) o).1 = emb (N.step t o).1) (ops : List Op) :
    M.run ops = emb (N.run ops) :=
  runFrom_sim M N (fun s t => s = emb t) ops _ _ (by rintro _ t o _ rfl; exact hstep t o) h0

/-- … and if results and observable classes agree too, the two machines show the same view -/
theorem view_eq_of_embed (M : Machine σ) (N : Machine τ) (emb : τ → σ) (c : σ → Cls) (c' : τ → Cls)
    (h0 : M.init = emb N.init)
    (hstep : ∀ t o, (M.step (emb t) o).1 = emb (N.step t o).1)
    (hres : ∀ t o, (M.step (emb t) o).2 = (N.step t o).2)
    (hcls : ∀ t, c (emb t) = c' t) (ops : List Op) :
    M.view c ops = N.view c' ops :=
  view_eq_of_sim M N (fun s t => s = emb t) c c' h0 (by rintro _ t o rfl; exact ⟨hstep t o, hres t o⟩)
    (by rintro _ t rfl; exact hcls t) ops

theorem spec_run_snoc_fit (ops : List Op) (d : Data) : Spec.run (ops ++ [.fit d]) = some d := by
  rw [run_snoc]; rfl

/-- a machine whose states are the image of the specification's is history free: after `fit d` its whole state is
    that of a first fit on `d` -/
theorem run_snoc_fit_of_embed (M : Machine σ) (emb : Option Data → σ) (h0 : M.init = emb none)
    (hstep : ∀ t o, (M.step (emb t) o).1 = emb (Spec.step t o).1) (ops : List Op) (d : Data) :
    M.run (ops ++ [.fit d]) = M.run [.fit d] := by
  rw [run_eq_embed M Spec emb h0 hstep, run_eq_embed M Spec emb h0 hstep, spec_run_snoc_fit]; rfl

/-! one record per operation: the driver output drops and invents nothing -/

/-- one trace record per operation: nothing is dropped or invented -/
theorem traceFrom_length (M : Machine σ) : ∀ (ops : List Op) (s : σ), (M.traceFrom s ops).length = ops.length := by
  intro ops
  induction ops with
  | nil => intro s; rfl
  | cons o os ih => intro s; simp [traceFrom, ih]

theorem view_length (M : Machine σ) (c : σ → Cls) (ops : List Op) : (M.view c ops).length = ops.length := by
  simp [view, trace, traceFrom_length]

/-- an operation whose step is the identity on states can be dropped from the end of a history -/
theorem run_snoc_of_step_id (M : Machine σ) (o : Op) (h : ∀ s, (M.step s o).1 = s) (ops : List Op) :
    M.run (ops ++ [o]) = M.run ops := by
  rw [run_snoc, h]

end Machine

/-- `changedCol` has one entry per operation, so the `zip` inside `fmtView` truncates nothing -/
theorem changedCol_length {σ π : Type} [DecidableEq π] (M : Machine σ) (params : σ → π) (name : String)
    (ops : List Op) : (changedCol M params name ops).length = ops.length := by
  simp only [changedCol, Machine.trace, List.length_map, List.length_zip, List.length_cons, Machine.traceFrom_length,
    Nat.min_eq_right (Nat.le_succ _)]

theorem onlyAtFit_length (ops : List Op) (cs : List String) (h : cs.length = ops.length) :
    (onlyAtFit ops cs).length = ops.length := by
  simp only [onlyAtFit, List.length_map, List.length_zip, h, Nat.min_self]

end Lifecycle
