import FairModel.Lemmas.EGLoop
import FairModel.Lemmas.LinProg

/-!
What `eval_gap` certifies, for the EG loop model: the `best_h` cache (`argmin`, `bestH`); membership of the stored
classifiers in a finite class (`IsMember`, `Members`); the multiplier loop of `eval_gap` (`evalLoop_induction`); from
`h_value` to the Lagrangian under `project_lambda` (`classValue`, `AntiSym`); which `eval_gap` call certified which
iterate (`StoreOK`, `CertInv`, `cert_at`); oracle-call counts (`CallsLe`).
-/
namespace EGLoop
open Saddle Finset

/-! ### `values.idxmin()` -/

/-- the lifted scan rule of `values.idxmin()` (`EGLoopGen.argBetter`): a later value wins only when strictly smaller -/
theorem argBetter_iff (v b : Rat) : EGLoopGen.argBetter v b = true ↔ v < b := by
  simp [EGLoopGen.argBetter]

/-- the scan invariant of `idxmin`: if `(bi, bv)` is a minimum, with its index, of the values `pre` scanned so far, the
    result is one of all of `pre ++ vs` -/
theorem argminFrom_spec : ∀ (vs pre : List Rat) (bi : Nat) (bv : Rat), bi < pre.length → pre.getD bi 0 = bv →
    (∀ v ∈ pre, bv ≤ v) →
    (argminFrom vs pre.length bi bv).1 < (pre ++ vs).length ∧
    (pre ++ vs).getD (argminFrom vs pre.length bi bv).1 0 = (argminFrom vs pre.length bi bv).2 ∧
    ∀ v ∈ pre ++ vs, (argminFrom vs pre.length bi bv).2 ≤ v
  | [], pre, bi, bv, h1, h2, h3 => by rw [List.append_nil]; exact ⟨h1, h2, h3⟩
  | v :: vs, pre, bi, bv, h1, h2, h3 => by
    have hlen : (pre ++ [v]).length = pre.length + 1 := List.length_append
    rw [List.append_cons, argminFrom, ← hlen]
    by_cases hlt : EGLoopGen.argBetter v bv = true
    · rw [if_pos hlt]
      have hlt := (argBetter_iff _ _).mp hlt
      exact argminFrom_spec vs (pre ++ [v]) pre.length v (hlen ▸ Nat.lt_succ_self _) (getD_snoc pre v 0)
        (forall_mem_snoc (fun w hw => hlt.le.trans (h3 w hw)) le_rfl)
    · rw [if_neg hlt]
      exact argminFrom_spec vs (pre ++ [v]) bi bv (hlen ▸ Nat.lt_succ_of_lt h1) ((getD_append_lt pre [v] 0 h1).trans h2)
        (forall_mem_snoc h3 (not_lt.mp fun h => hlt ((argBetter_iff _ _).mpr h)))

theorem argmin_spec (vals : List Rat) (b : Nat × Rat) (h : argmin vals = some b) :
    b.1 < vals.length ∧ vals.getD b.1 0 = b.2 ∧ ∀ v ∈ vals, b.2 ≤ v := by
  cases vals with
  | nil => cases h
  | cons v vs =>
    obtain rfl := Option.some.inj h
    exact argminFrom_spec vs [v] 0 v Nat.zero_lt_one rfl (fun w hw => (List.mem_singleton.mp hw).ge)

/-! ### `best_h` -/

/-- `best_h`, case by case: the oracle's answer is appended (and returned) when it beats every stored value at the
    multiplier asked by more than `_PRECISION`; otherwise the store is unchanged and the index returned is that of a
    stored minimum, whose value exceeds the answer's by at most `_PRECISION` -/
theorem bestH_cases (hs : List Hyp) (lam : List Rat) (h : Hyp) :
    (bestH hs lam h = (hs ++ [h], hs.length) ∧ ∀ g ∈ hs, storedValue lam h < storedValue lam g - EGGen.precision) ∨
    (∃ i, bestH hs lam h = (hs, i) ∧ i < hs.length ∧
      storedValue lam (hs.getD i default) ≤ storedValue lam h + EGGen.precision ∧
      ∀ g ∈ hs, storedValue lam (hs.getD i default) ≤ storedValue lam g) := by
  unfold bestH
  split
  · next hn =>
    cases hs with
    | nil => exact Or.inl ⟨rfl, nofun⟩
    | cons g gs => cases hn
  · next b hb =>
    obtain ⟨h1, h2, h3⟩ := argmin_spec _ b hb
    rw [List.length_map] at h1
    rw [List.getD_eq_getElem?_getD, List.getElem?_map, List.getElem?_eq_getElem h1] at h2
    replace h2 : storedValue lam (hs.getD b.1 default) = b.2 := by
      rw [List.getD_eq_getElem?_getD, List.getElem?_eq_getElem h1]; exact h2
    have h3 : ∀ g ∈ hs, b.2 ≤ storedValue lam g := fun g hg => h3 _ (List.mem_map_of_mem hg)
    split
    · next himp => exact Or.inl ⟨rfl, fun g hg => (of_decide_eq_true himp).trans_le (sub_le_sub_right (h3 g hg) _)⟩
    · next hnot =>
      refine Or.inr ⟨b.1, rfl, h1, ?_, h2 ▸ h3⟩
      rw [h2]
      exact sub_le_iff_le_add.mp (not_lt.mp fun hlt => hnot (decide_eq_true hlt))

theorem bestH_idx_lt (hs : List Hyp) (lam : List Rat) (h : Hyp) : (bestH hs lam h).2 < (bestH hs lam h).1.length := by
  rcases bestH_cases hs lam h with ⟨h1, _⟩ | ⟨i, h1, h2, _⟩ <;> rw [h1]
  · exact List.length_append ▸ Nat.lt_succ_self _
  · exact h2

theorem bestH_length_le (hs : List Hyp) (lam : List Rat) (h : Hyp) : hs.length ≤ (bestH hs lam h).1.length := by
  rcases bestH_cases hs lam h with ⟨h1, _⟩ | ⟨i, h1, _⟩ <;> rw [h1]
  exact List.length_append ▸ Nat.le_succ _

theorem bestH_length_le_succ (hs : List Hyp) (lam : List Rat) (h : Hyp) : (bestH hs lam h).1.length ≤ hs.length + 1 := by
  rcases bestH_cases hs lam h with ⟨h1, _⟩ | ⟨i, h1, _⟩ <;> rw [h1]
  · exact List.length_append.le
  · exact Nat.le_succ _

/-- the returned classifier's value at the multiplier asked is within `_PRECISION` of the oracle's answer, and it is a
    minimum over the store as it is after the call -/
theorem bestH_value (hs : List Hyp) (lam : List Rat) (h : Hyp) :
    storedValue lam ((bestH hs lam h).1.getD (bestH hs lam h).2 default) ≤ storedValue lam h + EGGen.precision ∧
    ∀ g ∈ (bestH hs lam h).1,
      storedValue lam ((bestH hs lam h).1.getD (bestH hs lam h).2 default) ≤ storedValue lam g := by
  rcases bestH_cases hs lam h with ⟨h1, h2⟩ | ⟨i, h1, _, h3, h4⟩ <;> rw [h1]
  · rw [show (hs ++ [h], hs.length).1.getD (hs ++ [h], hs.length).2 default = h from getD_snoc hs h default]
    exact ⟨le_add_of_nonneg_right precision_nonneg,
      forall_mem_snoc (fun g hg => (h2 g hg).le.trans (sub_le_self _ precision_nonneg)) le_rfl⟩
  · exact ⟨h3, h4⟩

/-! ### class membership of the stored classifiers -/

/-- `h` is classifier `i` of the (finite) hypothesis class described by the table `TC` -/
def IsMember (TC : Table) (h : Hyp) (i : Nat) : Prop :=
  i < TC.nH ∧ h.err = TC.err i ∧ h.gam.length = TC.nC ∧ ∀ j < TC.nC, h.gam.getD j 0 = TC.gam j i

def Members (TC : Table) (hs : List Hyp) : Prop := ∀ h ∈ hs, ∃ i, IsMember TC h i

theorem bestH_members (TC : Table) (hs : List Hyp) (lam : List Rat) (h : Hyp) (hm : Members TC hs)
    (hh : ∃ i, IsMember TC h i) : Members TC (bestH hs lam h).1 := by
  rcases bestH_cases hs lam h with ⟨h1, _⟩ | ⟨i, h1, _⟩ <;> rw [h1]
  · exact forall_mem_snoc hm hh
  · exact hm

theorem lPure_member (TC : Table) (c : List Rat) (hc : TC.nC = c.length) (hcc : TC.c = vec c) (hs : List Hyp)
    (lam : Nat → Rat) (k : Nat) (hk : k < hs.length) (i : Nat) (hm : IsMember TC (hs.getD k default) i) :
    lPure (tableOf c hs) lam k = lPure TC lam i := by
  rw [lPure_eq (tableOf c hs) lam k hk, lPure_eq TC lam i hm.1]
  show (hs.getD k default).err + ∑ j ∈ range c.length, lam j * ((hs.getD k default).gam.getD j 0 - vec c j) = _
  rw [hm.2.1, hc, hcc]
  congr 1
  apply Finset.sum_congr rfl
  intro j hj
  rw [hm.2.2.2 j (by rw [hc]; exact Finset.mem_range.mp hj)]

/-! ### the multiplier loop of eval_gap -/

/-- the lifted `L_low` update test of `eval_gap` (`EGGen.lowImproves`) -/
theorem lowImproves_iff (x l : Rat) : EGGen.lowImproves x l = true ↔ x < l := by
  simp [EGGen.lowImproves]

/-- `if L_low_mul < result.L_low: result.L_low = L_low_mul` keeps the smaller of the two -/
theorem updLow_eq (r : GapRes) (x : Rat) : updLow r x = { r with Llow := min r.Llow x } := by
  unfold updLow
  split
  · next h => rw [min_eq_right ((lowImproves_iff _ _).mp h).le]
  · next h => rw [min_eq_left (not_lt.mp fun hh => h ((lowImproves_iff _ _).mpr hh))]

theorem GapRes.gap_parts (r : GapRes) : r.L - r.Llow ≤ r.gap ∧ r.Lhigh - r.L ≤ r.gap := gapOf_parts _ _ _

/-- A relation between the multipliers still to be tried, the store, the call counter and the running result that
    one pass of the `for mul in [...]` loop preserves holds of what `eval_gap` returns (with the multipliers the early
    `break` left untried). -/
theorem evalLoop_induction (X : Ctx) (O : Nat → Hyp) (lamHat : List Rat) (I : List Rat → List Hyp → Nat → GapRes → Prop)
    (hstep : ∀ mul ms hs k r, I (mul :: ms) hs k r →
      I ms (bestH hs (lamHat.map (fun x => mul * x)) (O k)).1 (k + 1)
        (updLow r (lPure (tableOf X.c (bestH hs (lamHat.map (fun x => mul * x)) (O k)).1) (projLam X lamHat)
          (bestH hs (lamHat.map (fun x => mul * x)) (O k)).2))) :
    ∀ (ms : List Rat) (hs : List Hyp) (k : Nat) (r : GapRes), I ms hs k r →
      ∃ ms', I ms' (evalLoop X O lamHat ms hs k r).1 (evalLoop X O lamHat ms hs k r).2.1 (evalLoop X O lamHat ms hs k r).2.2
  | [], _, _, _, h => ⟨[], h⟩
  | mul :: ms, hs, k, r, h => by
    have h' := hstep mul ms hs k r h
    unfold evalLoop
    simp only []
    split
    · exact ⟨ms, h'⟩
    · exact evalLoop_induction X O lamHat I hstep ms _ _ _ h'

theorem evalLoop_fixed (X : Ctx) (O : Nat → Hyp) (lamHat : List Rat) (ms : List Rat) (hs : List Hyp) (k : Nat)
    (r : GapRes) : (evalLoop X O lamHat ms hs k r).2.2.L = r.L ∧ (evalLoop X O lamHat ms hs k r).2.2.Lhigh = r.Lhigh ∧
      (evalLoop X O lamHat ms hs k r).2.2.Llow ≤ r.Llow := by
  obtain ⟨_, h⟩ := evalLoop_induction X O lamHat (fun _ _ _ r' => r'.L = r.L ∧ r'.Lhigh = r.Lhigh ∧ r'.Llow ≤ r.Llow)
    (fun _ _ _ _ r' h => by rw [updLow_eq]; exact ⟨h.1, h.2.1, (min_le_left _ _).trans h.2.2⟩)
    ms hs k r ⟨rfl, rfl, le_rfl⟩
  exact h

theorem evalGap_fields (X : Ctx) (O : Nat → Hyp) (hs : List Hyp) (k : Nat) (Q lamHat : List Rat) :
    (evalGap X O hs k Q lamHat).2.2.L = lagr (tableOf X.c hs) (vec Q) (projLam X lamHat) ∧
    (evalGap X O hs k Q lamHat).2.2.Lhigh = lHigh (tableOf X.c hs) X.B (vec Q) ∧
    (evalGap X O hs k Q lamHat).2.2.Llow ≤ (evalGap X O hs k Q lamHat).2.2.L := by
  obtain ⟨h1, h2, h3⟩ := evalLoop_fixed X O lamHat EGGen.muls hs k
    ⟨lagr (tableOf X.c hs) (vec Q) (projLam X lamHat), lagr (tableOf X.c hs) (vec Q) (projLam X lamHat),
      lHigh (tableOf X.c hs) X.B (vec Q)⟩
  exact ⟨h1, h2, h3.trans_eq h1.symm⟩

theorem evalLoop_store_members (X : Ctx) (O : Nat → Hyp) (lamHat : List Rat) (TC : Table)
    (hO : ∀ k, ∃ i, IsMember TC (O k) i) (ms : List Rat) (hs : List Hyp) (k : Nat) (r : GapRes) (h : Members TC hs) :
    Members TC (evalLoop X O lamHat ms hs k r).1 := by
  obtain ⟨_, h⟩ := evalLoop_induction X O lamHat (fun _ hs' _ _ => Members TC hs')
    (fun _ _ _ k' _ h => bestH_members TC _ _ (O k') h (hO k')) ms hs k r h
  exact h

/-- if every answer is a member of the class, `L_low` never falls below a common lower bound `m` of
    the class' Lagrangian values -/
theorem evalLoop_Llow_ge (X : Ctx) (O : Nat → Hyp) (lamHat : List Rat) (TC : Table) (hc : TC.nC = X.c.length)
    (hcc : TC.c = vec X.c) (hO : ∀ k, ∃ i, IsMember TC (O k) i) (m : Rat)
    (hm : ∀ i < TC.nH, m ≤ lPure TC (projLam X lamHat) i) (ms : List Rat) (hs : List Hyp) (k : Nat) (r : GapRes)
    (h1 : Members TC hs) (h2 : m ≤ r.Llow) : m ≤ (evalLoop X O lamHat ms hs k r).2.2.Llow := by
  obtain ⟨_, h⟩ := evalLoop_induction X O lamHat (fun _ hs' _ r' => Members TC hs' ∧ m ≤ r'.Llow)
    (fun mul _ hs' k' r' h => by
      have hmem := bestH_members TC hs' (lamHat.map (fun x => mul * x)) (O k') h.1 (hO k')
      have hidx := bestH_idx_lt hs' (lamHat.map (fun x => mul * x)) (O k')
      obtain ⟨i, hi⟩ := hmem _ (getD_mem _ _ _ hidx)
      rw [updLow_eq, lPure_member TC X.c hc hcc _ (projLam X lamHat) _ hidx i hi]
      exact ⟨hmem, le_min h.2 (hm i hi.1)⟩)
    ms hs k r ⟨h1, h2⟩
  exact h.2

/-- the candidate of the FIRST multiplier is always used (the `break` is tested after the update) -/
theorem evalLoop_first (X : Ctx) (O : Nat → Hyp) (lamHat : List Rat) (mul : Rat) (ms : List Rat) (hs : List Hyp)
    (k : Nat) (r : GapRes) :
    (evalLoop X O lamHat (mul :: ms) hs k r).2.2.Llow ≤
      lPure (tableOf X.c (bestH hs (lamHat.map (fun x => mul * x)) (O k)).1) (projLam X lamHat)
        (bestH hs (lamHat.map (fun x => mul * x)) (O k)).2 := by
  unfold evalLoop
  simp only []
  split
  · rw [updLow_eq]; exact min_le_right _ _
  · refine (evalLoop_fixed X O lamHat ms _ (k + 1) _).2.2.trans ?_
    rw [updLow_eq]; exact min_le_right _ _

/-! ### from `h_value` (what best_h compares) to the Lagrangian (what eval_gap records) -/

/-- `_eval` projects the multiplier BEFORE it computes `L` (lifted statement order `EGLoopGen.evalProjectsFirst`) -/
theorem projLam_def (X : Ctx) (lam : List Rat) : projLam X lam = projectIf X.ratioOne (X.c.length / 2) (vec lam) := by
  unfold projLam
  simp [EGLoopGen.evalProjectsFirst]

theorem projLam_nonneg (X : Ctx) (lam : List Rat) (h : ∀ x ∈ lam, 0 ≤ x) (j : Nat) : 0 ≤ projLam X lam j := by
  rw [projLam_def]
  unfold projectIf
  split
  · exact Saddle.project_nonneg _ _ j
  · exact vec_nonneg h j

/-- the class value `h_value` of member `i` at the (unprojected) multiplier list `lam` -/
def classValue (TC : Table) (lam : List Rat) (i : Nat) : Rat := TC.err i + ∑ j ∈ range TC.nC, TC.gam j i * vec lam j

/-- (`EGLoop.dot` and `LinProg.dot` have the same body, so `LinProg.dot_eq_sum` applies) -/
theorem storedValue_member (TC : Table) (h : Hyp) (i : Nat) (hm : IsMember TC h i) (lam : List Rat) :
    storedValue lam h = classValue TC lam i := by
  unfold storedValue EGLoopGen.hValue classValue
  rw [show dot h.gam lam = _ from LinProg.dot_eq_sum h.gam lam, hm.2.1, hm.2.2.1]
  exact congrArg _ (Finset.sum_congr rfl fun j hj => by rw [hm.2.2.2 j (Finset.mem_range.mp hj)]; rfl)

/-- when `_eval` projects (ratio = 1) the gamma vectors of the class are antisymmetric in the (+,-) halves -/
def AntiSym (X : Ctx) (TC : Table) : Prop :=
  X.ratioOne = true → X.c.length = X.c.length / 2 + X.c.length / 2 ∧
    ∀ i < TC.nH, ∀ j < X.c.length / 2, TC.gam (X.c.length / 2 + j) i = -TC.gam j i

/-- `L(h_i, project(lambda)) = h_value_i(lambda) - project(lambda).bound`: the two orders on classifiers coincide -/
theorem lPure_as_value (X : Ctx) (TC : Table) (hc : TC.nC = X.c.length) (ha : AntiSym X TC) (lam : List Rat) (i : Nat)
    (hi : i < TC.nH) :
    lPure TC (projLam X lam) i = classValue TC lam i - ∑ j ∈ range TC.nC, projLam X lam j * TC.c j := by
  rw [lPure_eq TC _ i hi, classValue]
  simp only [mul_sub, Finset.sum_sub_distrib]
  rw [← add_sub_assoc]
  congr 2
  rw [projLam_def, projectIf]
  cases hr : X.ratioOne
  · exact Finset.sum_congr rfl fun j _ => mul_comm _ _
  · obtain ⟨hlen, hg⟩ := ha hr
    rw [if_pos rfl, hc.trans hlen, project_dot _ _ (fun j => TC.gam j i) (hg i hi)]
    exact Finset.sum_congr rfl fun j _ => mul_comm _ _

/-! ### which `eval_gap` call certified which iterate (loop-level bookkeeping) -/

/-- the `best_h` store holds class members, and the LP cache is consistent: the cached gap result is the one `eval_gap`
    gives for the cached pair from the recorded store (of class members) and call number; `lpFrom` is a ghost field of the
    state that exists only to state this -/
def StoreOK (P : Params) (O : Oracles) (TC : Table) (s : State) : Prop :=
  Members TC s.hs ∧ ∀ r, s.lpRes = some r →
    r.2 = (evalGap P.ctx O.h s.lpFrom.1 s.lpFrom.2 r.1.Q r.1.lam).2.2 ∧ Members TC s.lpFrom.1

/-- every recorded iterate carries the `eval_gap` call that certified it: `gaps[t]` and `Qs[t]` are that call's gap and `Q` -/
structure CertInv (P : Params) (O : Oracles) (TC : Table) (s : State) : Prop where
  gaps_eq : s.gaps = s.certs.map (fun e => e.2.1)
  qs_eq : s.qs = s.certs.map (fun e => e.2.2)
  cert_ok : ∀ e ∈ s.certs, e.2.1 = certGap P O e.1 ∧ e.2.2 = e.1.Q ∧ Members TC e.1.hs
  store_ok : StoreOK P O TC s

theorem solveLP_storeOK (P : Params) (O : Oracles) (TC : Table) (hO : ∀ k, ∃ i, IsMember TC (O.h k) i) (s : State)
    (hs : StoreOK P O TC s) :
    StoreOK P O TC (solveLP P O s).1 ∧ (solveLP P O s).1.lpRes = some (solveLP P O s).2 := by
  unfold StoreOK
  rcases solveLP_cases P O s with ⟨h1, h2, h3, h4, _⟩ | ⟨h1, h2, h3, h4, h5, _⟩
  · rw [h2, h3, h4]
    exact ⟨hs, h1⟩
  · rw [h2, h3, h5]
    refine ⟨⟨evalLoop_store_members P.ctx O.h _ TC hO EGGen.muls s.hs s.calls _ hs.1, fun r hr => ?_⟩, rfl⟩
    cases hr
    exact ⟨h1 ▸ h4, hs.1⟩

theorem certInv_init (P : Params) (O : Oracles) (TC : Table) : CertInv P O TC (initState P) :=
  ⟨rfl, rfl, List.forall_mem_nil _, List.forall_mem_nil _, nofun⟩

theorem certInv_finish (P : Params) (O : Oracles) (TC : Table) (hO : ∀ k, ∃ i, IsMember TC (O.h k) i) (s : State)
    (hs : CertInv P O TC s) : CertInv P O TC (finish P s (decision P O s)) := by
  obtain ⟨_, _, _, _, dchoice⟩ := decision_spec P O s
  have hbh : Members TC (egCert P O s).hs := bestH_members TC s.hs _ (O.h s.calls) hs.store_ok.1 (hO s.calls)
  have hs1 : StoreOK P O TC (egState P O s) := ⟨evalLoop_store_members P.ctx O.h _ TC hO EGGen.muls _ _ _ hbh, hs.store_ok.2⟩
  obtain ⟨hr, r1⟩ := solveLP_storeOK P O TC hO (egState P O s) hs1
  have key : (decision P O s).gap = certGap P O (decision P O s).cert ∧
      (decision P O s).q = (decision P O s).cert.Q ∧ Members TC (decision P O s).cert.hs ∧
      StoreOK P O TC (decision P O s).s2 := by
    generalize solveLP P O (egState P O s) = r at dchoice hr r1
    generalize decision P O s = D at dchoice ⊢
    rcases dchoice with ⟨_, hq, hg, hc, h | h⟩ | ⟨_, hq, hg, hc, h⟩ <;> rw [hq, hg, hc, h]
    · exact ⟨rfl, rfl, hbh, hs1⟩
    · exact ⟨rfl, rfl, hbh, hr⟩
    · exact ⟨congrArg GapRes.gap (hr.2 r.2 r1).1, rfl, (hr.2 r.2 r1).2, hr⟩
  obtain ⟨k1, k2, k3, k4⟩ := key
  constructor
  · show s.gaps ++ [_] = (s.certs ++ [_]).map _
    rw [List.map_append, ← hs.gaps_eq]; rfl
  · rw [finish_qs]
    show s.qs ++ [_] = (s.certs ++ [_]).map _
    rw [List.map_append, ← hs.qs_eq]; rfl
  · exact forall_mem_snoc hs.cert_ok ⟨k1, k2, k3⟩
  · exact k4

theorem certInv_runN (P : Params) (O : Oracles) (TC : Table) (hO : ∀ k, ∃ i, IsMember TC (O.h k) i) :
    ∀ n, CertInv P O TC (runN P O n) :=
  runN_induction P O _ (certInv_init P O TC) fun s hs _ _ => certInv_finish P O TC hO s hs

theorem cert_at {P : Params} (O : Oracles) (TC : Table) (hO : ∀ k, ∃ i, IsMember TC (O.h k) i) (b : Nat)
    (hb : bestIterOf (run P O) = some b) :
    (run P O).certs.getD b default ∈ (run P O).certs ∧
    (run P O).gaps.getD b 0 = certGap P O ((run P O).certs.getD b default).1 ∧
    (run P O).qs.getD b [] = ((run P O).certs.getD b default).1.Q ∧
    Members TC ((run P O).certs.getD b default).1.hs := by
  have hinv : CertInv P O TC (run P O) := certInv_runN P O TC hO P.maxIter
  have hlt : b < (run P O).certs.length := by
    have := (bestIter_spec _ b hb).1
    rwa [hinv.gaps_eq, List.length_map] at this
  have hmem := getD_mem (run P O).certs b default hlt
  obtain ⟨h1, h2, h3⟩ := hinv.cert_ok _ hmem
  refine ⟨hmem, ?_, ?_, h3⟩
  · rw [← h1, hinv.gaps_eq, List.getD_eq_getElem?_getD, List.getD_eq_getElem?_getD, List.getElem?_map,
      List.getElem?_eq_getElem hlt]; rfl
  · rw [← h2, hinv.qs_eq, List.getD_eq_getElem?_getD, List.getD_eq_getElem?_getD, List.getElem?_map,
      List.getElem?_eq_getElem hlt]; rfl

/-! ### how many oracle calls a run makes, how many classifiers it stores -/

/-- from `c` oracle calls and `n` stored classifiers to `c'` and `n'`: at most `b` more calls, and at most one more
    classifier per call (`n' - n ≤ c' - c`, written without subtraction) -/
def CallsLe (c n c' n' b : Nat) : Prop := c' ≤ c + b ∧ n' + c ≤ n + c'

theorem CallsLe.trans {c n c' n' c'' n'' b b' : Nat} (h : CallsLe c n c' n' b) (h' : CallsLe c' n' c'' n'' b') :
    CallsLe c n c'' n'' (b + b') := by
  unfold CallsLe at *; omega

/-- the multiplier loop makes at most `len(list)` oracle calls -/
theorem evalLoop_calls (X : Ctx) (O : Nat → Hyp) (lamHat : List Rat) (ms : List Rat) (hs : List Hyp) (k : Nat)
    (r : GapRes) : CallsLe k hs.length (evalLoop X O lamHat ms hs k r).2.1 (evalLoop X O lamHat ms hs k r).1.length
      ms.length := by
  obtain ⟨ms', h1, h2⟩ := evalLoop_induction X O lamHat
    (fun ms' hs' k' _ => k' + ms'.length ≤ k + ms.length ∧ hs'.length + k ≤ hs.length + k')
    (fun mul _ hs' k' _ h => ⟨(Nat.add_right_comm k' 1 _).trans_le h.1,
      (Nat.add_le_add_right (bestH_length_le_succ hs' (lamHat.map (fun x => mul * x)) (O k')) k).trans
        ((Nat.add_right_comm _ 1 k).trans_le (Nat.succ_le_succ h.2))⟩)
    ms hs k r ⟨le_rfl, le_rfl⟩
  exact ⟨(Nat.le_add_right _ _).trans h1, h2⟩

theorem solveLP_calls (P : Params) (O : Oracles) (s : State) :
    CallsLe s.calls s.hs.length (solveLP P O s).1.calls (solveLP P O s).1.hs.length EGGen.muls.length := by
  rcases solveLP_cases P O s with ⟨_, _, _, h1, h2⟩ | ⟨_, _, _, _, h1, h2⟩ <;> rw [h1, h2]
  · exact ⟨Nat.le_add_right _ _, le_rfl⟩
  · exact evalLoop_calls P.ctx O.h _ EGGen.muls s.hs s.calls _

/-- one pass: one oracle call of the loop body, then at most `len(list)` in each of the two `eval_gap` calls -/
theorem decision_calls (P : Params) (O : Oracles) (s : State) :
    CallsLe s.calls s.hs.length (decision P O s).s2.calls (decision P O s).s2.hs.length
      (1 + EGGen.muls.length + EGGen.muls.length) := by
  have hb : CallsLe s.calls s.hs.length (s.calls + 1) (egCert P O s).hs.length 1 :=
    ⟨le_rfl, (Nat.add_le_add_right (bestH_length_le_succ s.hs (lamVec P s.theta) (O.h s.calls)) _).trans_eq
      (Nat.add_right_comm _ _ _)⟩
  have e : CallsLe (s.calls + 1) (egCert P O s).hs.length (egState P O s).calls (egState P O s).hs.length
      EGGen.muls.length := evalLoop_calls P.ctx O.h _ EGGen.muls _ (s.calls + 1) _
  rcases (decision_spec P O s).choice with ⟨_, _, _, _, h | h⟩ | ⟨_, _, _, _, h⟩ <;> rw [h]
  · exact (hb.trans e).trans ⟨Nat.le_add_right _ _, le_rfl⟩
  · exact (hb.trans e).trans (solveLP_calls P O _)
  · exact (hb.trans e).trans (solveLP_calls P O _)

/-- `n_oracle_calls_ <= (1 + 2 len(multiplier list)) * iterations` and at most one classifier is stored per call -/
theorem calls_runN (P : Params) (O : Oracles) : ∀ n,
    (runN P O n).calls ≤ (1 + EGGen.muls.length + EGGen.muls.length) * (runN P O n).t ∧
    (runN P O n).hs.length ≤ (runN P O n).calls :=
  runN_induction P O (fun s => s.calls ≤ (1 + EGGen.muls.length + EGGen.muls.length) * s.t ∧ s.hs.length ≤ s.calls)
    ⟨Nat.zero_le _, Nat.le_refl _⟩ fun s ih _ _ => by
      obtain ⟨d1, d2⟩ := decision_calls P O s
      exact ⟨d1.trans (Nat.add_le_add_right ih.1 _),
        Nat.le_of_add_le_add_right ((d2.trans (Nat.add_le_add_right ih.2 _)).trans_eq (Nat.add_comm _ _))⟩

end EGLoop
