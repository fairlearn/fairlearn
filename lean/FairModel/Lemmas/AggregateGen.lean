import FairModel.Lemmas.Aggregate
import FairModel.Generated.AggregateGen

/-! `_disaggregated_result.py` is lifted twice.  `Generated/AggregateSpec.lean` (lifter `aggregate.py`) names the
grouping function each aggregate uses and `ratio_sub_one`; the model `Aggregate.applyGrouping / difference / ratio`
is written with those names.  `Generated/AggregateGen.lean` (lifter `aggregate_gen.py`) is the three method bodies
executed symbolically, with the grouping functions found there written out as `.min` / `.max`.  The theorems of
`namespace AggregateGen` below are the cross-check of the two: the lifted bodies are the model, for every table, which
holds only while both lifts agree (the `AggregateSpec` names are unfolded to compare them). -/

namespace Aggregate
open XR Frame

theorem overallAt_eq_lookup (t : Tables) (c : Key) :
    overallAt t c = (((t.overall.map (fun e => (e.1, coerce e.2))).lookup c).getD nan) := by
  unfold overallAt
  rw [lookup_map_snd coerce t.overall c]
  cases t.overall.lookup c <;> rfl

/-- the bridge from the pandas-level group-by to `strata` / per-stratum lists: grouping a series that carries the
    by_group index yields one entry per stratum -/
theorem aggLevel_byGroup (g : Grouping) (t : Tables) (F : Key × Cell → XR) :
    Prim.aggLevel g t (t.byGroup.map (fun e => (e.1, F e))) =
      (strata t).map (fun c => (c, g.apply ((t.byGroup.filter (fun e => stratumOf t e.1 == c)).map F))) := by
  unfold Prim.aggLevel strata
  simp only [List.map_map, Function.comp_def, List.filter_map]

/-- the shape shared by `difference` and `ratio(to_overall)`: `s` is a series at stratum level -/
theorem aggLevel_map_bcast (g : Grouping) (f : XR → XR) (op : XR → XR → XR) (t : Tables) (s : Series) :
    Prim.aggLevel g t (Prim.map f (Prim.bcast op t (t.byGroup.map (fun e => (e.1, coerce e.2))) s)) =
      (strata t).map (fun c => (c, g.apply ((vals t c).map fun v => f (op v ((s.lookup c).getD nan))))) := by
  have h1 : Prim.map f (Prim.bcast op t (t.byGroup.map (fun e => (e.1, coerce e.2))) s) =
      t.byGroup.map (fun e => (e.1, f (op (coerce e.2) ((s.lookup (stratumOf t e.1)).getD nan)))) := by
    simp only [Prim.map, Prim.bcast, List.map_map, Function.comp_def]
  rw [h1, aggLevel_byGroup]
  refine List.map_congr_left fun c _ => ?_
  rw [vals, List.map_map]
  exact congrArg (fun l => (c, g.apply l)) (List.map_congr_left fun e he =>
    by rw [eq_of_beq (List.mem_filter.mp he).2]; rfl)

end Aggregate

namespace AggregateGen
open Aggregate XR Frame

theorem applyGroupingGen_eq (g : Grouping) (e : Errors) (t : Tables) :
    applyGroupingGen g e t = applyGrouping g e t := by
  have hagg : Prim.aggLevel g t (t.byGroup.map fun e => (e.1, coerce e.2)) =
      (strata t).map fun c => (c, g.apply (vals t c)) := aggLevel_byGroup g t fun e => coerce e.2
  unfold applyGroupingGen applyGrouping
  cases e with
  | raise =>
    unfold Prim.byGroupNum
    cases hasNonscalar t
    · exact congrArg some hagg
    · rfl
  | coerce => exact congrArg some hagg

theorem differenceGen_eq (m : Method) (e : Errors) (t : Tables) :
    differenceGen m e t = difference m e t := by
  unfold differenceGen difference AggregateSpec.diffBetweenSubtrahend
  cases m with
  | between =>
    cases applyGrouping .min e t with
    | none => rfl
    | some s => exact congrArg some (aggLevel_map_bcast .max XR.abs XR.sub t s)
  | toOverall =>
    unfold Prim.overallNum
    cases hasNonscalar t
    · refine congrArg some ((aggLevel_map_bcast .max XR.abs XR.sub t _).trans (List.map_congr_left fun c _ => ?_))
      rw [overallAt_eq_lookup]; rfl
    · rfl

theorem ratioGen_eq (m : Method) (e : Errors) (t : Tables) :
    ratioGen m e t = ratio m e t := by
  unfold ratioGen ratio AggregateSpec.ratioBetweenNum AggregateSpec.ratioBetweenDen
  cases m with
  | between =>
    cases applyGrouping .min e t <;> cases applyGrouping .max e t <;> rfl
  | toOverall =>
    unfold Prim.byGroupNum Prim.overallNum
    cases hasNonscalar t
    · refine congrArg some ((aggLevel_map_bcast .min AggregateSpec.ratioSubOne XR.div t _).trans
        (List.map_congr_left fun c _ => ?_))
      rw [overallAt_eq_lookup]; rfl
    · rfl

end AggregateGen
