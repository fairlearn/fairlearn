/-
For C11 (`Properties/C11.lean`): the pool metrics of `Model/MetricPool.lean` that are weighted sums, and its four
confusion-matrix rates (label handling of `_get_labels_for_confusion_matrix` included), treat the integer weight
`p0` as a multiplicity (`Frame.WeightMult`), whatever the SECOND per-sample parameter `p1` is: replicating a row
replicates `p1` with it.  `_apply_functions` is invariant under any row-wise change of the payload the metric
cannot see (`applyFunctions_mapDat`), instantiated with "multiply the weight by c > 0" (`scDat`; IEEE quotient
`quot`, so a zero total weight is NaN/±inf on both sides, not Lean's 0).
-/
import FairModel.Lemmas.FrameWeights
import FairModel.Lemmas.Weights
import FairModel.Model.MetricPool

namespace MetricPool
open Frame

/-- "row `d` with sample weight `k`" -/
def wtDat (d : Dat) (k : Nat) : Dat := { d with p0 := (k : Rat) }

theorem sumBy_replicate (g : Dat → Rat) (d : Dat) (k : Nat) :
    sumBy g (List.replicate k d) = (k : Rat) * g d := by
  rw [sumBy, List.map_replicate, List.sum_replicate, nsmul_eq_mul]

theorem sumBy_append (g : Dat → Rat) (a b : List Dat) : sumBy g (a ++ b) = sumBy g a + sumBy g b := by
  rw [sumBy, List.map_append, List.sum_append]; rfl

/-- an integrand that is linear in the weight sums to the same value over weights and over copies -/
theorem sumBy_weight_mult (g : Dat → Rat) (hg : ∀ (d : Dat) (k : Nat), g (wtDat d k) = (k : Rat) * g (wtDat d 1)) :
    WeightMult wtDat (sumBy g) := by
  intro l hl
  clear hl
  induction l with
  | nil => rfl
  | cons p ps ih =>
    rw [List.map_cons, List.flatMap_cons, sumBy_append, sumBy_replicate, ← hg, ← ih]
    exact List.sum_cons

theorem quot_weight_mult (g : Dat → Rat) (hg : ∀ (d : Dat) (k : Nat), g (wtDat d k) = (k : Rat) * g (wtDat d 1)) :
    WeightMult wtDat (fun rows => quot (sumBy g rows) (sumBy (·.p0) rows)) :=
  fun l hl => congrArg₂ quot (sumBy_weight_mult g hg l hl)
    (sumBy_weight_mult _ (fun _ _ => (mul_one _).symm.trans (congrArg _ Nat.cast_one.symm)) l hl)

/-! The integrands of the pool have three shapes, `c * p0`, `if P then p0 else 0` and `if P then 0 else p0` with `c`,
`P` not looking at `p0`; each is linear in the weight: -/

theorem lin_mul (c : Rat) (k : Nat) : c * (k : Rat) = k * (c * ((1 : Nat) : Rat)) := by
  rw [Nat.cast_one, mul_one, mul_comm]

theorem lin_ite (P : Prop) [Decidable P] (k : Nat) :
    (if P then (k : Rat) else 0) = k * (if P then ((1 : Nat) : Rat) else 0) := by
  rw [Nat.cast_one, mul_ite, mul_one, mul_zero]

theorem lin_ite_else (P : Prop) [Decidable P] (k : Nat) :
    (if P then 0 else (k : Rat)) = k * (if P then 0 else ((1 : Nat) : Rat)) := by
  rw [Nat.cast_one, mul_ite, mul_one, mul_zero]

/-- the weighted-mean metrics of the pool and the two-parameter fingerprint `a . ids` -/
theorem eval_weight_mult (m : Metric)
    (hm : m = .selrate ∨ m = .meanpred ∨ m = .accuracy ∨ m = .meanerr ∨ m = .zeroOne ∨ m = .mae ∨ m = .mse ∨
          m = .fpPar) :
    WeightMult wtDat (eval m) := by
  rcases hm with rfl | rfl | rfl | rfl | rfl | rfl | rfl | rfl
  · intro l hk
    show selRateCell _ = selRateCell _
    rw [selRateCell, selRateCell, List.isEmpty_flatMap_replicate _ (fun p => wtDat p.1 p.2) (·.2) l hk]
    exact congrArg _ (quot_weight_mult _ (fun d k => lin_ite (d.pred = 1) k) l hk)
  · exact quot_weight_mult _ fun d k => lin_mul d.pred k
  · exact quot_weight_mult _ fun d k => lin_ite (d.y = d.pred) k
  · exact quot_weight_mult _ fun d k => lin_mul (d.pred - d.y) k
  · exact quot_weight_mult _ fun d k => lin_ite_else (d.y = d.pred) k
  · exact quot_weight_mult _ fun d k => lin_mul (if d.y - d.pred < 0 then d.pred - d.y else d.y - d.pred) k
  · exact quot_weight_mult _ fun d k => lin_mul ((d.y - d.pred) * (d.y - d.pred)) k
  · exact fun l hl => congrArg Cell.ofRat (sumBy_weight_mult _ (fun d k => by
      show (k : Rat) * d.p1 = k * (((1 : Nat) : Rat) * d.p1)
      rw [Nat.cast_one, one_mul]) l hl)

end MetricPool

namespace Frame
variable {α β : Type}

/-- change the payload of every row, keep its feature values -/
def mapDat (g : α → α) (rows : List (Row α)) : List (Row α) := rows.map (fun r => ⟨g r.dat, r.cf, r.sf⟩)

theorem applyFunctions_mapDat (nanv : β) (kf : Row α → Key) (hkf : KeyIgnoresDat kf) (n : Nat)
    (f : List α → β) (g : α → α) (hf : ∀ l, f (l.map g) = f l) (rows : List (Row α)) :
    applyFunctions nanv kf n f (mapDat g rows) = applyFunctions nanv kf n f rows := by
  have hkeys : (mapDat g rows).map kf = rows.map kf := by
    simp only [mapDat, List.map_map]
    apply List.map_congr_left
    intro r _
    exact hkf r (g r.dat)
  have hrows : ∀ k, rowsOf kf k (mapDat g rows) = mapDat g (rowsOf kf k rows) := by
    intro k
    simp only [rowsOf, mapDat, List.filter_map]
    congr 1
    apply List.filter_congr
    intro r _
    simp only [Function.comp]
    rw [hkf r (g r.dat)]
  have hslice : ∀ rs : List (Row α), slice (mapDat g rs) = (slice rs).map g := by
    intro rs; simp [slice, mapDat, List.map_map, Function.comp_def]
  have hgrouped : grouped kf f (mapDat g rows) = grouped kf f rows := by
    unfold grouped
    rw [hkeys]
    apply List.map_congr_left
    intro k _
    rw [hrows, hslice, hf]
  have hlevels : levels kf n (mapDat g rows) = levels kf n rows := by
    unfold levels; rw [hkeys]
  simp only [applyFunctions, hgrouped, hlevels, hslice, hf]

end Frame

namespace MetricPool
open Frame

theorem isIntLabel_wtDat (d : Dat) (k : Nat) : isIntLabel (wtDat d k) = isIntLabel d := rfl

theorem all_isIntLabel_weight (l : List (Dat × Nat)) (hk : ∀ p ∈ l, 1 ≤ p.2) :
    (l.flatMap (fun p => List.replicate p.2 (wtDat p.1 1))).all isIntLabel =
      (l.map (fun p => wtDat p.1 p.2)).all isIntLabel := by
  have h := List.mem_map_flatMap_replicate isIntLabel (fun p : Dat × Nat => wtDat p.1 1) (fun p => wtDat p.1 p.2)
    (·.2) l hk (fun _ => rfl)
  rw [Bool.eq_iff_iff, List.all_eq_true, List.all_eq_true]
  exact ⟨fun H x hx => by
      obtain ⟨y, hy, e⟩ := List.mem_map.mp ((h _).mpr (List.mem_map_of_mem hx)); rw [← e]; exact H y hy,
    fun H x hx => by
      obtain ⟨y, hy, e⟩ := List.mem_map.mp ((h _).mp (List.mem_map_of_mem hx)); rw [← e]; exact H y hy⟩

theorem map_toBM_weighted (l : List (Dat × Nat)) :
    (l.map (fun p => wtDat p.1 p.2)).map toBM = BaseMetrics.weighted (l.map (fun p => (toBM p.1, p.2))) := by
  simp [BaseMetrics.weighted, toBM, wtDat, List.map_map, Function.comp_def]

theorem map_toBM_replicated (l : List (Dat × Nat)) :
    (l.flatMap (fun p => List.replicate p.2 (wtDat p.1 1))).map toBM =
      BaseMetrics.replicate (l.map (fun p => (toBM p.1, p.2))) := by
  simp [BaseMetrics.replicate, toBM, wtDat, List.map_flatMap, List.flatMap_map, List.map_replicate]

/-- the four rates of the pool (label handling of `_get_labels_for_confusion_matrix` included) cannot tell
    an integer weight from that many copies of the row, on any slice -/
theorem rateCell_weight_mult (k : BaseMetrics.Kind) : WeightMult wtDat (rateCell k) := by
  intro l hk
  have hpm : BaseMetrics.PosMult (l.map (fun p => (toBM p.1, p.2))) := by
    intro q hq
    simp only [List.mem_map] at hq
    obtain ⟨p, hp, rfl⟩ := hq
    exact hk p hp
  unfold rateCell
  rw [all_isIntLabel_weight l hk, map_toBM_weighted, map_toBM_replicated,
    BaseMetrics.rate_replicate k _ hpm none]

theorem eval_weight_mult_rate (m : Metric) (hm : m = .tpr ∨ m = .fpr ∨ m = .tnr ∨ m = .fnr) :
    WeightMult wtDat (eval m) := by
  rcases hm with rfl | rfl | rfl | rfl <;> exact rateCell_weight_mult _

/-! ### multiplying the weight parameter by c > 0 -/

/-- "row `d` with its sample weight multiplied by `c`" -/
def scDat (c : Rat) (d : Dat) : Dat := { d with p0 := c * d.p0 }

theorem quot_scale (c n d : Rat) (hc : 0 < c) : quot (c * n) (c * d) = quot n d := by
  simp only [quot, XR.div, mul_eq_zero, hc.ne', false_or, mul_pos_iff_of_pos_left hc,
    mul_div_mul_left _ _ hc.ne']

theorem sumBy_scale (g : Dat → Rat) (c : Rat) (hg : ∀ d, g (scDat c d) = c * g d) (l : List Dat) :
    sumBy g (l.map (scDat c)) = c * sumBy g l := by
  induction l with
  | nil => simp [sumBy]
  | cons d ds ih =>
    simp only [sumBy, List.map_cons, List.sum_cons] at ih ⊢
    rw [ih, hg]; ring

theorem rateCell_scale (k : BaseMetrics.Kind) (c : Rat) (hc : 0 < c) (l : List Dat) :
    rateCell k (l.map (scDat c)) = rateCell k l := by
  have h1 : (l.map (scDat c)).all isIntLabel = l.all isIntLabel := by
    rw [List.all_map]; rfl
  have h2 : (l.map (scDat c)).map toBM = BaseMetrics.scale c (l.map toBM) := by
    simp [BaseMetrics.scale, toBM, scDat, List.map_map, Function.comp_def]
  unfold rateCell
  rw [h1, h2, BaseMetrics.rate_scale k c (ne_of_gt hc)]

/-- a weighted mean of the pool whose summand is linear in the weight -/
theorem quot_sumBy_scale (g : Dat → Rat) (c : Rat) (hc : 0 < c) (hg : ∀ d, g (scDat c d) = c * g d) (l : List Dat) :
    quot (sumBy g (l.map (scDat c))) (sumBy (·.p0) (l.map (scDat c))) = quot (sumBy g l) (sumBy (·.p0) l) := by
  rw [sumBy_scale g c hg, sumBy_scale (·.p0) c (fun _ => rfl), quot_scale _ _ _ hc]

/-- the pool's rates and weighted means are unchanged when every weight is multiplied by c > 0 -/
theorem eval_scale_inv (m : Metric)
    (hm : m = .tpr ∨ m = .fpr ∨ m = .tnr ∨ m = .fnr ∨ m = .selrate ∨ m = .meanpred ∨ m = .accuracy ∨
          m = .meanerr ∨ m = .zeroOne ∨ m = .mae ∨ m = .mse)
    (c : Rat) (hc : 0 < c) (l : List Dat) : eval m (l.map (scDat c)) = eval m l := by
  rcases hm with rfl | rfl | rfl | rfl | rfl | rfl | rfl | rfl | rfl | rfl | rfl
  iterate 4 exact rateCell_scale _ c hc l
  · -- selrate
    simp only [eval, selRateCell, List.isEmpty_map]
    rw [quot_sumBy_scale _ c hc (fun d => by rw [mul_ite, mul_zero]; rfl)]
  · -- meanpred
    exact quot_sumBy_scale _ c hc (fun _ => mul_left_comm _ _ _) l
  · -- accuracy
    exact quot_sumBy_scale _ c hc (fun d => by rw [mul_ite, mul_zero]; rfl) l
  · -- meanerr
    exact quot_sumBy_scale _ c hc (fun _ => mul_left_comm _ _ _) l
  · -- zeroOne
    exact quot_sumBy_scale _ c hc (fun d => by rw [mul_ite, mul_zero]; rfl) l
  · -- mae
    exact quot_sumBy_scale _ c hc (fun _ => mul_left_comm _ _ _) l
  · -- mse
    exact quot_sumBy_scale _ c hc (fun _ => mul_left_comm _ _ _) l

end MetricPool
