/-
The bridge between the two halves of the C16 tie:
  * `TrainStepL.lifted` (symbolic `.grad` bookkeeping of the statement list LIFTED from `PytorchEngine.train_step`), and
  * `AdvStep.step` (the whole-step function the driver ops `advstep.step` / `advstep.fit` evaluate, whose hand-written
    body says "predictor optimiser gets combineAll(dLP/dW, dLA/dW), adversary optimiser gets dLA/dU").
`readBuf` gives a symbolic buffer its meaning in terms of the autograd lists of one batch; `stepFromBookkeeping` is the
whole step DRIVEN BY an arbitrary bookkeeping result; `step_eq_stepFromBookkeeping_lifted` (in Properties/C16.lean) says
that at the lifted bookkeeping it is `AdvStep.step`.  An edit of the statement order in the source that changes what an
optimiser is handed changes `lifted`, and that theorem breaks.
A buffer `⟨lp, la, stale⟩ : Buf` stands for lp·dLP/dθ + la·dLA/dθ + stale·(old contents): `⟨1, 0, 0⟩` is exactly dLP/dθ,
`⟨0, 1, 0⟩` exactly dLA/dθ, `⟨1, 1, 0⟩` their sum (a dropped `zero_grad`).
-/
import FairModel.Lemmas.AdvStep
import FairModel.Model.TrainStepLifted

namespace AdvR2
open Adversarial AdvStep TrainStepL

/-- meaning of a symbolic `.grad` buffer of one player, given that player's two pure gradient lists of this batch:
    exactly dLP/dθ, exactly dLA/dθ, or `none` (a mixture / stale contents: not a gradient the property allows) -/
def readBuf (b : Buf) (dLP dLA : List Mat) : Option (List Mat) :=
  if b = ⟨1, 0, 0⟩ then some dLP else if b = ⟨0, 1, 0⟩ then some dLA else none

/-- the whole step as DICTATED by a bookkeeping result `ts`: the predictor's optimiser applies what `ts.appliedP` says
    (the combine rule on two readable copies, or a readable plain buffer), the adversary's what `ts.appliedA` says.
    The adversary's parameters are not reached by LP (`dLP/dU` does not exist): a buffer with an LP part is unreadable. -/
def stepFromBookkeeping {τP τA : Type} (ts : TS) (eng : Mat → Mat → Rat → Option Mat) (α : Rat) (optP : Opt τP)
    (optA : Opt τA) (m : Model τP τA) (g : Grads) : Option (Model τP τA) :=
  if !ts.ok then none else
  let gP : Option (List Mat) := match ts.appliedP with
    | some (.comb a b) => do
      let A ← readBuf a g.dWLP g.dWLA
      let B ← readBuf b g.dWLP g.dWLA
      combineAll eng α A B
    | some (.lin b) => readBuf b g.dWLP g.dWLA
    | none => none
  let gA : Option (List Mat) := match ts.appliedA with
    | some b => if b = ⟨0, 1, 0⟩ then some g.dULA else none
    | none => none
  match gP, gA with
  | some gs, some us =>
    let p := applyOpt optP m.pred.params m.pred.state gs
    let a := applyOpt optA m.adv.params m.adv.state us
    some ⟨⟨p.1, p.2⟩, ⟨a.1, a.2⟩⟩
  | _, _ => none

/-- for a bookkeeping result with the documented contents the dictated step is `AdvStep.step` -/
theorem stepFromBookkeeping_documented {τP τA : Type} (ts : TS) (hok : ts.ok = true)
    (hP : ts.appliedP = some (.comb ⟨1, 0, 0⟩ ⟨0, 1, 0⟩)) (hA : ts.appliedA = some ⟨0, 1, 0⟩)
    (eng : Mat → Mat → Rat → Option Mat) (α : Rat) (optP : Opt τP) (optA : Opt τA) (m : Model τP τA) (g : Grads) :
    stepFromBookkeeping ts eng α optP optA m g = step eng α optP optA m g := by
  unfold stepFromBookkeeping step
  rw [hok, hP, hA]
  show (match combineAll eng α g.dWLP g.dWLA, some g.dULA with | some gs, some us => _ | _, _ => none) = _
  cases combineAll eng α g.dWLP g.dWLA <;> rfl

/-- regression: had the clearing between the two backward passes been dropped (second copy = dLP/dW + dLA/dW), the
    dictated step would NOT be a step of the documented kind: no model results (`none`), whatever the gradients -/
theorem stepFromBookkeeping_accumulated {τP τA : Type} (ts : TS)
    (hP : ts.appliedP = some (.comb ⟨1, 0, 0⟩ ⟨1, 1, 0⟩))
    (eng : Mat → Mat → Rat → Option Mat) (α : Rat) (optP : Opt τP) (optA : Opt τA) (m : Model τP τA) (g : Grads) :
    stepFromBookkeeping ts eng α optP optA m g = none := by
  unfold stepFromBookkeeping
  rw [hP]
  cases ts.ok <;> rfl

end AdvR2
