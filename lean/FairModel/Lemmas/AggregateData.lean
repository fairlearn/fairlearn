import FairModel.Lemmas.Aggregate
import FairModel.Properties.C01

/-! The tables `ofFrame ncf nsf f rows` that MetricFrame builds from data (`DisaggregatedResult.create`, the model
of C01), for ANY metric function `f`: what their cells, group values and overall values are in terms of `f` on the
rows of an index tuple (through `C01.applyFunctions_cell`). -/

namespace Aggregate
open XR Frame

theorem mem_rows_of_mem_slice {α : Type} {kf : Row α → Key} {k : Key} {rows : List (Row α)} {d : α}
    (hd : d ∈ slice (rowsOf kf k rows)) : ∃ r ∈ rows, r.dat = d := by
  obtain ⟨r, hr, rfl⟩ := List.mem_map.mp hd
  exact ⟨r, (mem_rowsOf.mp hr).1, rfl⟩

/-- every overall cell is `f` of all rows (no control features) / of the rows of that control
    combination, or NaN for an unobserved combination -/
theorem ofFrame_overall_cell {α : Type} (ncf nsf : Nat) (f : List α → Cell)
    (rows : List (Row α)) (e : Key × Cell) (he : e ∈ (ofFrame ncf nsf f rows).overall) :
    (ncf = 0 ∧ e = ([], f (slice rows))) ∨
    (0 < ncf ∧ e.2 = if rowsOf Row.ckey e.1 rows = [] then Cell.nan else f (slice (rowsOf Row.ckey e.1 rows))) := by
  rcases Nat.eq_zero_or_pos ncf with rfl | hpos
  · exact .inl ⟨rfl, List.mem_singleton.mp he⟩
  · exact .inr ⟨hpos, C01.applyFunctions_cell Cell.nan Row.ckey ncf hpos f rows e.1 e.2 he⟩

/-- two metric functions that agree on every NON-EMPTY list give the same frame on a non-empty dataset
    (MetricFrame never calls the metric on an empty slice: unobserved combinations are re-indexed NaN) -/
theorem ofFrame_congr {α : Type} (ncf nsf : Nat) (f g : List α → Cell) (h : ∀ ds, ds ≠ [] → f ds = g ds)
    (rows : List (Row α)) (hne : rows ≠ []) : ofFrame ncf nsf f rows = ofFrame ncf nsf g rows := by
  have hs : ∀ {l : List (Row α)}, l ≠ [] → f (slice l) = g (slice l) :=
    fun hl => h _ (mt List.map_eq_nil_iff.mp hl)
  have hgr : ∀ kf : Row α → Key, grouped kf f rows = grouped kf g rows := fun kf =>
    List.map_congr_left fun k hk => by
      obtain ⟨r, hr, rfl⟩ := List.mem_map.mp (mem_uniq.mp hk)
      rw [hs (List.ne_nil_of_mem (mem_rowsOf.mpr ⟨hr, rfl⟩))]
  unfold ofFrame byGroup overall applyFunctions
  rw [hs hne, hgr Row.key, hgr Row.ckey]

theorem ofFrame_vals_mem {α : Type} (ncf nsf : Nat) (hn : 0 < ncf + nsf) {f : List α → Cell}
    (h0 : f [] = Cell.nan) (rows : List (Row α)) {k : Key} (hk : k ∈ C01.keys (ofFrame ncf nsf f rows).byGroup) :
    coerce (f (slice (rowsOf Row.key k rows))) ∈ vals (ofFrame ncf nsf f rows) (k.take ncf) := by
  obtain ⟨e, he, rfl⟩ := List.mem_map.mp hk
  refine List.mem_map.mpr ⟨e, List.mem_filter.mpr ⟨he, beq_self_eq_true _⟩, ?_⟩
  rw [C01.applyFunctions_cell Cell.nan Row.key (ncf + nsf) hn f rows e.1 e.2 he]
  split
  · next h => rw [h]; exact congrArg coerce h0.symm
  · rfl

theorem overallAt_ofFrame {α : Type} (ncf nsf : Nat) {f : List α → Cell} (h0 : f [] = Cell.nan)
    {rows : List (Row α)} (hwf : WF ncf nsf rows) (c : Key) :
    overallAt (ofFrame ncf nsf f rows) c = nan ∨
    overallAt (ofFrame ncf nsf f rows) c = coerce (f (slice (rowsOf Row.ckey c rows))) := by
  unfold overallAt
  split
  · next cell hl =>
    right
    rcases ofFrame_overall_cell ncf nsf f rows (c, cell) (lookup_mem hl) with ⟨hz, he⟩ | ⟨_, he⟩
    · -- no control features: every row has the empty control tuple
      cases he
      have hall : rowsOf Row.ckey [] rows = rows := List.filter_eq_self.mpr fun r hr => by
        rw [Row.ckey, List.eq_nil_of_length_eq_zero ((hwf r hr).1.trans hz)]; rfl
      rw [hall]
    · rw [show cell = _ from he]
      split
      · next h => rw [h]; exact congrArg coerce h0.symm
      · rfl
  · exact .inl rfl

end Aggregate
