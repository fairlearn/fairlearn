import FairModel.Lemmas.Saddle
import FairModel.Model.EGLoop

/-!
Helper lemmas for the ExponentiatedGradient main-loop model (`Model/EGLoop.lean`):
list sums, the multiplier formula, the running mean, `Qsum`/`Q_EG`, the loop body case by case (`decision_spec`,
`solveLP_cases`), induction over the passes (`runN_induction`) and the invariant `Inv`.
-/
namespace EGLoop
open Saddle Finset

/-! ### lists -/

theorem sum_map_div {α : Type} (l : List α) (f : α → Rat) (d : Rat) :
    (l.map (fun x => f x / d)).sum = (l.map f).sum / d := by
  simp only [div_eq_mul_inv, List.sum_map_mul_right]

theorem forall_mem_snoc {α : Type} {p : α → Prop} {l : List α} {a : α} (hl : ∀ x ∈ l, p x) (ha : p a) :
    ∀ x ∈ l ++ [a], p x :=
  List.forall_mem_append.mpr ⟨hl, List.forall_mem_singleton.mpr ha⟩

theorem length_snoc {α : Type} {l : List α} {n : Nat} (a : α) (h : l.length = n) : (l ++ [a]).length = n + 1 := by
  rw [List.length_append, h]; rfl

theorem list_sum_lt (B : Rat) : ∀ (l : List Rat), l ≠ [] → (∀ x ∈ l, x < B) → l.sum < (l.length : Rat) * B
  | [], h, _ => absurd rfl h
  | [a], _, h => by
    rw [List.sum_singleton, List.length_singleton, Nat.cast_one, one_mul]; exact h a List.mem_cons_self
  | a :: b :: l, _, h => by
    have ih := list_sum_lt B (b :: l) (List.cons_ne_nil _ _) (fun x hx => h x (List.mem_cons_of_mem _ hx))
    rw [List.sum_cons, List.length_cons, Nat.cast_succ, add_mul, one_mul, add_comm]
    exact add_lt_add ih (h a List.mem_cons_self)

/-! ### the multiplier vector -/

/-- a multiplier vector as the theorems need it: right length, non-negative, L1 norm strictly below `B` -/
def GoodLam (B : Rat) (n : Nat) (v : List Rat) : Prop := v.length = n ∧ (∀ x ∈ v, 0 ≤ x) ∧ v.sum < B

theorem lamVec_good (P : Params) (hB : 0 < P.B) (he : ∀ x, 0 < P.e x) (theta : List Rat) :
    GoodLam P.B theta.length (lamVec P theta) := by
  have hS : 0 ≤ (theta.map P.e).sum :=
    List.sum_nonneg fun x hx => by obtain ⟨y, _, rfl⟩ := List.mem_map.mp hx; exact (he y).le
  have hden : 0 < 1 + (theta.map P.e).sum := add_pos_of_pos_of_nonneg one_pos hS
  unfold lamVec EGLoopGen.lamOf
  refine ⟨by rw [List.length_map, List.length_map], ?_, ?_⟩
  · intro v hv
    obtain ⟨x, hx, rfl⟩ := List.mem_map.mp hv
    obtain ⟨y, _, rfl⟩ := List.mem_map.mp hx
    exact div_nonneg (mul_nonneg hB.le (he y).le) hden.le
  · rw [sum_map_div _ (fun x => P.B * x), List.sum_map_mul_left, List.map_id', div_lt_iff₀ hden]
    exact mul_lt_mul_of_pos_left (lt_one_add _) hB

/-! ### the running mean `lambda_EG` -/

theorem sum_exchange (n : Nat) : ∀ (cols : List (List Rat)),
    ((List.range n).map (fun j => (cols.map (fun col => col.getD j 0)).sum)).sum
      = (cols.map (fun col => ((List.range n).map (fun j => col.getD j 0)).sum)).sum
  | [] => by simp
  | c :: cols => by
    have ih := sum_exchange n cols
    simp only [List.map_cons, List.sum_cons]
    rw [← ih]
    exact Finset.sum_add_distrib (s := range n) (f := fun j => c.getD j 0)

/-- the lifted aggregation `lambda_EG = self.lambda_vecs_EG_.mean(axis=1)` (`EGLoopGen.lamEGAgg`) in closed form -/
theorem meanCols_def (n : Nat) (cols : List (List Rat)) :
    meanCols n cols = (List.range n).map (fun j => (cols.map (fun col => col.getD j 0)).sum / (cols.length : Rat)) := rfl

theorem meanCols_good (B : Rat) (n : Nat) (cols : List (List Rat)) (hne : cols ≠ [])
    (h : ∀ c ∈ cols, GoodLam B n c) : GoodLam B n (meanCols n cols) := by
  have hlen : (0 : Rat) < (cols.length : Rat) := by exact_mod_cast List.length_pos_iff.mpr hne
  rw [meanCols_def]
  refine ⟨by rw [List.length_map, List.length_range], ?_, ?_⟩
  · intro v hv
    obtain ⟨j, _, rfl⟩ := List.mem_map.mp hv
    refine div_nonneg (List.sum_nonneg fun x hx => ?_) hlen.le
    obtain ⟨c, hc, rfl⟩ := List.mem_map.mp hx
    exact vec_nonneg (h c hc).2.1 j
  · rw [sum_map_div _ (fun j => (cols.map (fun col => col.getD j 0)).sum), sum_exchange, div_lt_iff₀ hlen]
    have h2 : ∀ x ∈ cols.map (fun col => ((List.range n).map (fun j => col.getD j 0)).sum), x < B := by
      intro x hx
      obtain ⟨c, hc, rfl⟩ := List.mem_map.mp hx
      rw [← (h c hc).1]; exact (sum_vec c).trans_lt (h c hc).2.2
    have := list_sum_lt B _ (by simpa using hne) h2
    rwa [List.length_map, mul_comm] at this

/-! ### `Qsum` and `Q_EG` -/

/-- a probability vector -/
def IsProb (q : List Rat) : Prop := (∀ x ∈ q, 0 ≤ x) ∧ q.sum = 1

theorem isProb_vec {Q : List Rat} (hp : IsProb Q) : ∑ i ∈ range Q.length, vec Q i = 1 ∧ ∀ i, 0 ≤ vec Q i :=
  ⟨(sum_vec Q).trans hp.2, vec_nonneg hp.1⟩

theorem bump_nonneg : ∀ (q : List Rat) (i : Nat), (∀ x ∈ q, 0 ≤ x) → ∀ x ∈ bump q i, 0 ≤ x
  | [], 0, _ => List.forall_mem_singleton.mpr (zero_le_one.trans_eq (zero_add 1).symm)
  | [], i + 1, h => List.forall_mem_cons.mpr ⟨le_rfl, bump_nonneg [] i h⟩
  | a :: q, 0, h => by
    have h := List.forall_mem_cons.mp h
    exact List.forall_mem_cons.mpr ⟨add_nonneg h.1 zero_le_one, h.2⟩
  | a :: q, i + 1, h => by
    have h := List.forall_mem_cons.mp h
    exact List.forall_mem_cons.mpr ⟨h.1, bump_nonneg q i h.2⟩

/-- `Qsum[h_idx] += 1.0` (after `Qsum.at[h_idx] = 0.0` for a new index) raises the total by one -/
theorem bump_sum : ∀ (q : List Rat) (i : Nat), (bump q i).sum = q.sum + 1
  | [], 0 => add_zero _
  | [], i + 1 => by rw [bump, List.sum_cons, bump_sum [] i, zero_add]
  | a :: q, 0 => add_right_comm a 1 q.sum
  | a :: q, i + 1 => by rw [bump, List.sum_cons, List.sum_cons, bump_sum q i, add_assoc]

theorem bump_length : ∀ (q : List Rat) (i : Nat), (bump q i).length = max q.length (i + 1)
  | [], 0 => rfl
  | [], i + 1 => (congrArg (· + 1) (bump_length [] i)).trans (by rw [List.length_nil, Nat.zero_max, Nat.zero_max])
  | a :: q, 0 => (Nat.max_eq_left (Nat.succ_le_succ (Nat.zero_le _))).symm
  | a :: q, i + 1 => (congrArg (· + 1) (bump_length q i)).trans (Nat.succ_max_succ _ _).symm

theorem normalise_isProb (q : List Rat) (hq : ∀ x ∈ q, 0 ≤ x) (hs : 0 < q.sum) : IsProb (normalise q) := by
  unfold normalise EGLoopGen.qNorm
  constructor
  · intro x hx
    obtain ⟨y, hy, rfl⟩ := List.mem_map.mp hx
    exact div_nonneg (hq y hy) hs.le
  · rw [sum_map_div q (fun x => x) q.sum, List.map_id']
    exact div_self hs.ne'

theorem normalise_length (q : List Rat) : (normalise q).length = q.length := List.length_map _

theorem padTo_isProb (n : Nat) (q : List Rat) (h : IsProb q) : IsProb (padTo n q) := by
  unfold padTo
  constructor
  · intro x hx
    rcases List.mem_append.mp hx with h1 | h1
    · exact h.1 x h1
    · rw [List.eq_of_mem_replicate h1]
  · rw [List.sum_append, h.2]; simp

/-! ### the loop body, case by case -/

/-- `Qs.append(..)` keeps the value of the iteration: the appended objects are fresh (lifted data-flow fact
    `EGLoopGen.qsEntriesFresh`; false e.g. for the in-place running mean of the seeded change C08a) -/
theorem storeQ_fresh (qs : List (List Rat)) (fl : List Bool) (qEG q : List Rat) : storeQ qs fl qEG q = qs ++ [q] :=
  if_pos rfl

theorem finish_qs (P : Params) (s : State) (D : Decision) : (finish P s D).qs = s.qs ++ [D.q] :=
  storeQ_fresh s.qs s.fromLP (normalise D.qsum) D.q

/-- the gap `eval_gap` reports for the call recorded in `c` -/
def certGap (P : Params) (O : Oracles) (c : Cert) : Rat := (evalGap P.ctx O.h c.hs c.k c.Q c.lamHat).2.2.gap

/-- the record of the `eval_gap` call of the EG half of the loop body: the store after `best_h`, the number of the next
    oracle call, `Q_EG` and `lambda_EG` -/
def egCert (P : Params) (O : Oracles) (s : State) : Cert :=
  ⟨(bestH s.hs (lamVec P s.theta) (O.h s.calls)).1, s.calls + 1,
    normalise (bump s.qsum (bestH s.hs (lamVec P s.theta) (O.h s.calls)).2),
    meanCols P.c.length (s.lamCols ++ [lamVec P s.theta])⟩

/-- the state after that call, in which `solve_linprog` is entered -/
def egState (P : Params) (O : Oracles) (s : State) : State :=
  { s with
    hs := (evalGap P.ctx O.h (egCert P O s).hs (egCert P O s).k (egCert P O s).Q (egCert P O s).lamHat).1,
    calls := (evalGap P.ctx O.h (egCert P O s).hs (egCert P O s).k (egCert P O s).Q (egCert P O s).lamHat).2.1 }

/-- What `D = decision P O s` is, in terms of the EG half `c = egCert P O s`, the state `s1 = egState P O s` after it and
    the answer `r = solveLP P O s1` of the LP half: either the EG iterate is kept, certified by `c` (with or without an
    LP step), or the LP iterate is, certified by the `eval_gap` call `solve_linprog` made for it (now or when it was
    cached).  `c s1 r` are parameters so that users can `generalize` the three large terms. -/
structure DecisionSpec (P : Params) (O : Oracles) (s : State) (c : Cert) (s1 : State) (r : State × LPAns × GapRes)
    (D : Decision) : Prop where
  lam : D.lam = lamVec P s.theta
  lamEG : D.lamEG = c.lamHat
  qsum : ∃ i, D.qsum = bump s.qsum i
  qEG : c.Q = normalise D.qsum
  choice : (D.useEG = true ∧ D.q = c.Q ∧ D.gap = certGap P O c ∧ D.cert = c ∧ (D.s2 = s1 ∨ D.s2 = r.1)) ∨
    (D.useEG = false ∧ D.q = r.2.1.Q ∧ D.gap = r.2.2.gap ∧ D.cert = ⟨r.1.lpFrom.1, r.1.lpFrom.2, r.2.1.Q, r.2.1.lam⟩ ∧
      D.s2 = r.1)

theorem decision_spec (P : Params) (O : Oracles) (s : State) :
    DecisionSpec P O s (egCert P O s) (egState P O s) (solveLP P O (egState P O s)) (decision P O s) := by
  rw [decision]
  by_cases hs : EGLoopGen.skipLP s.t P.runLP = true
  · rw [if_pos hs]
    exact ⟨rfl, rfl, ⟨_, rfl⟩, rfl, Or.inl ⟨rfl, rfl, rfl, rfl, Or.inl rfl⟩⟩
  · rw [if_neg hs]
    refine ⟨rfl, rfl, ⟨_, rfl⟩, rfl, ?_⟩
    dsimp only
    split
    · next h => exact Or.inl ⟨h, rfl, rfl, rfl, Or.inr rfl⟩
    · next h => exact Or.inr ⟨Bool.eq_false_iff.mpr h, rfl, rfl, rfl, rfl⟩

/-- `solve_linprog` either returns the cached pair (and leaves store, counters and cache alone) or asks the LP oracle,
    runs `eval_gap` on the answer and caches both -/
theorem solveLP_cases (P : Params) (O : Oracles) (s : State) :
    (s.lpRes = some (solveLP P O s).2 ∧ (solveLP P O s).1.lpRes = s.lpRes ∧ (solveLP P O s).1.lpFrom = s.lpFrom ∧
      (solveLP P O s).1.hs = s.hs ∧ (solveLP P O s).1.calls = s.calls) ∨
    ((solveLP P O s).2.1 = O.lp s.lpCalls ∧ (solveLP P O s).1.lpRes = some (solveLP P O s).2 ∧
      (solveLP P O s).1.lpFrom = (s.hs, s.calls) ∧
      (solveLP P O s).2.2 = (evalGap P.ctx O.h s.hs s.calls (O.lp s.lpCalls).Q (O.lp s.lpCalls).lam).2.2 ∧
      (solveLP P O s).1.hs = (evalGap P.ctx O.h s.hs s.calls (O.lp s.lpCalls).Q (O.lp s.lpCalls).lam).1 ∧
      (solveLP P O s).1.calls = (evalGap P.ctx O.h s.hs s.calls (O.lp s.lpCalls).Q (O.lp s.lpCalls).lam).2.1) := by
  unfold solveLP
  split
  · next r hr =>
    refine Or.inl ⟨?_, rfl, rfl, rfl, rfl⟩
    split at hr
    · exact hr
    · cases hr
  · exact Or.inr ⟨rfl, rfl, rfl, rfl, rfl, rfl⟩

theorem solveLP_from_oracle (P : Params) (O : Oracles) (s : State) (h : ∀ r, s.lpRes = some r → ∃ k, r.1 = O.lp k) :
    (∃ k, (solveLP P O s).2.1 = O.lp k) ∧ ∀ r, (solveLP P O s).1.lpRes = some r → ∃ k, r.1 = O.lp k := by
  rcases solveLP_cases P O s with ⟨h1, h2, _⟩ | ⟨h1, h2, _⟩
  · exact ⟨h _ h1, fun r hr => h r (h2 ▸ hr)⟩
  · exact ⟨⟨_, h1⟩, fun r hr => by rw [h2] at hr; cases hr; exact ⟨_, h1⟩⟩

/-! ### induction over the passes of the loop -/

theorem iter_stop (P : Params) (O : Oracles) (s : State) (h : (s.done || decide (P.maxIter ≤ s.t)) = true) :
    iter P O s = s := if_pos h

theorem iter_go (P : Params) (O : Oracles) (s : State) (h : (s.done || decide (P.maxIter ≤ s.t)) = false) :
    iter P O s = finish P s (decision P O s) := if_neg (by rw [h]; exact Bool.false_ne_true)

theorem runN_induction (P : Params) (O : Oracles) (I : State → Prop) (h0 : I (initState P))
    (hstep : ∀ s, I s → s.done = false → s.t < P.maxIter → I (finish P s (decision P O s))) : ∀ n, I (runN P O n)
  | 0 => h0
  | n + 1 => by
    have ih := runN_induction P O I h0 hstep n
    cases hgo : ((runN P O n).done || decide (P.maxIter ≤ (runN P O n).t))
    · rw [runN, iter_go P O _ hgo]
      rw [Bool.or_eq_false_iff, decide_eq_false_iff_not, not_le] at hgo
      exact hstep _ ih hgo.1 hgo.2
    · rwa [runN, iter_stop P O _ hgo]

theorem runN_t (P : Params) (O : Oracles) :
    ∀ n, (runN P O n).t ≤ n ∧ (n ≤ P.maxIter → (runN P O n).done = false → (runN P O n).t = n)
  | 0 => ⟨Nat.le_refl _, fun _ _ => rfl⟩
  | n + 1 => by
    obtain ⟨ih1, ih2⟩ := runN_t P O n
    cases hgo : ((runN P O n).done || decide (P.maxIter ≤ (runN P O n).t))
    · rw [runN, iter_go P O _ hgo]
      rw [Bool.or_eq_false_iff] at hgo
      exact ⟨Nat.succ_le_succ ih1, fun hn _ => congrArg (· + 1) (ih2 (Nat.le_of_succ_le hn) hgo.1)⟩
    · rw [runN, iter_stop P O _ hgo]
      refine ⟨Nat.le_succ_of_le ih1, fun hn hd => ?_⟩
      rw [hd, Bool.false_or, decide_eq_true_eq] at hgo
      exact absurd (hgo.trans ih1) (Nat.not_le_of_lt hn)

/-! ### the loop invariant -/

theorem shrinkEta_range : (0 : Rat) ≤ EGGen.shrinkEta ∧ EGGen.shrinkEta ≤ 1 := by
  constructor <;> norm_num [EGGen.shrinkEta]

theorem etaOf_le (P : Params) (s : State) (D : Decision) (h : 0 ≤ s.eta) :
    etaOf P s D ≤ s.eta ∧ 0 ≤ etaOf P s D := by
  unfold etaOf
  split
  · exact ⟨mul_le_of_le_one_right h shrinkEta_range.2, mul_nonneg h shrinkEta_range.1⟩
  · exact ⟨le_rfl, h⟩

/-- The invariant of reachable states.  `qs_eg` is unconditional, `qs_prob` assumes the LP answers are distributions;
    `etas_hist` carries `s.eta ≤ x` so that `etas_mono` extends; `done_spec` is what `loop_early_stop` consumes. -/
structure Inv (P : Params) (O : Oracles) (s : State) : Prop where
  len_gaps : s.gaps.length = s.t
  len_qs : s.qs.length = s.t
  len_lamCols : s.lamCols.length = s.t
  len_gapsEG : s.gapsEG.length = s.t
  len_fromLP : s.fromLP.length = s.t
  t_le : s.t ≤ P.maxIter
  theta_len : s.theta.length = P.c.length
  lam_good : ∀ v ∈ s.lamCols, GoodLam P.B P.c.length v
  lamEG_good : ∀ v ∈ s.lamEGs, GoodLam P.B P.c.length v
  qsum_nonneg : ∀ x ∈ s.qsum, 0 ≤ x
  eta_eq : s.eta = EGLoopGen.etaInit P.eta0 P.B * EGGen.shrinkEta ^ s.shrinks
  shrinks_le : s.shrinks ≤ s.checks
  checks_le : s.checks ≤ s.t
  lp_from_oracle : ∀ r, s.lpRes = some r → ∃ k, r.1 = O.lp k
  qs_prob : (∀ k, IsProb (O.lp k).Q) → ∀ q ∈ s.qs, IsProb q
  done_spec : s.done = true → ∃ g, s.gaps.getLast? = some g ∧ g < P.nu ∧ EGGen.minIter < s.t
  etas_hist : ∀ x ∈ s.etas, s.eta ≤ x ∧ x ≤ EGLoopGen.etaInit P.eta0 P.B
  etas_mono : s.etas.Pairwise (fun a b => b ≤ a)
  qs_eg : ∀ p ∈ s.fromLP.zip s.qs, p.1 = false → IsProb p.2
  certs_nonneg : (∀ k, ∀ x ∈ (O.lp k).lam, 0 ≤ x) → ∀ e ∈ s.certs, ∀ x ∈ e.1.lamHat, 0 ≤ x

theorem inv_init (P : Params) (O : Oracles) : Inv P O (initState P) :=
  ⟨rfl, rfl, rfl, rfl, rfl, Nat.zero_le _, List.length_replicate, List.forall_mem_nil _,
    List.forall_mem_nil _, List.forall_mem_nil _, ((mul_one _).symm.trans (congrArg _ (pow_zero _).symm)), Nat.le_refl _,
    Nat.le_refl _, nofun, fun _ => List.forall_mem_nil _, nofun, List.forall_mem_nil _, List.Pairwise.nil,
    List.forall_mem_nil _, fun _ => List.forall_mem_nil _⟩

theorem inv_finish (P : Params) (O : Oracles) (hB : 0 < P.B) (he : ∀ x, 0 < P.e x)
    (hP : 0 ≤ EGLoopGen.etaInit P.eta0 P.B) (s : State) (hs : Inv P O s) (hlt : s.t < P.maxIter) :
    Inv P O (finish P s (decision P O s)) := by
  obtain ⟨dlam, dlamEG, ⟨i, dqsum⟩, dqEG, dchoice⟩ := decision_spec P O s
  obtain ⟨⟨k, hk⟩, hr⟩ := solveLP_from_oracle P O (egState P O s) hs.lp_from_oracle
  have hs1 : ∀ r, (egState P O s).lpRes = some r → ∃ k, r.1 = O.lp k := hs.lp_from_oracle
  have hc : (egCert P O s).lamHat = meanCols P.c.length (s.lamCols ++ [lamVec P s.theta]) := rfl
  rw [dqEG] at dchoice
  generalize solveLP P O (egState P O s) = r at dchoice hk hr
  generalize egState P O s = s1 at dchoice hs1
  generalize egCert P O s = c at dchoice dlamEG hc
  generalize decision P O s = D at *
  have hlam : GoodLam P.B P.c.length D.lam := by
    rw [dlam, ← hs.theta_len]; exact lamVec_good P hB he s.theta
  have hlamEG : GoodLam P.B P.c.length D.lamEG := by
    rw [dlamEG, hc, ← dlam]
    exact meanCols_good _ _ _ (List.append_ne_nil_of_right_ne_nil _ (List.cons_ne_nil _ _))
      (forall_mem_snoc hs.lam_good hlam)
  have hqEG : IsProb (normalise D.qsum) := by
    rw [dqsum]
    exact normalise_isProb _ (bump_nonneg _ i hs.qsum_nonneg)
      (bump_sum _ i ▸ add_pos_of_nonneg_of_pos (List.sum_nonneg hs.qsum_nonneg) one_pos)
  have heta0 : 0 ≤ s.eta := by
    rw [hs.eta_eq]; exact mul_nonneg hP (pow_nonneg shrinkEta_range.1 _)
  have hetaOf := etaOf_le P s D heta0
  have hdue : shrinkOf P s D = true → dueOf P s D = true := fun h => (Bool.and_eq_true _ _ ▸ h).1
  have hlp : ∀ r, D.s2.lpRes = some r → ∃ k, r.1 = O.lp k := by
    rcases dchoice with ⟨_, _, _, _, h | h⟩ | ⟨_, _, _, _, h⟩ <;> rw [h]
    exacts [hs1, hr, hr]
  constructor
  case len_gaps => exact length_snoc _ hs.len_gaps
  case len_qs => rw [finish_qs]; exact length_snoc _ hs.len_qs
  case len_lamCols => exact length_snoc _ hs.len_lamCols
  case len_gapsEG => exact length_snoc _ hs.len_gapsEG
  case len_fromLP => exact length_snoc _ hs.len_fromLP
  case t_le => exact hlt
  case theta_len =>
    dsimp only [finish]
    split
    · exact hs.theta_len
    · exact (List.length_map _).trans List.length_range
  case lam_good => exact forall_mem_snoc hs.lam_good hlam
  case lamEG_good => exact forall_mem_snoc hs.lamEG_good hlamEG
  case qsum_nonneg =>
    dsimp only [finish]
    rw [dqsum]; exact bump_nonneg _ _ hs.qsum_nonneg
  case eta_eq =>
    dsimp only [finish]
    unfold etaOf
    split
    · rw [hs.eta_eq, EGLoopGen.etaShrunk, pow_succ, mul_assoc]
    · exact hs.eta_eq
  case shrinks_le =>
    dsimp only [finish]
    by_cases h1 : shrinkOf P s D = true
    · rw [if_pos h1, if_pos (hdue h1)]; exact Nat.succ_le_succ hs.shrinks_le
    · rw [if_neg h1]; split
      · exact Nat.le_succ_of_le hs.shrinks_le
      · exact hs.shrinks_le
  case checks_le =>
    dsimp only [finish]
    split
    · exact Nat.succ_le_succ hs.checks_le
    · exact Nat.le_succ_of_le hs.checks_le
  case lp_from_oracle => exact hlp
  case qs_prob =>
    intro hlpq
    rw [finish_qs]
    refine forall_mem_snoc (hs.qs_prob hlpq) ?_
    rcases dchoice with ⟨_, h, _⟩ | ⟨_, h, _⟩ <;> rw [h]
    · exact hqEG
    · rw [hk]; exact hlpq k
  case done_spec =>
    intro hd
    have hd : (decide (D.gap < P.nu) && decide (s.t ≥ EGGen.minIter)) = true := hd
    rw [Bool.and_eq_true, decide_eq_true_eq, decide_eq_true_eq] at hd
    exact ⟨D.gap, List.getLast?_concat .., hd.1, Nat.lt_succ_of_le hd.2⟩
  case etas_hist =>
    dsimp only [finish]
    refine forall_mem_snoc (fun x h => ⟨hetaOf.1.trans (hs.etas_hist x h).1, (hs.etas_hist x h).2⟩)
      ⟨le_rfl, hetaOf.1.trans ?_⟩
    rw [hs.eta_eq]
    exact mul_le_of_le_one_right hP (pow_le_one₀ shrinkEta_range.1 shrinkEta_range.2)
  case etas_mono =>
    dsimp only [finish]
    rw [List.pairwise_append]
    refine ⟨hs.etas_mono, List.pairwise_singleton _ _, fun a ha b hb => ?_⟩
    rw [List.mem_singleton.mp hb]
    exact hetaOf.1.trans (hs.etas_hist a ha).1
  case qs_eg =>
    dsimp only [finish]
    rw [storeQ_fresh, List.zip_append (hs.len_fromLP.trans hs.len_qs.symm)]
    refine forall_mem_snoc hs.qs_eg fun hf => ?_
    rcases dchoice with ⟨_, h, _⟩ | ⟨h, _⟩
    · rw [show ((!D.useEG, D.q) : Bool × List Rat).2 = D.q from rfl, h]; exact hqEG
    · rw [h] at hf; cases hf
  case certs_nonneg =>
    intro hlpl
    refine forall_mem_snoc (hs.certs_nonneg hlpl) ?_
    dsimp only [finish]
    rcases dchoice with ⟨_, _, _, h, _⟩ | ⟨_, _, _, h, _⟩ <;> rw [h]
    · rw [← dlamEG]; exact hlamEG.2.1
    · exact hk ▸ hlpl k

theorem inv_runN (P : Params) (O : Oracles) (hB : 0 < P.B) (he : ∀ x, 0 < P.e x)
    (hP : 0 ≤ EGLoopGen.etaInit P.eta0 P.B) : ∀ n, Inv P O (runN P O n) :=
  runN_induction P O _ (inv_init P O) fun s hs _ hlt => inv_finish P O hB he hP s hs hlt

end EGLoop
