/-
String facts about the label events (`label=<digit>`), and with them the event selectors of the real event rules of the
TPR / FPR / EqualizedOdds moments, with and without control features.
-/
import FairModel.Lemmas.MomentsRates

namespace Moments

theorem labelEvent_len (y : Int) (hy : y = 0 ∨ y = 1) : (MomentsSrc.labelEvent y).toList.length = 7 := by
  rcases hy with rfl | rfl <;> decide +kernel

theorem nat_repr_single (n : Nat) (d : Nat) (hd : d < 10) (h : n.repr = d.repr) : n = d := by
  by_cases hn : n < 10
  · rw [Nat.repr_of_lt hn, Nat.repr_of_lt hd] at h
    have h2 := congrArg String.toList h
    simp only [String.toList_singleton, List.cons.injEq, and_true] at h2
    have key : ∀ n < 10, ∀ d < 10, Nat.digitChar n = Nat.digitChar d → n = d := by decide +kernel
    exact key n hn d hd h2
  · exfalso
    have h10 : 10 ≤ n := Nat.le_of_not_lt hn
    rw [Nat.repr_of_ge h10, Nat.repr_of_lt hd] at h
    have h2 := congrArg (fun s => s.toList.length) h
    simp only [String.toList_append, String.toList_singleton, List.length_append, List.length_cons, List.length_nil] at h2
    have : (n / 10).repr.toList ≠ [] := by
      intro e
      exact Nat.repr_ne_empty (n := n / 10) (String.toList_inj.mp (by simp at e))
    have := List.length_pos_of_ne_nil this
    omega

theorem toString_int_eq_digit (y : Int) (d : Nat) (hd : d < 10) (h : toString y = toString (d : Int)) : y = d := by
  rw [Int.toString_eq_repr, Int.toString_eq_repr, Int.repr_eq_if, Int.repr_eq_if] at h
  have hd0 : (0 : Int) ≤ (d : Int) := Int.natCast_nonneg d
  simp only [hd0, if_true, Int.toNat_natCast] at h
  by_cases hy : 0 ≤ y
  · simp only [hy, if_true] at h
    have := nat_repr_single _ d hd h
    omega
  · exfalso
    simp only [hy, if_false] at h
    rw [Nat.repr_of_lt hd] at h
    have h2 := congrArg String.toList h
    simp only [String.toList_append, String.toList_singleton] at h2
    have h3 : ("-" : String).toList = ['-'] := by decide +kernel
    rw [h3] at h2
    simp only [List.cons_append, List.nil_append, List.cons.injEq] at h2
    have key : ∀ d < 10, Nat.digitChar d ≠ '-' := by decide +kernel
    exact key d hd h2.1.symm

theorem labelEvent_inj_digit (y : Int) (d : Nat) (hd : d < 10)
    (h : MomentsSrc.labelEvent y = MomentsSrc.labelEvent (d : Int)) : y = d := by
  unfold MomentsSrc.labelEvent at h
  have h2 := congrArg String.toList h
  simp only [String.toList_append] at h2
  have h3 := List.append_cancel_left h2
  exact toString_int_eq_digit y d hd (String.toList_inj.mp h3)

/-- a formatted event never equals a bare label event (first characters `c` / `l`) -/
theorem ctrlFormat_ne_labelEvent (c e : String) (d : Int) : MomentsSrc.ctrlFormat c e ≠ MomentsSrc.labelEvent d := by
  intro h
  unfold MomentsSrc.ctrlFormat MomentsSrc.labelEvent at h
  have h2 := congrArg String.toList h
  simp only [String.toList_append] at h2
  have e1 : ("control=" : String).toList = 'c' :: ("ontrol=" : String).toList := by decide +kernel
  have e2 : ("label" : String).toList = 'l' :: ("abel" : String).toList := by decide +kernel
  rw [e1, e2] at h2
  simp only [List.cons_append, List.cons.injEq] at h2
  exact absurd h2.1 (by decide)

/-! ### selectors of the real event rules (what the `hS : ∀ r, …` hypotheses of C06X need) -/

theorem labelEvent_beq (y : Int) (d : Nat) (hd : d < 10) :
    (some (MomentsSrc.labelEvent y) == some (MomentsSrc.labelEvent (d : Int))) = (y == (d : Int)) := by
  rw [Bool.eq_iff_iff]
  simp only [beq_iff_eq, Option.some.injEq]
  exact ⟨labelEvent_inj_digit y d hd, fun h => by rw [h]⟩

/-- TPR parity, any row: the bare event `label=1` selects exactly the rows WITHOUT control value and label 1 -/
theorem tpr_inE_nocontrol (r : Row) :
    inE (eventOf .tpr) (MomentsSrc.labelEvent 1) r = ((r.c == none) && (r.y == 1)) := by
  rw [inE_eventOf_bare _ _ _ (fun c b => ctrlFormat_ne_labelEvent c b 1)]
  unfold baseEvent
  by_cases hy : r.y = 1 <;> simp [hy, MomentsSrc.tprLabel]

theorem fpr_inE_nocontrol (r : Row) :
    inE (eventOf .fpr) (MomentsSrc.labelEvent 0) r = ((r.c == none) && (r.y == 0)) := by
  rw [inE_eventOf_bare _ _ _ (fun c b => ctrlFormat_ne_labelEvent c b 0)]
  unfold baseEvent
  by_cases hy : r.y = 0 <;> simp [hy, MomentsSrc.fprLabel]

/-- EqualizedOdds, ANY row (no assumption on its label, with or without control value): the bare event `label=d` (d a
    digit, in particular 0 or 1) selects exactly the rows without control value and label `d` -/
theorem eo_inE_nocontrol_digit (r : Row) (d : Nat) (hd : d < 10) :
    inE (eventOf .eo) (MomentsSrc.labelEvent (d : Int)) r = ((r.c == none) && (r.y == (d : Int))) :=
  (inE_eventOf_bare _ _ _ (fun c b => ctrlFormat_ne_labelEvent c b d)).trans (congrArg _ (labelEvent_beq r.y d hd))

theorem eo_inE_nocontrol (r : Row) (lab : Int) (hl : lab = 0 ∨ lab = 1) :
    inE (eventOf .eo) (MomentsSrc.labelEvent lab) r = ((r.c == none) && (r.y == lab)) := by
  rcases hl with rfl | rfl
  · exact eo_inE_nocontrol_digit r 0 (by decide)
  · exact eo_inE_nocontrol_digit r 1 (by decide)

/-- EqualizedOdds without control features: the event `label=lab` selects the rows with label `lab` (written
    `true && …` to match `S r && r.y == c` of `C06.gamma_plus_eq_rate_on` with `S := fun _ => true`) -/
theorem eo_inE_plain (r : Row) (lab : Int) (hc : r.c = none) (hy : r.y = 0 ∨ r.y = 1) (hl : lab = 0 ∨ lab = 1) :
    inE (eventOf .eo) (MomentsSrc.labelEvent lab) r = (true && (r.y == lab)) := by
  rw [eo_inE_nocontrol r lab hl, hc]; rfl

/-- EqualizedOdds with control features: the event `control=c0,label=lab` selects exactly the rows of stratum `c0`
    with label `lab` (binary labels) -/
theorem eo_inE_stratum (r : Row) (c0 : String) (lab : Int) (hy : r.y = 0 ∨ r.y = 1) (hl : lab = 0 ∨ lab = 1) :
    inE (eventOf .eo) (MomentsSrc.ctrlFormat c0 (MomentsSrc.labelEvent lab)) r = ((r.c == some c0) && (r.y == lab)) := by
  rw [inE_eventOf_stratum _ _ _ _ (fun b hb => by cases hb; rw [labelEvent_len _ hy, labelEvent_len _ hl])]
  rcases hl with rfl | rfl
  · exact congrArg _ (labelEvent_beq r.y 0 (by decide))
  · exact congrArg _ (labelEvent_beq r.y 1 (by decide))

/-! ### the BaseMetrics rows depend on the selector only through the rows present -/

theorem toBM_congr (p q : Row → Bool) (rows : List Row) (hp : List Int) (h : ∀ r ∈ rows, p r = q r) :
    toBM p rows hp = toBM q rows hp := by
  unfold toBM
  congr 1
  exact List.filter_congr (fun t ht => h t.1 (List.of_mem_zip ht).1)

end Moments
