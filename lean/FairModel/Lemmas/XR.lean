import FairModel.Lemmas.Prelude
import FairModel.Model.XRArith

/-! Extended rationals: the NaN-skipping minimum / maximum of a list whose entries are NaN or finite
(`FinNan`, the shape of a column of scalar metric values), `mapFin` / `abs` / `sub` on such entries
(what `difference` applies before the maximum), and the IEEE quotient of two finite values. -/

namespace XR

/-- only NaN or finite values (what a table of scalar metric values contains) -/
def FinNan (l : List XR) : Prop := ∀ x ∈ l, x = nan ∨ ∃ q, x = fin q

/-- the finite entries -/
def fins : List XR → List Rat
  | [] => []
  | fin q :: l => q :: fins l
  | _ :: l => fins l

/-- apply a rational function to the finite entries, keep NaN -/
def mapFin (g : Rat → Rat) : XR → XR
  | fin q => fin (g q)
  | x => x

@[simp] theorem fins_nil : fins [] = [] := rfl
@[simp] theorem fins_cons_fin (q : Rat) (l : List XR) : fins (fin q :: l) = q :: fins l := rfl
@[simp] theorem fins_cons_nan (l : List XR) : fins (nan :: l) = fins l := rfl

theorem mem_fins {l : List XR} {q : Rat} : q ∈ fins l ↔ fin q ∈ l := by
  induction l with
  | nil => exact ⟨nofun, nofun⟩
  | cons x l ih =>
    cases x <;> simp only [fins, ih, List.mem_cons, reduceCtorEq, false_or, fin.injEq]

theorem finNan_map_mapFin (g : Rat → Rat) {l : List XR} (h : FinNan l) : FinNan (l.map (mapFin g)) := by
  refine List.forall_mem_map.mpr fun y hy => ?_
  rcases h y hy with rfl | ⟨q, rfl⟩
  exacts [Or.inl rfl, Or.inr ⟨g q, rfl⟩]

theorem fins_map_mapFin (g : Rat → Rat) {l : List XR} (h : FinNan l) :
    fins (l.map (mapFin g)) = (fins l).map g := by
  induction l with
  | nil => rfl
  | cons x l ih =>
    obtain ⟨hx, hl⟩ := List.forall_mem_cons.mp h
    rcases hx with rfl | ⟨q, rfl⟩
    · exact ih hl
    · exact congrArg (g q :: ·) (ih hl)

@[simp] theorem minSkip_nil : minSkip [] = nan := rfl
@[simp] theorem maxSkip_nil : maxSkip [] = nan := rfl
theorem minSkip_cons (x : XR) (l : List XR) : minSkip (x :: l) = minSkip2 x (minSkip l) := rfl
theorem maxSkip_cons (x : XR) (l : List XR) : maxSkip (x :: l) = maxSkip2 x (maxSkip l) := rfl

@[simp] theorem minSkip2_nan_left (y : XR) : minSkip2 nan y = y := rfl
@[simp] theorem maxSkip2_nan_left (y : XR) : maxSkip2 nan y = y := rfl
@[simp] theorem minSkip2_fin_nan (q : Rat) : minSkip2 (fin q) nan = fin q := rfl
@[simp] theorem maxSkip2_fin_nan (q : Rat) : maxSkip2 (fin q) nan = fin q := rfl

theorem minSkip2_fin_fin (a b : Rat) : minSkip2 (fin a) (fin b) = fin (min a b) := by
  by_cases h : b < a
  · simp only [minSkip2, isNan, lt, h, decide_true, if_true, Bool.false_eq_true, if_false,
      min_eq_right h.le]
  · simp only [minSkip2, isNan, lt, h, decide_false, Bool.false_eq_true, if_false,
      min_eq_left (not_lt.mp h)]

theorem maxSkip2_fin_fin (a b : Rat) : maxSkip2 (fin a) (fin b) = fin (max a b) := by
  by_cases h : a < b
  · simp only [maxSkip2, isNan, lt, h, decide_true, if_true, Bool.false_eq_true, if_false,
      max_eq_right h.le]
  · simp only [maxSkip2, isNan, lt, h, decide_false, Bool.false_eq_true, if_false,
      max_eq_left (not_lt.mp h)]

theorem minSkip2_choice (x y : XR) : minSkip2 x y = x ∨ minSkip2 x y = y := by
  unfold minSkip2
  by_cases h1 : x.isNan = true
  · exact Or.inr (if_pos h1)
  · rw [if_neg h1]
    by_cases h2 : y.isNan = true
    · exact Or.inl (if_pos h2)
    · rw [if_neg h2]
      exact (ite_eq_or_eq _ _ _).symm

theorem minSkip_mem (l : List XR) : minSkip l = nan ∨ minSkip l ∈ l := by
  induction l with
  | nil => exact Or.inl rfl
  | cons x l ih =>
    rw [minSkip_cons]
    rcases minSkip2_choice x (minSkip l) with e | e <;> rw [e]
    · exact Or.inr List.mem_cons_self
    · exact ih.imp_right (List.mem_cons_of_mem _)

/-- The shared proof of `minSkip_spec` and `maxSkip_spec`: a NaN-skipping fold of a binary choice `g` over a
    NaN/finite list is NaN iff there is no finite entry, and otherwise a finite entry `m` with `R m q` for every
    finite entry `q` (`R` is `≤` for `g = min`, `≥` for `g = max`). -/
theorem foldr_skip_spec {f : XR → XR → XR} {g : Rat → Rat → Rat} {R : Rat → Rat → Prop}
    (f_nan : ∀ y, f nan y = y) (f_fin_nan : ∀ a, f (fin a) nan = fin a)
    (f_fin : ∀ a b, f (fin a) (fin b) = fin (g a b)) (g_choice : ∀ a b, g a b = a ∨ g a b = b)
    (hR : ∀ a b q, R (g a b) q ↔ R a q ∨ R b q) (R_refl : ∀ a, R a a) {l : List XR} (h : FinNan l) :
    (fins l = [] ∧ l.foldr f nan = nan) ∨
    (∃ m, l.foldr f nan = fin m ∧ m ∈ fins l ∧ ∀ q ∈ fins l, R m q) := by
  induction l with
  | nil => exact Or.inl ⟨rfl, rfl⟩
  | cons x l ih =>
    obtain ⟨hx, hl⟩ := List.forall_mem_cons.mp h
    rw [List.foldr_cons]
    rcases hx with rfl | ⟨a, rfl⟩
    · rw [f_nan]; exact ih hl
    · right
      rw [fins_cons_fin]
      rcases ih hl with ⟨h0, hn⟩ | ⟨m, hm, hmem, hle⟩
      · rw [hn, f_fin_nan, h0]
        exact ⟨a, rfl, List.mem_singleton_self a, fun q hq => List.mem_singleton.mp hq ▸ R_refl a⟩
      · rw [hm, f_fin]
        refine ⟨_, rfl, ?_, List.forall_mem_cons.mpr
          ⟨(hR a m a).mpr (Or.inl (R_refl a)), fun q hq => (hR a m q).mpr (Or.inr (hle q hq))⟩⟩
        rcases g_choice a m with e | e <;> rw [e]
        · exact List.mem_cons_self
        · exact List.mem_cons_of_mem _ hmem

theorem minSkip_spec {l : List XR} (h : FinNan l) :
    (fins l = [] ∧ minSkip l = nan) ∨
    (∃ m, minSkip l = fin m ∧ m ∈ fins l ∧ ∀ q ∈ fins l, m ≤ q) :=
  foldr_skip_spec minSkip2_nan_left minSkip2_fin_nan minSkip2_fin_fin min_choice
    (fun _ _ _ => min_le_iff) le_refl h

theorem maxSkip_spec {l : List XR} (h : FinNan l) :
    (fins l = [] ∧ maxSkip l = nan) ∨
    (∃ m, maxSkip l = fin m ∧ m ∈ fins l ∧ ∀ q ∈ fins l, q ≤ m) :=
  foldr_skip_spec (R := fun m q => q ≤ m) maxSkip2_nan_left maxSkip2_fin_nan maxSkip2_fin_fin
    max_choice (fun _ _ _ => le_max_iff) le_refl h

theorem extremes_spec {l : List XR} (h : FinNan l) :
    (fins l = [] ∧ minSkip l = nan ∧ maxSkip l = nan) ∨
    ∃ m M, minSkip l = fin m ∧ maxSkip l = fin M ∧ m ∈ fins l ∧ M ∈ fins l ∧
      ∀ q ∈ fins l, m ≤ q ∧ q ≤ M := by
  rcases minSkip_spec h with ⟨h0, hn⟩ | ⟨m, hm, hmem, hlo⟩
  · refine Or.inl ⟨h0, hn, ?_⟩
    rcases maxSkip_spec h with ⟨_, hx⟩ | ⟨M, _, hM, _⟩
    · exact hx
    · rw [h0] at hM; cases hM
  · rcases maxSkip_spec h with ⟨h0, _⟩ | ⟨M, hM, hMmem, hhi⟩
    · rw [h0] at hmem; cases hmem
    · exact Or.inr ⟨m, M, hm, hM, hmem, hMmem, fun q hq => ⟨hlo q hq, hhi q hq⟩⟩

theorem min_max_together {l : List XR} (h : FinNan l) :
    (minSkip l = nan ∧ maxSkip l = nan) ∨ (∃ m M, minSkip l = fin m ∧ maxSkip l = fin M ∧ m ≤ M) :=
  (extremes_spec h).imp (fun h => h.2)
    fun ⟨m, M, hm, hM, _, hMmem, hb⟩ => ⟨m, M, hm, hM, (hb M hMmem).1⟩

theorem minSkip_eq_fin {l : List XR} (h : FinNan l) {m : Rat} (hm : minSkip l = fin m) :
    m ∈ fins l ∧ ∀ q ∈ fins l, m ≤ q := by
  rcases minSkip_spec h with ⟨_, hn⟩ | ⟨m', hm', hmem, hle⟩
  · rw [hn] at hm; cases hm
  · rw [hm'] at hm; cases hm; exact ⟨hmem, hle⟩

theorem maxSkip_eq_fin {l : List XR} (h : FinNan l) {m : Rat} (hm : maxSkip l = fin m) :
    m ∈ fins l ∧ ∀ q ∈ fins l, q ≤ m := by
  rcases maxSkip_spec h with ⟨_, hn⟩ | ⟨m', hm', hmem, hle⟩
  · rw [hn] at hm; cases hm
  · rw [hm'] at hm; cases hm; exact ⟨hmem, hle⟩

theorem minSkip_eq_nan {l : List XR} (h : FinNan l) (hm : minSkip l = nan) : fins l = [] := by
  rcases minSkip_spec h with ⟨h0, _⟩ | ⟨m', hm', _, _⟩
  · exact h0
  · rw [hm'] at hm; cases hm

theorem minSkip_finNan {l : List XR} (h : FinNan l) : minSkip l = nan ∨ ∃ m, minSkip l = fin m :=
  (minSkip_spec h).imp (·.2) fun ⟨m, hm, _⟩ => ⟨m, hm⟩

theorem single_min_max {l : List XR} (h : FinNan l) {v : Rat} (hv : fins l = [v]) :
    minSkip l = fin v ∧ maxSkip l = fin v := by
  rcases extremes_spec h with ⟨h0, _⟩ | ⟨m, M, hm, hM, hmem, hMmem, _⟩
  · rw [hv] at h0; cases h0
  · rw [hv] at hmem hMmem
    rw [hm, hM, List.mem_singleton.mp hmem, List.mem_singleton.mp hMmem]
    exact ⟨rfl, rfl⟩

theorem sub_fin_fin (a b : Rat) : sub (fin a) (fin b) = fin (a - b) :=
  congrArg fin (sub_eq_add_neg a b).symm

theorem abs_fin (q : Rat) : abs (fin q) = fin |q| := by
  rcases lt_or_ge q 0 with h | h
  · exact congrArg fin ((if_pos h).trans (abs_of_neg h).symm)
  · exact congrArg fin ((if_neg h.not_gt).trans (abs_of_nonneg h).symm)

theorem abs_sub_fin (x : XR) (s : Rat) (hx : x = nan ∨ ∃ q, x = fin q) :
    abs (sub x (fin s)) = mapFin (fun q => |q - s|) x := by
  rcases hx with rfl | ⟨q, rfl⟩
  · rfl
  · rw [sub_fin_fin, abs_fin]; rfl

theorem abs_sub_nan (x : XR) : abs (sub x nan) = nan := by
  cases x <;> rfl

theorem div_fin_fin (a b : Rat) :
    XR.div (fin a) (fin b) =
      if b = 0 then (if a = 0 then nan else if 0 < a then pinf else ninf) else fin (a / b) := rfl

theorem div_fin_of_ne {b : Rat} (a : Rat) (hb : b ≠ 0) : XR.div (fin a) (fin b) = fin (a / b) :=
  if_neg hb

theorem div_zero_zero : XR.div (fin 0) (fin 0) = nan := rfl

theorem div_pos_zero {a : Rat} (h : 0 < a) : XR.div (fin a) (fin 0) = pinf := by
  rw [div_fin_fin, if_pos rfl, if_neg h.ne', if_pos h]

theorem div_neg_zero {a : Rat} (h : a < 0) : XR.div (fin a) (fin 0) = ninf := by
  rw [div_fin_fin, if_pos rfl, if_neg h.ne, if_neg h.not_gt]

theorem div_eq_fin_iff {a b r : Rat} : XR.div (fin a) (fin b) = fin r ↔ b ≠ 0 ∧ a / b = r := by
  by_cases h0 : b = 0
  · subst h0
    refine ⟨fun h => ?_, fun h => absurd rfl h.1⟩
    rcases lt_trichotomy a 0 with ha | rfl | ha
    · rw [div_neg_zero ha] at h; cases h
    · cases h
    · rw [div_pos_zero ha] at h; cases h
  · rw [div_fin_of_ne a h0, fin.injEq]; exact ⟨fun h => ⟨h0, h⟩, fun h => h.2⟩

theorem div_min_max_cases {m M : Rat} (hle : m ≤ M) :
    (M = 0 ∧ m = 0 ∧ XR.div (fin m) (fin M) = nan) ∨
    (M = 0 ∧ m < 0 ∧ XR.div (fin m) (fin M) = ninf) ∨
    (M ≠ 0 ∧ XR.div (fin m) (fin M) = fin (m / M)) := by
  by_cases h0 : M = 0
  · subst h0
    rcases hle.eq_or_lt with rfl | hneg
    · exact .inl ⟨rfl, rfl, div_zero_zero⟩
    · exact .inr (.inl ⟨rfl, hneg, div_neg_zero hneg⟩)
  · exact .inr (.inr ⟨h0, div_fin_of_ne m h0⟩)

theorem one_div_lt_self_of_pos {r : Rat} (h : 0 < r) : 1 / r < r ↔ 1 < r := by
  rw [div_lt_iff₀ h, ← sq, one_lt_sq_iff₀ h.le]

theorem one_div_lt_self_of_neg {r : Rat} (h : r < 0) : 1 / r < r ↔ -1 < r := by
  rw [div_lt_iff_of_neg h, ← sq, sq_lt_one_iff_abs_lt_one, abs_of_neg h, neg_lt]

theorem minSkip2_fin_one_div {r : Rat} (hr : r ≠ 0) :
    minSkip2 (fin r) (XR.div (fin 1) (fin r)) = fin (min r (1 / r)) := by
  rw [div_fin_of_ne 1 hr, minSkip2_fin_fin]

theorem eq_nan_of_isNan {x : XR} (h : x.isNan = true) : x = nan := by cases x <;> first | rfl | cases h
theorem lt_nan_right (x : XR) : XR.lt x nan = false := by cases x <;> rfl

theorem minSkip_all_nan (l : List XR) (h : ∀ x ∈ l, x = nan) : minSkip l = nan := by
  induction l with
  | nil => rfl
  | cons x l ih =>
    have hx := h x (by simp)
    have := ih (fun y hy => h y (by simp [hy]))
    simp only [minSkip, List.foldr_cons] at this ⊢
    rw [this, hx]; rfl

/-! On the values that are not NaN, `lt` is a strict total order (−∞ < finite < +∞). -/

theorem lt_asymm {x y : XR} (h : lt x y = true) : lt y x = false := by
  cases x <;> cases y <;> first | rfl | contradiction | skip
  exact decide_eq_false (_root_.lt_asymm (of_decide_eq_true h))

theorem lt_trans {x y z : XR} (h₁ : lt x y = true) (h₂ : lt y z = true) : lt x z = true := by
  cases x <;> cases y <;> first | contradiction | (cases z <;> first | rfl | contradiction | skip)
  exact decide_eq_true (_root_.lt_trans (of_decide_eq_true h₁) (of_decide_eq_true h₂))

theorem eq_of_not_lt {x y : XR} (hx : x.isNan = false) (hy : y.isNan = false) (h₁ : lt x y = false)
    (h₂ : lt y x = false) : x = y := by
  cases x <;> cases y <;> first | rfl | contradiction | skip
  exact congrArg fin (le_antisymm (not_lt.mp (of_decide_eq_false h₂)) (not_lt.mp (of_decide_eq_false h₁)))

/-- An operation that skips NaN and otherwise keeps the greater of two values with respect to a strict total order
    `r` on the non-NaN values is left-commutative.  Covers `maxSkip2` (`r = lt`) and `minSkip2` (`r` = `lt` flipped). -/
theorem skip2_left_comm {op : XR → XR → XR} {r : XR → XR → Bool}
    (hop : ∀ x y, op x y = if x.isNan then y else if y.isNan then x else if r x y then y else x)
    (hasymm : ∀ {x y}, r x y = true → r y x = false)
    (htrans : ∀ {x y z}, r x y = true → r y z = true → r x z = true)
    (htot : ∀ {x y}, x.isNan = false → y.isNan = false → r x y = false → r y x = false → x = y)
    (x y z : XR) : op x (op y z) = op y (op x z) := by
  have nanL : ∀ {a} b, a.isNan = true → op a b = b := fun b ha => by rw [hop, ha]; rfl
  have nanR : ∀ {a b}, a.isNan = false → b.isNan = true → op a b = a := fun ha hb => by rw [hop, ha, hb]; rfl
  have pick : ∀ {a b}, a.isNan = false → b.isNan = false → op a b = if r a b then b else a :=
    fun ha hb => by rw [hop, ha, hb]; rfl
  have comm : ∀ {a b : XR}, a.isNan = false → b.isNan = false → op a b = op b a := by
    intro a b ha hb
    rw [pick ha hb, pick hb ha]
    cases hab : r a b
    · cases hba : r b a
      · exact htot ha hb hab hba
      · rfl
    · rw [hasymm hab]; rfl
  cases hx : x.isNan
  · cases hy : y.isNan
    · cases hz : z.isNan
      · -- three proper values: if `a` is below `z` and `b` is not, then `b` is the greater of `a`, `b`
        have absorb : ∀ {a b : XR}, a.isNan = false → b.isNan = false → r a z = true → r b z = false →
            op a b = b := by
          intro a b ha hb haz hbz
          rw [pick ha hb]
          cases hab : r a b
          · cases hba : r b a
            · exact htot ha hb hab hba
            · rw [htrans hba haz] at hbz; contradiction
          · rfl
        have eyz := pick hy hz
        have exz := pick hx hz
        cases hyz : r y z <;> cases hxz : r x z <;> rw [hyz] at eyz <;> rw [hxz] at exz <;> rw [eyz, exz]
        · exact comm hx hy
        · exact (absorb hx hy hxz hyz).trans eyz.symm
        · exact exz.trans (absorb hy hx hyz hxz).symm
        · exact exz.trans eyz.symm
      · rw [nanR hy hz, nanR hx hz]
        exact comm hx hy
    · rw [nanL _ hy, nanL _ hy]
  · rw [nanL _ hx, nanL _ hx]

theorem maxSkip2_left_comm (x y z : XR) : maxSkip2 x (maxSkip2 y z) = maxSkip2 y (maxSkip2 x z) :=
  skip2_left_comm (r := lt) (fun _ _ => rfl) lt_asymm lt_trans eq_of_not_lt x y z

theorem minSkip2_left_comm (x y z : XR) : minSkip2 x (minSkip2 y z) = minSkip2 y (minSkip2 x z) :=
  skip2_left_comm (r := fun x y => lt y x) (fun _ _ => rfl) lt_asymm (fun h₁ h₂ => lt_trans h₂ h₁)
    (fun hx hy h₁ h₂ => eq_of_not_lt hx hy h₂ h₁) x y z

end XR
