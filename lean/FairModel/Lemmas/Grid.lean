import FairModel.Lemmas.Prelude
import FairModel.Model.Grid

/-!
Lemmas about `Model/Grid.lean` (C09), in this order: integer ranges and the `values` of one coordinate; the lattice
as the integer points of the L1 ball (`mem_lattice`), sorted and duplicate-free; the source-derived definitions
rewritten to closed forms; growth of the lattice with the radius, the `while True` search (`nUnits_spec`) and the
float estimate it starts from; dot products and positive/negative parts; the multiplier vectors `lambdaOf` and
their injectivity on a unit basis; `minL`; relabelling.
-/

namespace Grid
open GridSrc (pyRange)

/-- L1 norm of an integer vector -/
def l1 (v : List Int) : Nat := (v.map Int.natAbs).sum

@[simp] theorem l1_nil : l1 [] = 0 := rfl
@[simp] theorem l1_cons (a : Int) (v : List Int) : l1 (a :: v) = a.natAbs + l1 v := by simp [l1]

/-! ### integer ranges and the `values` of one coordinate -/

theorem mem_pyRange {lo hi v : Int} : v ∈ pyRange lo hi ↔ lo ≤ v ∧ v < hi := by
  simp only [pyRange, List.mem_map, List.mem_range]
  constructor
  · rintro ⟨i, hi, rfl⟩
    exact ⟨Int.le_add_of_nonneg_right (Int.natCast_nonneg i), by omega⟩
  · intro ⟨h1, h2⟩
    have h0 : 0 ≤ v - lo := Int.sub_nonneg.mpr h1
    exact ⟨(v - lo).toNat, by omega, by rw [Int.toNat_of_nonneg h0]; exact add_sub_cancel lo v⟩

theorem pyRange_sorted (lo hi : Int) : (pyRange lo hi).Pairwise (· < ·) := by
  rw [pyRange, List.pairwise_map]
  exact List.pairwise_lt_range.imp fun h => Int.add_lt_add_left (Int.ofNat_lt.mpr h) lo

theorem negVals_eq (m : Nat) : negVals m = (List.range m).map (fun (i : Nat) => -(m : Int) + i) := by
  rw [negVals, List.range_eq_range', List.reverse_range', ← List.range_eq_range', List.map_map]
  refine List.map_congr_left fun i hi => ?_
  rw [List.mem_range] at hi
  simp only [Function.comp]; omega

theorem pyRange_sym (m : Nat) : pyRange (-(m : Int)) ((m : Int) + 1) = negVals m ++ nonnegVals m := by
  have e : ((m : Int) + 1 - -(m : Int)).toNat = m + (m + 1) := by omega
  rw [pyRange, e, List.range_add, List.map_append, List.map_map, negVals_eq, nonnegVals]
  congr 1
  refine List.map_congr_left fun i _ => ?_
  simp only [Function.comp, Int.natCast_add, neg_add_cancel_left]

theorem values_eq_range (neg : Bool) (m : Nat) :
    values neg false m = pyRange (if neg then -(m : Int) else 0) ((m : Int) + 1) := by
  cases neg
  · simp [values, pyRange, nonnegVals]
  · exact (pyRange_sym m).symm

theorem mem_values {neg last : Bool} {m : Nat} {v : Int} :
    v ∈ values neg last m ↔
      (if last then v.natAbs = m else v.natAbs ≤ m) ∧ (neg = false → 0 ≤ v) := by
  cases last
  · rw [values_eq_range, mem_pyRange, if_neg Bool.false_ne_true, ← Int.ofNat_le, Int.natCast_natAbs, abs_le]
    cases neg
    · rw [if_neg Bool.false_ne_true]
      exact ⟨fun h => ⟨⟨(neg_nonpos.mpr (Int.natCast_nonneg m)).trans h.1, Int.lt_add_one_iff.mp h.2⟩, fun _ => h.1⟩,
        fun h => ⟨h.2 rfl, Int.lt_add_one_iff.mpr h.1.2⟩⟩
    · rw [if_pos rfl]
      exact ⟨fun h => ⟨⟨h.1, Int.lt_add_one_iff.mp h.2⟩, nofun⟩, fun h => ⟨h.1.1, Int.lt_add_one_iff.mpr h.1.2⟩⟩
  · unfold values
    cases neg <;> simp only [Bool.false_eq_true, if_false, if_true, Bool.true_and, Bool.false_and, forall_const,
      reduceCtorEq, false_implies, and_true, decide_eq_true_eq, Int.natAbs_eq_iff]
    · simp only [List.mem_cons, List.not_mem_nil, or_false]; omega
    · split <;> simp only [List.mem_cons, List.not_mem_nil, or_false]
      · exact or_comm
      · next h => rw [Nat.eq_zero_of_not_pos h, Nat.cast_zero, neg_zero, or_self]
theorem values_sorted (neg last : Bool) (m : Nat) : (values neg last m).Pairwise (· < ·) := by
  cases last
  · rw [values_eq_range]; exact pyRange_sorted _ _
  · unfold values
    simp only [if_true]
    split
    · next h =>
      rw [Bool.and_eq_true, decide_eq_true_eq] at h
      exact List.pairwise_pair.mpr (by omega)
    · exact List.pairwise_singleton _ _

theorem natAbs_le_of_mem_values {neg last : Bool} {m : Nat} {v : Int} (h : v ∈ values neg last m) :
    v.natAbs ≤ m := by
  have := (mem_values.mp h).1
  split at this
  · exact this.le
  · exact this

/-! ### the lattice -/

/-- `v` has one entry per coordinate and is non-negative wherever negatives are not allowed -/
def SignOK : List Bool → List Int → Prop
  | [], [] => True
  | b :: bs, v :: vs => (b = false → 0 ≤ v) ∧ SignOK bs vs
  | _, _ => False

theorem SignOK.length_eq : ∀ {bs : List Bool} {v : List Int}, SignOK bs v → v.length = bs.length
  | [], [], _ => rfl
  | [], _ :: _, h => h.elim
  | _ :: _, [], h => h.elim
  | _ :: _, _ :: _, h => congrArg (· + 1) (SignOK.length_eq h.2)

theorem signOK_nil_left {v : List Int} : SignOK [] v ↔ v = [] := by
  cases v <;> simp [SignOK]

theorem SignOK.l1_of_isEmpty {bs : List Bool} {u : List Int} (h : SignOK bs u) (he : bs.isEmpty = true) :
    l1 u = 0 := by
  rw [List.isEmpty_iff.mp he, signOK_nil_left] at h; rw [h]; rfl

theorem mem_lattice_cons {b : Bool} {bs : List Bool} {f : Bool} {m : Nat} {a : Int} {u : List Int} :
    a :: u ∈ lattice (b :: bs) f m ↔
      a ∈ values b (bs.isEmpty && f) m ∧ u ∈ lattice bs f (m - a.natAbs) := by
  simp only [lattice, List.mem_flatMap, List.mem_map, List.cons.injEq]
  constructor
  · rintro ⟨_, ha, _, hu, rfl, rfl⟩; exact ⟨ha, hu⟩
  · rintro ⟨ha, hu⟩; exact ⟨a, ha, u, hu, rfl, rfl⟩

/-- splitting the budget `m` between the first coordinate (`x`) and the remaining ones (`n`);
    `e` = "no coordinate remains" -/
theorem budget_split (e f : Bool) (x n m : Nat) (he : e = true → n = 0) :
    ((if e && f then x = m else x ≤ m) ∧ (if f && !e then n = m - x else n ≤ m - x)) ↔
      (if f then x + n = m else x + n ≤ m) := by
  have key : (x ≤ m ∧ n ≤ m - x) ↔ x + n ≤ m :=
    ⟨fun h => (Nat.le_sub_iff_add_le' h.1).mp h.2,
      fun h => ⟨(Nat.le_add_right x n).trans h, (Nat.le_sub_iff_add_le' ((Nat.le_add_right x n).trans h)).mpr h⟩⟩
  cases f <;> cases e <;>
    simp only [Bool.and_true, Bool.and_false, Bool.not_true, Bool.not_false, Bool.false_eq_true, if_true,
      if_false]
  · exact key
  · exact key
  · exact ⟨fun h => h.2.symm ▸ Nat.add_sub_of_le h.1,
      fun h => ⟨(Nat.le_add_right x n).trans_eq h, Nat.eq_sub_of_add_eq' h⟩⟩
  · rw [he rfl, Nat.add_zero]; exact ⟨fun h => h.1, fun h => ⟨h, Nat.zero_le _⟩⟩

/-- The lattice is EXACTLY the set of integer points of the (sign-restricted) L1 ball of radius
    `m`, resp. of the L1 sphere when the norm is forced. -/
theorem mem_lattice : ∀ (bs : List Bool) (f : Bool) (m : Nat) (v : List Int),
    v ∈ lattice bs f m ↔
      SignOK bs v ∧ (if f && !bs.isEmpty then l1 v = m else l1 v ≤ m)
  | [], f, m, v => by cases v <;> simp [lattice, SignOK]
  | b :: bs, f, m, [] => by
    simp only [lattice, List.mem_flatMap, List.mem_map, reduceCtorEq, and_false, exists_false, SignOK, false_and]
  | b :: bs, f, m, a :: u => by
    rw [mem_lattice_cons, mem_values, mem_lattice bs f _ u, SignOK, l1_cons]
    simp only [List.isEmpty_cons, Bool.not_false, Bool.and_true]
    constructor
    · rintro ⟨⟨hx, hy⟩, hz, hw⟩
      exact ⟨⟨hy, hz⟩, (budget_split _ f _ _ m hz.l1_of_isEmpty).mp ⟨hx, hw⟩⟩
    · rintro ⟨⟨hy, hz⟩, hv⟩
      obtain ⟨hx, hw⟩ := (budget_split _ f _ _ m hz.l1_of_isEmpty).mpr hv
      exact ⟨⟨hx, hy⟩, hz, hw⟩

theorem l1_le_of_mem_lattice {bs : List Bool} {f : Bool} {m : Nat} {v : List Int} (h : v ∈ lattice bs f m) :
    l1 v ≤ m := by
  have := ((mem_lattice bs f m v).mp h).2
  split at this
  · exact this.le
  · exact this

/-- The lattice is enumerated in strictly increasing lexicographic order. -/
theorem lattice_sorted : ∀ (bs : List Bool) (f : Bool) (m : Nat), (lattice bs f m).Pairwise (List.Lex (· < ·))
  | [], f, m => List.pairwise_singleton _ _
  | b :: bs, f, m => by
    rw [lattice, List.pairwise_flatMap]
    constructor
    · intro a _
      rw [List.pairwise_map]
      exact (lattice_sorted bs f _).imp List.Lex.cons
    · refine (values_sorted b _ m).imp fun {a a'} hlt x hx y hy => ?_
      obtain ⟨u, _, rfl⟩ := List.mem_map.mp hx
      obtain ⟨u', _, rfl⟩ := List.mem_map.mp hy
      exact List.Lex.rel hlt

theorem lattice_nodup : ∀ (bs : List Bool) (f : Bool) (m : Nat), (lattice bs f m).Nodup :=
  fun bs f m => (lattice_sorted bs f m).imp fun h => ne_of_irrefl h

theorem lattice_ne_nil : ∀ (bs : List Bool) (f : Bool) (m : Nat), lattice bs f m ≠ []
  | [], f, m => List.cons_ne_nil _ _
  | b :: bs, f, m => by
    obtain ⟨u, hu⟩ := List.exists_mem_of_ne_nil _ (lattice_ne_nil bs f (m - (m : Int).natAbs))
    refine List.ne_nil_of_mem
      (mem_lattice_cons.mpr ⟨mem_values.mpr ⟨?_, fun _ => Int.natCast_nonneg m⟩, hu⟩)
    split <;> simp only [Int.natAbs_natCast, le_refl]

theorem lattice_zero : ∀ (bs : List Bool) (f : Bool), lattice bs f 0 = [List.replicate bs.length 0]
  | [], _ => rfl
  | b :: bs, f => by
    rw [lattice, show values b (bs.isEmpty && f) 0 = [0] by cases b <;> cases (bs.isEmpty && f) <;> rfl, List.flatMap_cons, List.flatMap_nil, List.append_nil, Int.natAbs_zero,
      Nat.sub_zero, lattice_zero bs f]; rfl

theorem lattice_length_pos (na : List Bool) (f : Bool) (n : Nat) : 1 ≤ (lattice na f n).length :=
  List.length_pos_iff.mpr (lattice_ne_nil na f n)

/-! ### bridge: the source-derived definitions of `Model/Grid.lean` (over `Generated/GridSrc.lean`) rewritten to
    closed forms.  These are the lemmas an edit of a lifted source expression breaks. -/

theorem posPart_def (q : Rat) : posPart q = if q < 0 then 0 else q := by
  simp only [posPart, GridSrc.posClip, Int.cast_zero, decide_eq_true_eq]

theorem negPart_def (q : Rat) : negPart q = if -q < 0 then 0 else -q := by
  simp only [negPart, GridSrc.negFromClipped, Bool.false_eq_true, if_false, GridSrc.negOf, GridSrc.negClip,
    Int.cast_zero, decide_eq_true_eq]

theorem scaleCoefs_def (limit : Rat) (n : Nat) (v : List Int) :
    scaleCoefs limit n v = v.map (fun (c : Int) => (c : Rat) * (limit / (n : Rat))) := by
  simp [scaleCoefs, GridSrc.scale]

theorem budget_src (i : Int) (m : Nat) (v : Int) (h : v.natAbs ≤ m) :
    GridSrc.budget i (m : Int) v = ((m - v.natAbs : Nat) : Int) := by
  rw [GridSrc.budget, GridSrc.pyAbs, Int.ofNat_sub h, Int.natCast_natAbs, abs_eq_max_neg]
  split
  · rw [max_eq_right (by omega)]
  · rw [max_eq_left (by omega)]

theorem values_src (neg last : Bool) (m : Nat) :
    (if last then GridSrc.lastValues neg (m : Int) else GridSrc.rangeValues neg (m : Int))
      = values neg last m := by
  cases last
  · exact (values_eq_range neg m).symm
  · simp [values, GridSrc.lastValues]

theorem accumulate_eq (na : List Bool) (f : Bool) : ∀ (fuel i m : Nat), i ≤ na.length →
    na.length - i + 1 ≤ fuel →
    accumulate na.length na f fuel (i : Int) (m : Int) = lattice (na.drop i) f m
  | 0, i, m, _, h => absurd h (Nat.not_succ_le_zero _)
  | fuel + 1, i, m, hi, hf => by
    rw [accumulate]
    rcases Nat.eq_or_lt_of_le hi with rfl | hlt
    · rw [GridSrc.atEnd, decide_eq_true rfl, if_pos rfl, List.drop_length, lattice]
    · have hlast : GridSrc.lastForced (i : Int) (na.length : Int) f = ((na.drop (i + 1)).isEmpty && f) := by
        rw [GridSrc.lastForced]
        congr 1
        rw [Bool.eq_iff_iff, decide_eq_true_iff, List.isEmpty_iff, List.drop_eq_nil_iff]
        omega
      have hneg : na.getD (i : Int).toNat false = na[i] := by
        rw [Int.toNat_natCast, List.getD_eq_getElem?_getD, List.getElem?_eq_getElem hlt, Option.getD_some]
      rw [GridSrc.atEnd, decide_eq_false (fun h => hlt.ne (Int.ofNat_inj.mp h)), if_neg Bool.false_ne_true,
        List.drop_eq_getElem_cons hlt, lattice]
      simp only [hneg, hlast, values_src]
      refine List.flatMap_congr fun v hv => ?_
      rw [budget_src _ _ _ (natAbs_le_of_mem_values hv), GridSrc.nextIndex, ← Int.natCast_succ,
        accumulate_eq na f fuel (i + 1) (m - v.natAbs) hlt
          (by rw [Nat.sub_add_eq, Nat.sub_add_cancel (Nat.sub_pos_of_lt hlt)]; exact Nat.le_of_succ_le_succ hf)]

theorem srcLattice_eq (na : List Bool) (f : Bool) (m : Nat) : srcLattice na f m = lattice na f m := by
  have := accumulate_eq na f (na.length + 1) 0 m (by omega) (by omega)
  simpa [srcLattice, GridSrc.startIndex] using this

theorem enough_def (a b : Nat) : GridSrc.enough (a : Nat) (b : Nat) = decide (b ≤ a) :=
  decide_eq_decide.mpr Int.ofNat_le

theorem nextUnits_def (n : Nat) : GridSrc.nextUnits (n : Nat) = ((n + 1 : Nat) : Int) := rfl

theorem truncate_def {α : Type} (acc : List α) (gs : Nat) : GridSrc.truncate acc (gs : Nat) = acc.take gs := by
  rw [GridSrc.truncate, GridSrc.pySliceTo, if_neg (Int.not_lt.mpr (Int.natCast_nonneg gs)), Int.toNat_natCast]

theorem nUnits_def (na : List Bool) (f : Bool) (gs : Nat) :
    nUnits na f gs = (List.range (gs + 1)).find? (fun n => decide (gs ≤ (lattice na f n).length)) := by
  simp [nUnits, srcLattice_eq, enough_def]

theorem grid_def (na : List Bool) (f : Bool) (gs : Nat) (limit : Rat) (rows : List (List Rat × List Rat)) :
    grid na f gs limit rows =
      match nUnits na f gs with
      | none => .error .noUnits
      | some 0 => .error .zeroDiv
      | some (n + 1) => .ok (n + 1, ((lattice na f (n + 1)).take gs).map
          (fun v => lambdaOf rows (scaleCoefs limit (n + 1) v))) := by
  simp only [grid, srcLattice_eq, truncate_def]; rfl

theorem trueDim_src (na : List Bool) (f : Bool) :
    (GridSrc.trueDim (na.length : Nat) f).toNat = trueDim na f := by
  unfold GridSrc.trueDim trueDim
  split
  · exact Int.toNat_sub _ 1
  · exact Int.toNat_natCast _

theorem aggL_max (x : Rat) (xs : List Rat) : aggL GridSrc.gammaAgg x xs = maxL x xs := rfl
theorem aggL_min (x : Rat) (xs : List Rat) : aggL GridSrc.selAgg x xs = minL x xs := rfl

theorem tradeoff_cons (cw obj g : Rat) (gs : List Rat) :
    tradeoff cw obj (g :: gs) = some ((1 - cw) * obj + cw * maxL g gs) := rfl

theorem argminFirst_cons (x : Rat) (xs : List Rat) :
    argminFirst (x :: xs) = some ((x :: xs).idxOf (minL x xs)) := rfl

theorem relabelY_toNat (x : Rat) : (GridSrc.relabelY x).toNat = if 0 < x then 1 else 0 := by
  simp only [GridSrc.relabelY, gt_iff_lt, Int.cast_zero, decide_eq_true_eq]
  split <;> rfl

theorem relabelW_def (x : Rat) : GridSrc.relabelW x = if x < 0 then -x else x := rfl

theorem relabel_def (w : List Rat) :
    relabel w = w.map (fun x => (if 0 < x then 1 else 0, if x < 0 then -x else x)) :=
  List.map_congr_left fun x _ => by rw [relabelY_toNat, relabelW_def]

/-! ### growth of the lattice with the radius -/

theorem trueDim_pos {na : List Bool} {f : Bool} (h : 1 ≤ trueDim na f) :
    ∃ b bs, na = b :: bs ∧ (bs.isEmpty && f) = false := by
  cases na with
  | nil => rw [trueDim] at h; split at h <;> cases h
  | cons b bs =>
    refine ⟨b, bs, rfl, ?_⟩
    cases bs with
    | nil => cases f with
      | false => rfl
      | true => cases h
    | cons _ _ => rfl

/-- move the first coordinate one step away from zero -/
def bumpFirst : List Int → List Int
  | [] => []
  | a :: u => (if 0 ≤ a then a + 1 else a - 1) :: u

theorem bumpFirst_injective : Function.Injective bumpFirst
  | [], [], _ => rfl
  | [], _ :: _, h => by cases h
  | _ :: _, [], h => by cases h
  | a :: u, a' :: u', h => by
    rw [bumpFirst, bumpFirst, List.cons.injEq] at h
    have := h.1
    rw [h.2, show a = a' by
      split at this <;> split at this
      · exact add_right_cancel this
      · omega
      · omega
      · exact add_right_cancel this]

theorem bumpFirst_mem_lattice {b : Bool} {bs : List Bool} {f : Bool} {m : Nat} {v : List Int}
    (hv : v ∈ lattice (b :: bs) f m) : bumpFirst v ∈ lattice (b :: bs) f (m + 1) := by
  cases v with
  | nil => exact ((mem_lattice _ f m []).mp hv).1.elim
  | cons a u =>
    have e : (if 0 ≤ a then a + 1 else a - 1).natAbs = a.natAbs + 1 := by
      split
      · exact Int.natAbs_add_of_nonneg ‹_› Int.one_nonneg
      · exact Int.natAbs_add_of_nonpos (Int.le_of_lt (Int.not_le.mp ‹_›)) (by decide)
    rw [mem_lattice_cons, mem_values] at hv
    rw [bumpFirst, mem_lattice_cons, mem_values, e, Nat.add_sub_add_right]
    obtain ⟨⟨h1, h2⟩, hu⟩ := hv
    refine ⟨⟨?_, fun hb => ?_⟩, hu⟩
    · split at h1
      · next hl => rw [if_pos hl, h1]
      · next hl => rw [if_neg hl]; exact Nat.succ_le_succ h1
    · rw [if_pos (h2 hb)]; exact Int.add_nonneg (h2 hb) Int.one_nonneg

/-- The lattice grows strictly with the radius as soon as one coordinate is free
    (`trueDim ≥ 1`), so the `while True` search of `_GridGenerator.__init__` terminates:
    `bumpFirst` embeds radius `m` into radius `m + 1` and misses every point with first coordinate 0. -/
theorem lattice_length_lt {na : List Bool} {f : Bool} (h : 1 ≤ trueDim na f) (m : Nat) :
    (lattice na f m).length < (lattice na f (m + 1)).length := by
  obtain ⟨b, bs, rfl, hlast⟩ := trueDim_pos h
  obtain ⟨u0, hu0⟩ := List.exists_mem_of_ne_nil _ (lattice_ne_nil bs f (m + 1))
  have hnd : (((0 : Int) :: u0) :: (lattice (b :: bs) f m).map bumpFirst).Nodup := by
    refine List.nodup_cons.mpr ⟨fun hx => ?_, (lattice_nodup _ _ _).map bumpFirst_injective⟩
    obtain ⟨v, -, hbv⟩ := List.mem_map.mp hx
    cases v with
    | nil => cases hbv
    | cons a u => have := (List.cons.inj hbv).1; split at this <;> omega
  have hsub : ∀ x ∈ ((0 : Int) :: u0) :: (lattice (b :: bs) f m).map bumpFirst,
      x ∈ lattice (b :: bs) f (m + 1) := by
    intro x hx
    rcases List.mem_cons.mp hx with rfl | hx
    · exact mem_lattice_cons.mpr
        ⟨mem_values.mpr (by rw [hlast]; exact ⟨Nat.zero_le _, fun _ => le_refl _⟩), hu0⟩
    · obtain ⟨v, hv, rfl⟩ := List.mem_map.mp hx
      exact bumpFirst_mem_lattice hv
  have := (List.subperm_of_subset hnd hsub).length_le
  rwa [List.length_cons, List.length_map] at this

theorem lattice_length_mono {na : List Bool} {f : Bool} (h : 1 ≤ trueDim na f) {n n' : Nat} (hn : n ≤ n') :
    (lattice na f n).length ≤ (lattice na f n').length :=
  monotone_nat_of_le_succ (fun m => (lattice_length_lt h m).le) hn

theorem lattice_length_ge {na : List Bool} {f : Bool} (h : 1 ≤ trueDim na f) :
    ∀ m : Nat, m + 1 ≤ (lattice na f m).length
  | 0 => lattice_length_pos na f 0
  | m + 1 => Nat.succ_le_of_lt (Nat.lt_of_le_of_lt (lattice_length_ge h m) (lattice_length_lt h m))

/-- The `while True` search terminates and returns the least sufficient radius. -/
theorem nUnits_spec {na : List Bool} {f : Bool} (h : 1 ≤ trueDim na f) (gs : Nat) :
    ∃ n, nUnits na f gs = some n ∧ n ≤ gs ∧ gs ≤ (lattice na f n).length ∧
      ∀ k < n, (lattice na f k).length < gs := by
  rw [nUnits_def]
  cases hfind : (List.range (gs + 1)).find? (fun n => decide (gs ≤ (lattice na f n).length)) with
  | none =>
    exact absurd (decide_eq_true (Nat.le_of_succ_le (lattice_length_ge h gs)))
      (List.find?_eq_none.mp hfind gs (List.mem_range.mpr (Nat.lt_succ_self gs)))
  | some n =>
    rw [List.find?_range_eq_some] at hfind
    exact ⟨n, rfl, Nat.le_of_lt_succ (List.mem_range.mp hfind.2.1), of_decide_eq_true hfind.1,
      fun k hk => Nat.lt_of_not_le (of_decide_eq_false (Bool.eq_false_of_not_eq_true' (hfind.2.2 k hk)))⟩

theorem one_le_radius_of_two_le_length {na : List Bool} {f : Bool} {gs n : Nat} (hgs : 2 ≤ gs) (hge : gs ≤ (lattice na f n).length) :
    1 ≤ n := by
  cases n with
  | zero => rw [lattice_zero, List.length_singleton] at hge; exact absurd (le_trans hgs hge) (by decide)
  | succ n => exact Nat.succ_pos n

/-! ### the float starting point of the search is a lower bound -/

theorem values_length_le (b last : Bool) (m : Nat) :
    (values b last m).length ≤ (if b then 2 else 1) * (if last then 1 else m + 1) := by
  cases last
  · rw [values_eq_range, pyRange, List.length_map, List.length_range]
    cases b <;> simp only [Bool.false_eq_true, if_false, if_true] <;> omega
  · unfold values
    cases b <;> simp only [Bool.false_eq_true, if_false, if_true, Bool.true_and, Bool.false_and]
    · exact le_refl _
    · split
      exacts [Nat.le_refl _, Nat.le_succ _]

def negCount (bs : List Bool) : Nat := (bs.filter id).length

theorem two_pow_negCount_cons (b : Bool) (bs : List Bool) :
    2 ^ negCount (b :: bs) = (if b then 2 else 1) * 2 ^ negCount bs := by
  cases b
  · rw [negCount, List.filter_cons_of_neg (by simp)]; simp [negCount]
  · rw [negCount, List.filter_cons_of_pos rfl, List.length_cons, pow_succ, mul_comm]; rfl

theorem pow_trueDim_cons (x : Nat) (b : Bool) (bs : List Bool) (f : Bool) :
    x ^ trueDim (b :: bs) f = (if bs.isEmpty && f then 1 else x) * x ^ trueDim bs f := by
  cases f
  · simp only [trueDim, Bool.and_false, Bool.false_eq_true, if_false, List.length_cons, pow_succ, mul_comm]
  · cases bs with
    | nil => rfl
    | cons b' bs' =>
      simp only [trueDim, if_true, List.length_cons, Nat.add_sub_cancel, List.isEmpty_cons, Bool.false_and,
        Bool.false_eq_true, if_false, pow_succ, mul_comm]

theorem length_flatMap_le {α β : Type} (l : List α) (g : α → List β) (B : Nat)
    (h : ∀ a ∈ l, (g a).length ≤ B) : (l.flatMap g).length ≤ l.length * B := by
  induction l with
  | nil => exact Nat.zero_le _
  | cons a l ih =>
    rw [List.flatMap_cons, List.length_append, List.length_cons, Nat.succ_mul, Nat.add_comm]
    exact Nat.add_le_add (ih fun x hx => h x (List.mem_cons_of_mem _ hx)) (h a List.mem_cons_self)

/-- `len(build_integer_grid(m)) ≤ 2^(#coordinates that may be negative) * (m+1)^true_dim`: hence a
    lattice with at least `grid_size` points has `m ≥ (grid_size / 2^k)^(1/true_dim) - 1`, the float
    expression the implementation starts its search from.  Each coordinate contributes a factor
    `(1 or 2) * (m + 1)`, the forced last one only `(1 or 2)`. -/
theorem lattice_length_le_cube : ∀ (bs : List Bool) (f : Bool) (m : Nat),
    (lattice bs f m).length ≤ 2 ^ negCount bs * (m + 1) ^ trueDim bs f
  | [], f, m => by simp [lattice, negCount, trueDim]
  | b :: bs, f, m => by
    rw [lattice, two_pow_negCount_cons, pow_trueDim_cons, Nat.mul_mul_mul_comm]
    refine le_trans (length_flatMap_le _ _ _ fun v _ => ?_)
      (Nat.mul_le_mul_right _ (values_length_le b (bs.isEmpty && f) m))
    rw [List.length_map]
    exact le_trans (lattice_length_le_cube bs f _) (Nat.mul_le_mul_left _
      (Nat.pow_le_pow_left (Nat.succ_le_succ (Nat.sub_le _ _)) _))

/-! ### dot products, positive and negative parts -/

@[simp] theorem dot_nil_left (b : List Rat) : dot [] b = 0 := by simp [dot]
@[simp] theorem dot_nil_right (a : List Rat) : dot a [] = 0 := by simp [dot]
@[simp] theorem dot_cons (x y : Rat) (a b : List Rat) : dot (x :: a) (y :: b) = x * y + dot a b := by
  simp [dot]

theorem dot_nonneg : ∀ (a b : List Rat), (∀ x ∈ a, 0 ≤ x) → (∀ x ∈ b, 0 ≤ x) → 0 ≤ dot a b
  | [], _, _, _ => by rw [dot_nil_left]
  | _ :: _, [], _, _ => by rw [dot_nil_right]
  | x :: a, y :: b, ha, hb => by
    rw [List.forall_mem_cons] at ha hb
    rw [dot_cons]
    exact add_nonneg (mul_nonneg ha.1 hb.1) (dot_nonneg a b ha.2 hb.2)

theorem dot_le_sum : ∀ (c P : List Rat), (∀ x ∈ c, x ≤ 1) → (∀ p ∈ P, 0 ≤ p) → dot c P ≤ P.sum
  | [], P, _, hP => by rw [dot_nil_left]; exact List.sum_nonneg hP
  | _ :: _, [], _, _ => by rw [dot_nil_right]; exact le_refl _
  | x :: c, y :: P, hc, hP => by
    rw [List.forall_mem_cons] at hc hP
    rw [dot_cons, List.sum_cons]
    exact add_le_add (mul_le_of_le_one_left hP.1 hc.1) (dot_le_sum c P hc.2 hP.2)

-- `posPart` is the lifted `GridSrc.posClip`, not `Saddle.posPart`: the lemmas of `Lemmas/Saddle.lean` are restated for it.
theorem posPart_of_nonneg {q : Rat} (h : 0 ≤ q) : posPart q = q := by
  rw [posPart_def, if_neg (not_lt.mpr h)]

theorem posPart_of_nonpos {q : Rat} (h : q ≤ 0) : posPart q = 0 := by
  rw [posPart_def]; split
  · rfl
  · exact le_antisymm h (not_lt.mp ‹_›)

theorem negPart_eq (q : Rat) : negPart q = posPart (-q) := by rw [negPart_def, posPart_def]

theorem negPart_of_nonneg {q : Rat} (h : 0 ≤ q) : negPart q = 0 := by
  rw [negPart_eq, posPart_of_nonpos (neg_nonpos.mpr h)]

theorem posPart_nonneg (q : Rat) : 0 ≤ posPart q := by
  rw [posPart_def]; split
  · exact le_refl _
  · exact not_lt.mp ‹_›

theorem negPart_nonneg (q : Rat) : 0 ≤ negPart q := negPart_eq q ▸ posPart_nonneg _

theorem posPart_sub_negPart (q : Rat) : posPart q - negPart q = q := by
  rw [negPart_eq]
  rcases le_total 0 q with h | h
  · rw [posPart_of_nonneg h, posPart_of_nonpos (neg_nonpos.mpr h), sub_zero]
  · rw [posPart_of_nonpos h, posPart_of_nonneg (neg_nonneg.mpr h), zero_sub, neg_neg]

theorem posPart_add_negPart (q : Rat) : posPart q + negPart q = |q| := by
  rw [negPart_eq]
  rcases le_total 0 q with h | h
  · rw [posPart_of_nonneg h, posPart_of_nonpos (neg_nonpos.mpr h), add_zero, abs_of_nonneg h]
  · rw [posPart_of_nonpos h, posPart_of_nonneg (neg_nonneg.mpr h), zero_add, abs_of_nonpos h]

theorem dot_vadd : ∀ (a b P : List Rat), a.length = P.length → b.length = P.length →
    dot (vadd a b) P = dot a P + dot b P
  | [], b, P, h1, _ => by
    rw [List.eq_nil_of_length_eq_zero h1.symm, dot_nil_right, dot_nil_right, dot_nil_right, add_zero]
  | _ :: _, [], P, h1, h2 => by rw [← h2] at h1; cases h1
  | _ :: _, _ :: _, [], h1, _ => by cases h1
  | x :: a, y :: b, z :: P, h1, h2 => by
    rw [vadd, List.zipWith_cons_cons, dot_cons, dot_cons, dot_cons, add_mul, add_add_add_comm]
    exact congrArg _ (dot_vadd a b P (Nat.succ.inj h1) (Nat.succ.inj h2))

theorem colSums_cons (d : Nat) (r : List Rat) (rows : List (List Rat)) :
    colSums d (r :: rows) = vadd r (colSums d rows) := rfl

theorem colSums_length (d : Nat) : ∀ rows : List (List Rat), (∀ r ∈ rows, r.length = d) →
    (colSums d rows).length = d
  | [], _ => by simp [colSums, zeroVec]
  | r :: rows, h => by
    rw [List.forall_mem_cons] at h
    rw [colSums_cons, vadd, List.length_zipWith, colSums_length d rows h.2, h.1, Nat.min_self]

theorem dot_zeroVec (d : Nat) (P : List Rat) : dot (zeroVec d) P = 0 := by
  induction d generalizing P with
  | zero => simp [zeroVec]
  | succ d ih =>
    cases P with
    | nil => simp
    | cons y P => simp only [zeroVec, List.replicate_succ, dot_cons] at ih ⊢; rw [ih]; ring

theorem sum_dot_rows (d : Nat) (P : List Rat) (hP : P.length = d) :
    ∀ rows : List (List Rat), (∀ r ∈ rows, r.length = d) →
      (rows.map (fun r => dot r P)).sum = dot (colSums d rows) P
  | [], _ => by simp [colSums, dot_zeroVec]
  | r :: rows, h => by
    rw [List.forall_mem_cons] at h
    rw [List.map_cons, List.sum_cons, sum_dot_rows d P hP rows h.2, colSums_cons,
      dot_vadd _ _ _ (h.1.trans hP.symm) ((colSums_length d rows h.2).trans hP.symm)]

/-! ### the multiplier vectors -/

theorem basisOK_spec {d : Nat} {rows : List (List Rat × List Rat)} (h : basisOK d rows = true) :
    (∀ r ∈ rows, r.1.length = d ∧ r.2.length = d ∧ (∀ x ∈ r.1, 0 ≤ x) ∧ (∀ x ∈ r.2, 0 ≤ x)) ∧
    (∀ x ∈ colSums d (rows.map (·.1)), x ≤ 1) ∧ (∀ x ∈ colSums d (rows.map (·.2)), x ≤ 1) := by
  simp only [basisOK, Bool.and_eq_true, List.all_eq_true, decide_eq_true_eq] at h
  refine ⟨fun r hr => ?_, h.1.2, h.2⟩
  have := h.1.1 r hr
  exact ⟨this.1.1.1, this.1.1.2, this.1.2, this.2⟩

theorem lambdaOf_nonneg (rows : List (List Rat × List Rat)) (coefs : List Rat)
    (h : ∀ r ∈ rows, (∀ x ∈ r.1, 0 ≤ x) ∧ (∀ x ∈ r.2, 0 ≤ x)) :
    ∀ x ∈ lambdaOf rows coefs, 0 ≤ x := by
  refine List.forall_mem_map.mpr fun r hr => ?_
  exact add_nonneg (dot_nonneg r.1 _ (h r hr).1 (List.forall_mem_map.mpr fun _ _ => posPart_nonneg _))
    (dot_nonneg r.2 _ (h r hr).2 (List.forall_mem_map.mpr fun _ _ => negPart_nonneg _))

theorem lambdaOf_sum_dots {d : Nat} {rows : List (List Rat × List Rat)} (hb : basisOK d rows = true)
    (coefs : List Rat) (hc : coefs.length = d) :
    (lambdaOf rows coefs).sum =
      dot (colSums d (rows.map (·.1))) (coefs.map posPart) + dot (colSums d (rows.map (·.2))) (coefs.map negPart) := by
  have hr := (basisOK_spec hb).1
  rw [← sum_dot_rows d _ ((List.length_map _).trans hc) _ (List.forall_mem_map.mpr fun r h => (hr r h).1),
    ← sum_dot_rows d _ ((List.length_map _).trans hc) _ (List.forall_mem_map.mpr fun r h => (hr r h).2.1),
    List.map_map, List.map_map, ← List.sum_map_add]
  rfl

theorem lambdaOf_sum_le {d : Nat} {rows : List (List Rat × List Rat)} (hb : basisOK d rows = true)
    (coefs : List Rat) (hc : coefs.length = d) :
    (lambdaOf rows coefs).sum ≤ (coefs.map posPart).sum + (coefs.map negPart).sum := by
  rw [lambdaOf_sum_dots hb coefs hc]
  exact add_le_add (dot_le_sum _ _ (basisOK_spec hb).2.1 (List.forall_mem_map.mpr fun _ _ => posPart_nonneg _))
    (dot_le_sum _ _ (basisOK_spec hb).2.2 (List.forall_mem_map.mpr fun _ _ => negPart_nonneg _))

theorem scale_parts_sum (limit : Rat) (n : Nat) (hs : 0 ≤ limit / (n : Rat)) :
    ∀ v : List Int, ((scaleCoefs limit n v).map posPart).sum + ((scaleCoefs limit n v).map negPart).sum
      = (l1 v : Rat) * (limit / (n : Rat))
  | [] => by simp [scaleCoefs_def]
  | a :: v => by
    have ih := scale_parts_sum limit n hs v
    rw [scaleCoefs_def] at ih ⊢
    rw [List.map_cons, List.map_cons, List.map_cons, List.sum_cons, List.sum_cons, add_add_add_comm, ih,
      posPart_add_negPart, abs_mul, abs_of_nonneg hs, l1_cons, Nat.cast_add, Nat.cast_natAbs, Int.cast_abs,
      add_mul]

/-! ### injectivity of the basis map on a unit basis -/

theorem unitVec_succ_zero (d : Nat) : unitVec (d + 1) 0 = 1 :: zeroVec d := by
  rw [unitVec, List.range_succ_eq_map, List.map_cons, List.map_map, if_pos rfl, zeroVec,
    ← List.length_range (n := d), ← List.map_const', List.length_range]
  rfl

theorem unitVec_succ_succ (d j : Nat) : unitVec (d + 1) (j + 1) = 0 :: unitVec d j := by
  rw [unitVec, List.range_succ_eq_map, List.map_cons, List.map_map, unitVec, if_neg (Nat.succ_ne_zero j).symm]
  exact congrArg _ (List.map_congr_left fun i _ => if_congr Nat.succ_inj rfl rfl)

theorem dot_unitVec : ∀ (d j : Nat) (P : List Rat), P.length = d → j < d →
    dot (unitVec d j) P = P.getD j 0
  | 0, _, _, _, hj => absurd hj (Nat.not_lt_zero _)
  | d + 1, j, [], hP, _ => by cases hP
  | d + 1, 0, y :: P, _, _ => by
    rw [unitVec_succ_zero, dot_cons, dot_zeroVec, one_mul, add_zero]; rfl
  | d + 1, j + 1, y :: P, hP, hj => by
    rw [unitVec_succ_succ, dot_cons, dot_unitVec d j P (Nat.succ.inj hP) (Nat.lt_of_succ_lt_succ hj),
      zero_mul, zero_add]; rfl

theorem unitBasis_spec {na : List Bool} {rows : List (List Rat × List Rat)}
    (h : unitBasis na rows = true) (j : Nat) (hj : j < na.length) :
    (∃ r ∈ rows, r.1 = unitVec na.length j ∧ r.2 = zeroVec na.length) ∧
    (na.getD j false = true → ∃ r ∈ rows, r.2 = unitVec na.length j ∧ r.1 = zeroVec na.length) := by
  simp only [unitBasis, List.all_eq_true, List.mem_range, Bool.and_eq_true, List.any_eq_true,
    decide_eq_true_eq, Bool.or_eq_true, Bool.not_eq_true'] at h
  have := h j hj
  refine ⟨?_, fun hn => ?_⟩
  · obtain ⟨r, hr, h1, h2⟩ := this.1; exact ⟨r, hr, h1, h2⟩
  · rcases this.2 with h0 | ⟨r, hr, h1, h2⟩
    · rw [hn] at h0; cases h0
    · exact ⟨r, hr, h1, h2⟩

theorem SignOK.nonneg_of : ∀ {bs : List Bool} {v : List Int}, SignOK bs v →
    ∀ (j : Nat) (hj : j < v.length), bs.getD j false = false → 0 ≤ v[j]
  | [], [], _, _, hj, _ => absurd hj (Nat.not_lt_zero _)
  | [], _ :: _, h, _, _, _ => h.elim
  | _ :: _, [], h, _, _, _ => h.elim
  | _ :: _, _ :: _, h, 0, _, hb => h.1 hb
  | _ :: _, _ :: _, h, j + 1, hj, hb => SignOK.nonneg_of h.2 j (Nat.lt_of_succ_lt_succ hj) hb

theorem coef_inj (s : Rat) (hs : 0 < s) (a a' : Int) (hp : posPart (a * s) = posPart (a' * s))
    (hn : negPart (a * s) = negPart (a' * s)) : a = a' := by
  have : (a : Rat) * s = a' * s := by
    rw [← posPart_sub_negPart ((a : Rat) * s), ← posPart_sub_negPart ((a' : Rat) * s), hp, hn]
  exact_mod_cast mul_right_cancel₀ (ne_of_gt hs) this

theorem getD_scale_part (g : Rat → Rat) (limit : Rat) (n : Nat) (v : List Int) (j : Nat) (hj : j < v.length) :
    ((scaleCoefs limit n v).map g).getD j 0 = g ((v[j] : Rat) * (limit / (n : Rat))) := by
  simp [scaleCoefs_def, List.getD_eq_getElem?_getD, hj]

theorem scaleCoefs_length (limit : Rat) (n : Nat) (v : List Int) : (scaleCoefs limit n v).length = v.length :=
  List.length_map _

/-- On a unit basis the map "lattice point ↦ multiplier vector" is injective. -/
theorem lambdaOf_inj {na : List Bool} {rows : List (List Rat × List Rat)}
    (hu : unitBasis na rows = true) (limit : Rat) (n : Nat) (hs : 0 < limit / (n : Rat))
    (v v' : List Int) (hv : SignOK na v) (hv' : SignOK na v')
    (h : lambdaOf rows (scaleCoefs limit n v) = lambdaOf rows (scaleCoefs limit n v')) : v = v' := by
  have hl := hv.length_eq
  have hl' := hv'.length_eq
  have hrows := List.map_inj_left.mp h
  apply List.ext_getElem (by rw [hl, hl'])
  intro j hj hj'
  have hjd : j < na.length := by omega
  obtain ⟨⟨r, hr, hr1, hr2⟩, hneg⟩ := unitBasis_spec hu j hjd
  -- the row whose basis row is `e_j` reads off the `j`-th coefficient's positive (negative) part
  have key : ∀ g : Rat → Rat, dot (unitVec na.length j) ((scaleCoefs limit n v).map g) =
        dot (unitVec na.length j) ((scaleCoefs limit n v').map g) →
      g ((v[j] : Rat) * (limit / n)) = g ((v'[j] : Rat) * (limit / n)) := by
    intro g hg
    rwa [dot_unitVec _ j _ ((List.length_map _).trans ((scaleCoefs_length ..).trans hl)) hjd,
      dot_unitVec _ j _ ((List.length_map _).trans ((scaleCoefs_length ..).trans hl')) hjd,
      getD_scale_part _ _ _ _ _ hj, getD_scale_part _ _ _ _ _ hj'] at hg
  have hpos := key posPart (by simpa only [hr1, hr2, dot_zeroVec, add_zero] using hrows r hr)
  have hnegp : negPart ((v[j] : Rat) * (limit / n)) = negPart ((v'[j] : Rat) * (limit / n)) := by
    cases hb : na.getD j false with
    | true =>
      obtain ⟨r, hr, hr2, hr1⟩ := hneg hb
      exact key negPart (by simpa only [hr1, hr2, dot_zeroVec, zero_add] using hrows r hr)
    | false =>
      rw [negPart_of_nonneg (mul_nonneg (Int.cast_nonneg (hv.nonneg_of j hj hb)) hs.le),
        negPart_of_nonneg (mul_nonneg (Int.cast_nonneg (hv'.nonneg_of j hj' hb)) hs.le)]
  exact coef_inj _ hs _ _ hpos hnegp

/-! ### selection -/

-- `Grid.minL` is a second copy of `Saddle.minL` in the model: the three lemmas of `Lemmas/Saddle.lean` are restated for it.
theorem minL_le_init : ∀ (x : Rat) (xs : List Rat), minL x xs ≤ x
  | _, [] => le_refl _
  | x, y :: ys => by
    simp only [minL]
    split
    · next h => exact le_trans (minL_le_init y ys) (le_of_lt h)
    · exact minL_le_init x ys

theorem minL_le_mem : ∀ (x : Rat) (xs : List Rat), ∀ y ∈ xs, minL x xs ≤ y
  | _, [], y, hy => by simp at hy
  | x, z :: zs, y, hy => by
    simp only [minL]
    rcases List.mem_cons.mp hy with rfl | hy
    · split
      · exact minL_le_init _ _
      · next h => exact le_trans (minL_le_init x zs) (not_lt.mp h)
    · exact minL_le_mem _ zs y hy

theorem minL_mem : ∀ (x : Rat) (xs : List Rat), minL x xs ∈ x :: xs
  | _, [] => List.mem_cons_self
  | x, y :: ys => by
    simp only [minL]
    split
    · exact List.mem_cons_of_mem _ (minL_mem y ys)
    · rcases List.mem_cons.mp (minL_mem x ys) with h | h
      · rw [h]; exact List.mem_cons_self
      · exact List.mem_cons_of_mem _ (List.mem_cons_of_mem _ h)

theorem ne_of_lt_idxOf (l : List Rat) (a : Rat) (j : Nat) (hj : j < l.idxOf a) (hl : j < l.length) :
    l[j] ≠ a := by
  simpa using List.not_of_lt_findIdx hj

/-! ### relabelling -/

/-- a 0/1 labeling as rationals -/
def toRat (h : List Nat) : List Rat := h.map (fun n => (n : Rat))

@[simp] theorem toRat_cons (a : Nat) (h : List Nat) : toRat (a :: h) = (a : Rat) :: toRat h := rfl
@[simp] theorem toRat_nil : toRat [] = [] := rfl

/-- one row: the cost of predicting `a` against the relabelled target `1[x > 0]` with weight `|x|` -/
theorem relabel_cost (x : Rat) {a : Nat} (ha : a = 0 ∨ a = 1) :
    (if a = (GridSrc.relabelY x).toNat then 0 else GridSrc.relabelW x) = posPart x - x * (a : Rat) := by
  rw [relabelY_toNat, relabelW_def]
  by_cases hx : 0 < x
  · rw [if_pos hx, posPart_of_nonneg hx.le, if_neg (not_lt.mpr hx.le)]
    rcases ha with rfl | rfl
    · rw [if_neg (by decide), Nat.cast_zero, mul_zero, sub_zero]
    · rw [if_pos rfl, Nat.cast_one, mul_one, sub_self]
  · rw [if_neg hx, posPart_of_nonpos (not_lt.mp hx)]
    rcases ha with rfl | rfl
    · rw [if_pos rfl, Nat.cast_zero, mul_zero, sub_zero]
    · rw [if_neg (by decide), Nat.cast_one, mul_one, zero_sub]
      split
      · rfl
      · rw [le_antisymm (not_lt.mp hx) (not_lt.mp ‹_›), neg_zero]

end Grid
