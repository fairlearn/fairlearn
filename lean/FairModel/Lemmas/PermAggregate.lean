import FairModel.Lemmas.Perm
import FairModel.Lemmas.Aggregate
import FairModel.Model.Perm

/-! The aggregates of a MetricFrame (`group_min`, `group_max`, `difference`, `ratio`) see a frame only through its
non-scalar flag, its strata and, per stratum, the group values as a multiset and the overall value
(`aggregates_congr`).  Hence they do not change when the `by_group` entries are permuted (`TablesPerm`) and their
index tuples relabelled within their stratum (`mapKeys`) — what relabelling the sensitive features does to a frame
(C12).  The named fairness metrics in turn see the rows only through `metricDifference` / `metricRatio`. -/

namespace Aggregate
open Frame XR

/-- same frame up to the order of the `by_group` entries -/
structure TablesPerm (t t' : Tables) : Prop where
  ncf : t.ncf = t'.ncf
  byGroup : t.byGroup.Perm t'.byGroup
  overall : t.overall = t'.overall
  others : t.othersNonscalar = t'.othersNonscalar

/-- relabel the index tuples of the `by_group` table -/
def mapKeys (τ : Key → Key) (t : Tables) : Tables :=
  { t with byGroup := t.byGroup.map (fun e => (τ e.1, e.2)) }

variable {t t' : Tables} {τ : Key → Key}

/-- The aggregates see a frame only through its non-scalar flag, its strata and, per stratum, the group values as a
    multiset and the overall value. -/
theorem aggregates_congr (hn : hasNonscalar t = hasNonscalar t') (hs : strata t = strata t')
    (hv : ∀ c, (vals t c).Perm (vals t' c)) (ho : ∀ c, overallAt t c = overallAt t' c) (m : Method) (e : Errors) :
    (∀ g, applyGrouping g e t = applyGrouping g e t') ∧ difference m e t = difference m e t' ∧
      ratio m e t = ratio m e t' := by
  have hg : ∀ g, applyGrouping g e t = applyGrouping g e t' := fun g => by
    simp only [applyGrouping, hn, hs, g.apply_perm (hv _)]
  have hd : ∀ c s, diffOf (vals t c) s = diffOf (vals t' c) s := fun c _ => Grouping.apply_perm _ ((hv c).map _)
  have hr : ∀ c o, ratioOverallOf (vals t c) o = ratioOverallOf (vals t' c) o := fun c _ =>
    Grouping.apply_perm _ ((hv c).map _)
  refine ⟨hg, ?_, ?_⟩ <;> cases m <;> simp only [difference, ratio, hg, hn, hs, hd, hr, ho]

theorem strata_perm (h : TablesPerm t t') : strata t = strata t' := by
  unfold strata stratumOf
  rw [h.ncf]
  exact uniq_keys_congr fun _ => (h.byGroup.map _).mem_iff

theorem vals_perm (h : TablesPerm t t') (c : Key) : (vals t c).Perm (vals t' c) := by
  unfold vals stratumOf
  rw [h.ncf]
  exact (h.byGroup.filter _).map _

theorem hasNonscalar_perm (h : TablesPerm t t') : hasNonscalar t = hasNonscalar t' := by
  unfold hasNonscalar
  rw [h.others, h.overall, h.byGroup.any_eq]

theorem overallAt_perm (h : TablesPerm t t') (c : Key) : overallAt t c = overallAt t' c := by
  unfold overallAt
  rw [h.overall]

theorem strata_mapKeys (h : ∀ k, (τ k).take t.ncf = k.take t.ncf) : strata (mapKeys τ t) = strata t := by
  simp [strata, stratumOf, mapKeys, List.map_map, Function.comp_def, h]

theorem vals_mapKeys (h : ∀ k, (τ k).take t.ncf = k.take t.ncf) (c : Key) : vals (mapKeys τ t) c = vals t c := by
  simp [vals, stratumOf, mapKeys, List.filter_map, List.map_map, Function.comp_def, h]

theorem hasNonscalar_mapKeys : hasNonscalar (mapKeys τ t) = hasNonscalar t := by
  simp [hasNonscalar, mapKeys, List.any_map, Function.comp_def]

theorem overallAt_mapKeys (c : Key) : overallAt (mapKeys τ t) c = overallAt t c := rfl

/-- permuting the `by_group` entries and relabelling their index tuples within their stratum changes no aggregate -/
theorem TablesPerm.aggregates_mapKeys (hp : TablesPerm t (mapKeys τ t'))
    (hk : ∀ k, (τ k).take t'.ncf = k.take t'.ncf) (m : Method) (e : Errors) :
    (∀ g, applyGrouping g e t = applyGrouping g e t') ∧ difference m e t = difference m e t' ∧
      ratio m e t = ratio m e t' :=
  aggregates_congr ((hasNonscalar_perm hp).trans hasNonscalar_mapKeys) ((strata_perm hp).trans (strata_mapKeys hk))
    (fun c => (vals_perm hp c).trans (.of_eq (vals_mapKeys hk c)))
    (fun c => (overallAt_perm hp c).trans (overallAt_mapKeys c)) m e

end Aggregate

namespace Perm
open Frame MetricPool Aggregate

theorem frameOf_perm (m : Metric) (nsf : Nat) {rows rows' : List (Row Dat)} (hp : rows.Perm rows') :
    frameOf m nsf rows = frameOf m nsf rows' := by
  unfold frameOf ofFrame byGroup overall
  rw [applyFunctions_perm _ _ _ _ (eval_permInv m) hp, applyFunctions_perm _ _ _ _ (eval_permInv m) hp]

theorem metricDifference_perm (mt : Metric) (m : Method) (nsf : Nat) {rows rows' : List (Row Dat)}
    (hp : rows.Perm rows') : metricDifference mt m nsf rows = metricDifference mt m nsf rows' := by
  rw [metricDifference, frameOf_perm mt nsf hp]; rfl

theorem metricRatio_perm (mt : Metric) (m : Method) (nsf : Nat) {rows rows' : List (Row Dat)}
    (hp : rows.Perm rows') : metricRatio mt m nsf rows = metricRatio mt m nsf rows' := by
  rw [metricRatio, frameOf_perm mt nsf hp]; rfl

variable {nsf : Nat} {rows rows' : List (Row Dat)}

theorem eoddsDifference_congr (hd : ∀ mt m, metricDifference mt m nsf rows = metricDifference mt m nsf rows')
    (meth : Method) (agg : Agg) : eoddsDifference meth agg nsf rows = eoddsDifference meth agg nsf rows' := by
  rw [eoddsDifference, eoddsDifference, hd, hd]

theorem eoddsRatio_congr (hr : ∀ mt m, metricRatio mt m nsf rows = metricRatio mt m nsf rows')
    (meth : Method) (agg : Agg) : eoddsRatio meth agg nsf rows = eoddsRatio meth agg nsf rows' := by
  rw [eoddsRatio, eoddsRatio, hr, hr]

theorem allFair_congr (hd : ∀ mt m, metricDifference mt m nsf rows = metricDifference mt m nsf rows')
    (hr : ∀ mt m, metricRatio mt m nsf rows = metricRatio mt m nsf rows') : allFair nsf rows = allFair nsf rows' := by
  unfold allFair dpDifference dpRatio eoppDifference eoppRatio
  simp only [eoddsDifference_congr hd, eoddsRatio_congr hr, hd, hr]

end Perm
