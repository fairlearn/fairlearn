/-
Algebra of the per-tensor update of `Model/Adversarial.lean`: `dot` on flattened tensors, the Frobenius product and
`sameShape` on matrices, flattening, the update `A − c·B − α·B` for an arbitrary coefficient `c` (`gradCoef`) with its exact
orthogonality defect (`frob_gradCoef_add`), and the literal source lines against it (`engineGradRaw_tiny`).
Proofs about two lists of equal length, or two matrices of the same shape, go by `List.ind₂` / `sameShape_ind`.
-/
import FairModel.Lemmas.ListInd
import FairModel.Model.Adversarial

namespace Adversarial
open AdvProjection

/-- `A − c·B − α·B`: the shape of the update for ANY projection coefficient `c` -/
def gradCoef (c : Rat) (A B : Mat) (α : Rat) : Mat := msub (msub A (msmul c B)) (msmul α B)

@[simp] theorem dot_nil_left (v : Vec) : dot [] v = 0 := rfl
@[simp] theorem dot_nil_right (v : Vec) : dot v [] = 0 := by cases v <;> rfl
@[simp] theorem dot_cons (x y : Rat) (xs ys : Vec) : dot (x :: xs) (y :: ys) = x * y + dot xs ys := rfl

theorem dot_comm (a b : Vec) : dot a b = dot b a := by
  induction a generalizing b with
  | nil => simp
  | cons x xs ih => cases b <;> simp [ih, mul_comm]

theorem dot_smul_left (c : Rat) (a b : Vec) : dot (smul c a) b = c * dot a b := by
  induction a generalizing b with
  | nil => simp [smul]
  | cons x xs ih =>
    cases b with
    | nil => simp
    | cons y ys =>
      show c * x * y + dot (smul c xs) ys = _
      rw [ih, dot_cons]; ring

theorem dot_smul_right (c : Rat) (a b : Vec) : dot a (smul c b) = c * dot a b := by
  rw [dot_comm, dot_smul_left, dot_comm]

@[simp] theorem length_smul (c : Rat) (a : Vec) : (smul c a).length = a.length := by simp [smul]
@[simp] theorem length_vsub (a b : Vec) : (vsub a b).length = min a.length b.length := by simp [vsub]
@[simp] theorem length_vadd (a b : Vec) : (vadd a b).length = min a.length b.length := by simp [vadd]

theorem dot_zipWith_left (f : Rat → Rat → Rat) (c d : Rat) (hf : ∀ x y, f x y = c * x + d * y) (a b z : Vec)
    (h : a.length = b.length) : dot (List.zipWith f a b) z = c * dot a z + d * dot b z := by
  induction a, b, h using List.ind₂ generalizing z with
  | nil => simp
  | cons x xs y ys _ ih =>
    cases z with
    | nil => simp
    | cons w ws => simp only [List.zipWith_cons_cons, dot_cons, ih, hf]; ring

theorem dot_vsub_left (a b z : Vec) (h : a.length = b.length) :
    dot (vsub a b) z = dot a z - dot b z := by
  rw [vsub, dot_zipWith_left _ 1 (-1) (fun x y => by ring) a b z h]; ring

theorem dot_vadd_left (a b z : Vec) (h : a.length = b.length) :
    dot (vadd a b) z = dot a z + dot b z := by
  rw [vadd, dot_zipWith_left _ 1 1 (fun x y => by ring) a b z h]; ring

theorem dot_append (a1 a2 b1 b2 : Vec) (h : a1.length = b1.length) :
    dot (a1 ++ a2) (b1 ++ b2) = dot a1 b1 + dot a2 b2 := by
  induction a1, b1, h using List.ind₂ with
  | nil => simp
  | cons x xs y ys _ ih => simp only [List.cons_append, dot_cons, ih, add_assoc]

theorem dot_self_nonneg (v : Vec) : 0 ≤ dot v v := by
  induction v with
  | nil => exact le_rfl
  | cons x xs ih => exact add_nonneg (mul_self_nonneg x) ih

theorem dot_self_eq_zero (v : Vec) : dot v v = 0 ↔ ∀ x ∈ v, x = 0 := by
  induction v with
  | nil => simp
  | cons x xs ih =>
    simp only [dot_cons, List.mem_cons, forall_eq_or_imp, mul_self_eq_zero, ih,
      add_eq_zero_iff_of_nonneg (mul_self_nonneg x) (dot_self_nonneg xs)]

theorem vadd_vsub_cancel (x y : Vec) (h : x.length = y.length) : vadd (vsub x y) y = x := by
  induction x, y, h using List.ind₂ with
  | nil => rfl
  | cons a as b bs _ ih => exact congrArg₂ List.cons (sub_add_cancel a b) ih

@[simp] theorem frob_nil_left (B : Mat) : frob [] B = 0 := rfl
@[simp] theorem frob_nil_right (A : Mat) : frob A [] = 0 := by cases A <;> rfl
@[simp] theorem frob_cons (r s : Vec) (A B : Mat) : frob (r :: A) (s :: B) = dot r s + frob A B := rfl

@[simp] theorem sameShape_nil : sameShape [] [] = true := rfl
@[simp] theorem sameShape_cons (r s : Vec) (A B : Mat) :
    sameShape (r :: A) (s :: B) = (r.length == s.length && sameShape A B) := rfl
@[simp] theorem sameShape_nil_cons (s : Vec) (B : Mat) : sameShape [] (s :: B) = false := rfl
@[simp] theorem sameShape_cons_nil (r : Vec) (A : Mat) : sameShape (r :: A) [] = false := rfl

@[elab_as_elim]
theorem sameShape_ind {P : (A B : Mat) → sameShape A B = true → Prop} (nil : P [] [] rfl)
    (cons : ∀ r s A B (hrs : r.length = s.length) (h : sameShape A B = true), P A B h →
      P (r :: A) (s :: B) (Bool.and_eq_true_iff.mpr ⟨beq_iff_eq.mpr hrs, h⟩)) :
    ∀ A B h, P A B h
  | [], [], _ => nil
  | r :: A, s :: B, h =>
    have h' := Bool.and_eq_true_iff.mp h
    cons r s A B (beq_iff_eq.mp h'.1) h'.2 (sameShape_ind nil cons A B h'.2)

theorem sameShape_iff {A B : Mat} : sameShape A B = true ↔ A.map List.length = B.map List.length := by
  induction A generalizing B with
  | nil => cases B <;> simp
  | cons r A ih => cases B <;> simp [ih]

theorem sameShape_refl (A : Mat) : sameShape A A = true := sameShape_iff.mpr rfl

theorem sameShape_symm {A B : Mat} (h : sameShape A B = true) : sameShape B A = true :=
  sameShape_iff.mpr (sameShape_iff.mp h).symm

theorem sameShape_flat_length {A B : Mat} (h : sameShape A B = true) : (flat A).length = (flat B).length := by
  rw [flat, flat, List.length_flatten, List.length_flatten, sameShape_iff.mp h]

/-- Frobenius product of two equally shaped matrices = dot product of their flattenings (any shape) -/
theorem frob_eq_dot_flat {A B : Mat} (h : sameShape A B = true) : frob A B = dot (flat A) (flat B) := by
  induction A, B, h using sameShape_ind with
  | nil => rfl
  | cons r s A B hrs _ ih =>
    rw [frob_cons, ih]
    exact (dot_append r (flat A) s (flat B) hrs).symm

theorem frob_self_eq_dot (B : Mat) : frob B B = dot (flat B) (flat B) := frob_eq_dot_flat (sameShape_refl B)

theorem frob_self_nonneg (B : Mat) : 0 ≤ frob B B := frob_self_eq_dot B ▸ dot_self_nonneg _

theorem frob_self_eq_zero_flat (B : Mat) : frob B B = 0 ↔ ∀ x ∈ flat B, x = 0 := by
  rw [frob_self_eq_dot, dot_self_eq_zero]

theorem frob_comm (A B : Mat) : frob A B = frob B A := by
  induction A generalizing B with
  | nil => simp
  | cons r A ih => cases B <;> simp [ih, dot_comm r]

theorem flat_msmul (c : Rat) (M : Mat) : flat (msmul c M) = smul c (flat M) := by
  exact (List.map_flatten (f := fun x => c * x) (L := M)).symm

theorem sameShape_msmul_right {A B : Mat} (c : Rat) (h : sameShape A B = true) :
    sameShape A (msmul c B) = true := by
  rw [sameShape_iff] at h ⊢
  simp [h, msmul, smul]

theorem sameShape_zipWith_left (f : Rat → Rat → Rat) {A B : Mat} (h : sameShape A B = true) (C : Mat) :
    sameShape (List.zipWith (List.zipWith f) A B) C = sameShape A C := by
  induction A, B, h using sameShape_ind generalizing C with
  | nil => rfl
  | cons r s A B hrs _ ih =>
    cases C with
    | nil => rfl
    | cons t C => simp [ih, hrs]

theorem flat_zipWith (f : Rat → Rat → Rat) {A B : Mat} (h : sameShape A B = true) :
    flat (List.zipWith (List.zipWith f) A B) = List.zipWith f (flat A) (flat B) := by
  induction A, B, h using sameShape_ind with
  | nil => rfl
  | cons r s A B hrs _ ih =>
    simp only [flat, List.zipWith_cons_cons, List.flatten_cons] at ih ⊢
    rw [ih, List.zipWith_append hrs]

theorem flat_msub {A B : Mat} (h : sameShape A B = true) : flat (msub A B) = vsub (flat A) (flat B) :=
  flat_zipWith _ h

theorem flat_madd {A B : Mat} (h : sameShape A B = true) : flat (madd A B) = vadd (flat A) (flat B) :=
  flat_zipWith _ h

theorem sameShape_msub_left {A B C : Mat} (h : sameShape A B = true) (h2 : sameShape A C = true) :
    sameShape (msub A B) C = true :=
  (sameShape_zipWith_left _ h C).trans h2

theorem sameShape_madd_left {A B C : Mat} (h : sameShape A B = true) (h2 : sameShape A C = true) :
    sameShape (madd A B) C = true :=
  (sameShape_zipWith_left _ h C).trans h2

theorem gradWith_eq_gradCoef (k : InnerKind) (A B : Mat) (α : Rat) :
    gradWith k A B α = gradCoef (inner k B A / frob B B) A B α := rfl

theorem sameShape_gradCoef {A B : Mat} (c α : Rat) (h : sameShape A B = true) :
    sameShape (gradCoef c A B α) B = true :=
  have hX := sameShape_msub_left (sameShape_msmul_right c h) h
  sameShape_msub_left (sameShape_msmul_right α hX) hX

theorem flat_gradCoef {A B : Mat} (c α : Rat) (h : sameShape A B = true) :
    flat (gradCoef c A B α) = vsub (vsub (flat A) (smul c (flat B))) (smul α (flat B)) := by
  have hX := sameShape_msub_left (sameShape_msmul_right c h) h
  rw [gradCoef, flat_msub (sameShape_msmul_right α hX), flat_msub (sameShape_msmul_right c h), flat_msmul,
    flat_msmul]

/-- the exact orthogonality defect of `A − c·B − α·B`: `<G + α B, B> = <A,B> − c·<B,B>` (zero iff `c` is the projection
    coefficient, or `B = 0`) -/
theorem frob_gradCoef_add {A B : Mat} (c α : Rat) (h : sameShape A B = true) :
    frob (madd (gradCoef c A B α) (msmul α B)) B = frob A B - c * frob B B := by
  have hG := sameShape_msmul_right α (sameShape_gradCoef c α h)
  have hl := sameShape_flat_length h
  rw [frob_eq_dot_flat (sameShape_madd_left hG (sameShape_gradCoef c α h)), flat_madd hG, flat_msmul,
    flat_gradCoef c α h, vadd_vsub_cancel _ _ (by simp [hl]), dot_vsub_left _ _ _ (by simp [hl]), dot_smul_left,
    ← frob_eq_dot_flat h, ← frob_self_eq_dot]

theorem sumInner_single (u a : Vec) : sumInner [u] [a] = dot u a := by simp [sumInner]

theorem sumInner_msmul_left (c : Rat) (U A : Mat) : sumInner (msmul c U) A = c * sumInner U A := by
  simp only [sumInner, msmul, List.map_map, Function.comp_def, dot_smul_left, List.sum_map_mul_left]

theorem frob_msmul_left (c : Rat) (U A : Mat) : frob (msmul c U) A = c * frob U A := by
  induction U generalizing A with
  | nil => simp [msmul]
  | cons u U ih =>
    cases A with
    | nil => simp
    | cons a A =>
      show dot (smul c u) a + frob (msmul c U) A = _
      rw [ih, dot_smul_left, frob_cons]; ring

theorem inner_msmul_left (k : InnerKind) (c : Rat) (U A : Mat) : inner k (msmul c U) A = c * inner k U A := by
  cases k
  · exact frob_msmul_left c U A
  · exact sumInner_msmul_left c U A

/-! ### the code's literal form equals the normalised form

`unit` and `grad` are the lifted per-coordinate expressions of the normalise and the combine line. -/

section Literal
variable (unit : Rat → Rat → Rat → Rat) (grad : Rat → Rat → Rat → Rat → Rat → Rat)
  (hunit : ∀ b n t, unit b n t = b / (n + t)) (hgrad : ∀ a u b p α, grad a u b p α = a - p * u - α * b)
include hunit hgrad

omit hgrad in
theorem unitMat_eq_tiny (B : Mat) (nrm tiny : Rat) : unitMat unit B nrm tiny = msmul (1 / (nrm + tiny)) B := by
  unfold unitMat msmul smul
  refine List.map_congr_left fun r _ => List.map_congr_left fun b _ => ?_
  rw [hunit]; ring

omit hunit in
/-- the combine line on one row with `unit = c·b`: `a − (p·c)·b − α·b`, coordinate by coordinate -/
theorem rowRaw_smul (p α c : Rat) (ra rb : Vec) (h : ra.length = rb.length) :
    rowRaw grad p α ra (smul c rb) rb = vsub (vsub ra (smul (p * c) rb)) (smul α rb) := by
  induction ra, rb, h using List.ind₂ with
  | nil => rfl
  | cons a ra b rb _ ih =>
    refine congrArg₂ List.cons ?_ ih
    rw [hgrad]; ring

omit hunit in
/-- … and on the whole tensor: with `U = c·B` the combine line is the update with coefficient `p·c` -/
theorem matRaw_msmul (p α c : Rat) (A B : Mat) (h : sameShape A B = true) :
    matRaw grad p α A (msmul c B) B = gradCoef (p * c) A B α := by
  induction A, B, h using sameShape_ind with
  | nil => rfl
  | cons ra rb A B hr _ ih => exact congrArg₂ List.cons (rowRaw_smul grad hgrad p α c ra rb hr) ih

/-- the code's literal three lines WITH the regulariser (`unit = B / (‖B‖ + tiny)`): the projection coefficient is
    `<B,A> / (‖B‖ + tiny)²`, not `<B,A> / ‖B‖²` -/
theorem engineGradRaw_tiny (k : InnerKind) (A B : Mat) (α nrm tiny : Rat) (h : sameShape A B = true) :
    engineGradRaw unit grad k A B α nrm tiny = gradCoef (inner k B A / ((nrm + tiny) * (nrm + tiny))) A B α := by
  rw [engineGradRaw, unitMat_eq_tiny unit hunit, inner_msmul_left, matRaw_msmul grad hgrad _ _ _ A B h]
  congr 1
  rw [div_eq_mul_inv, div_eq_mul_inv, mul_inv]; ring

end Literal

end Adversarial
