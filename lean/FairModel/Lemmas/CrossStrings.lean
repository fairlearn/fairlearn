/-
Cross-property lemmas on event labels: which rows an event selects (no control value, DemographicParity events),
the characters of `toString (y : Int)` and what they imply for the event labels of the EqualizedOdds moment with
control features.

`_combine_event_and_control` formats the event of a row as `"control={c},{e}"` with `e = "label=" + str(y)`.
The control value `c` is an ARBITRARY string (it may contain commas and even the text `,label=1`), so that the
formatted label determines the stratum only because the part after the LAST comma is `label=<digits>` and
`str(y)` of an integer contains no comma: `toString_int_no_comma`.  With `Int`'s `toString` injective
(`toString_int_inj`) the formatted event determines BOTH the stratum and the label: `ctrlFormat_labelEvent_inj`,
for every `Int` label (no binary-label assumption) and every pair of control strings.
-/
import FairModel.Lemmas.EventLabels
import Std.Data.String.ToInt

namespace Cross
open Moments

theorem nat_repr_no_comma (n : Nat) : ',' ∉ n.repr.toList := by
  intro h
  rw [Nat.repr_eq_ofList_toDigits, String.toList_ofList] at h
  exact absurd (Nat.isDigit_of_mem_toDigits (by decide) (by decide) h) (by decide)

/-- **`str(y)` of an integer contains no comma** (its characters are `-` and decimal digits) -/
theorem toString_int_no_comma (y : Int) : ',' ∉ (toString y).toList := by
  rw [Int.toString_eq_repr, Int.repr_eq_if]
  split
  · exact nat_repr_no_comma _
  · rw [String.toList_append]
    intro h
    rcases List.mem_append.mp h with h | h
    · revert h; decide
    · exact nat_repr_no_comma _ h

theorem toString_int_inj (y y' : Int) (h : toString y = toString y') : y = y' := by
  rw [Int.toString_eq_repr, Int.toString_eq_repr] at h
  exact Int.repr_injective h

/-- splitting at the LAST occurrence of a separator: if neither tail contains `s`, then
    `a ++ s :: p = b ++ s :: q` forces `a = b` and `p = q` -/
theorem append_sep_inj {α} (s : α) (a b p q : List α) (hp : s ∉ p) (hq : s ∉ q)
    (h : a ++ s :: p = b ++ s :: q) : a = b ∧ p = q := by
  induction a generalizing b with
  | nil =>
    cases b with
    | nil => exact ⟨rfl, by simpa using h⟩
    | cons c b' =>
      exfalso
      simp only [List.nil_append, List.cons_append, List.cons.injEq] at h
      exact hp (by rw [h.2]; simp)
  | cons x a' ih =>
    cases b with
    | nil =>
      exfalso
      simp only [List.nil_append, List.cons_append, List.cons.injEq] at h
      exact hq (by rw [← h.2]; simp)
    | cons c b' =>
      simp only [List.cons_append, List.cons.injEq] at h
      obtain ⟨e1, e2⟩ := ih b' h.2
      exact ⟨by rw [h.1, e1], e2⟩

theorem labelEvent_no_comma (y : Int) : ',' ∉ (MomentsSrc.labelEvent y).toList := by
  unfold MomentsSrc.labelEvent
  rw [String.toList_append]
  intro h
  rcases List.mem_append.mp h with h | h
  · revert h; decide
  · exact toString_int_no_comma y h

/-- label events are injective in the label, for ALL integers -/
theorem labelEvent_inj (y y' : Int) (h : MomentsSrc.labelEvent y = MomentsSrc.labelEvent y') : y = y' := by
  unfold MomentsSrc.labelEvent at h
  have h2 := congrArg String.toList h
  simp only [String.toList_append] at h2
  exact toString_int_inj y y' (String.toList_inj.mp (List.append_cancel_left h2))

/-- **the formatted event `control={c},label={y}` determines the stratum and the label** — any control strings
    (commas allowed), any integer labels -/
theorem ctrlFormat_labelEvent_inj (c c' : String) (y y' : Int)
    (h : MomentsSrc.ctrlFormat c (MomentsSrc.labelEvent y) = MomentsSrc.ctrlFormat c' (MomentsSrc.labelEvent y')) :
    c = c' ∧ y = y' := by
  unfold MomentsSrc.ctrlFormat at h
  have h2 := congrArg String.toList h
  simp only [String.toList_append] at h2
  have h3 := List.append_cancel_right h2
  have hc : (",": String).toList = [','] := by decide
  rw [hc] at h3
  simp only [List.append_assoc, List.singleton_append] at h3
  have h4 := List.append_cancel_left h3
  obtain ⟨e1, e2⟩ := append_sep_inj ',' _ _ _ _ (labelEvent_no_comma y) (labelEvent_no_comma y') h4
  exact ⟨String.toList_inj.mp e1, labelEvent_inj y y' (String.toList_inj.mp e2)⟩

/-- a control string with commas and a look-alike suffix is still told apart -/
example : MomentsSrc.ctrlFormat "x,label=1" (MomentsSrc.labelEvent 0) ≠ MomentsSrc.ctrlFormat "x" (MomentsSrc.labelEvent 1) := by
  decide +kernel

/-- **EqualizedOdds with control features, ANY row** (any integer label, with or without control value): the event
    `control=c0,label=lab` selects exactly the rows of stratum `c0` with label `lab` -/
theorem eo_event_selects_in_stratum (r : Row) (c0 : String) (lab : Int) :
    inE (eventOf .eo) (MomentsSrc.ctrlFormat c0 (MomentsSrc.labelEvent lab)) r = ((r.c == some c0) && (r.y == lab)) := by
  unfold inE eventOf baseEvent
  cases hc : r.c with
  | none =>
    have : MomentsSrc.labelEvent r.y ≠ MomentsSrc.ctrlFormat c0 (MomentsSrc.labelEvent lab) :=
      fun e => ctrlFormat_ne_labelEvent c0 _ r.y e.symm
    simp [this]
  | some c =>
    rw [Bool.eq_iff_iff]
    simp only [beq_iff_eq, Bool.and_eq_true, Option.some.injEq]
    exact ⟨ctrlFormat_labelEvent_inj _ _ _ _, fun ⟨h1, h2⟩ => by rw [h1, h2]⟩

/-- without a control value the event is the base event -/
theorem eventOf_of_no_control (k : Kind) (r : Row) (hc : r.c = none) : eventOf k r = baseEvent k r := by
  unfold eventOf; rw [hc]; cases baseEvent k r <;> rfl

/-- the DemographicParity events: `all` selects the rows without control value, `control=c0,all` the stratum `c0` -/
theorem dp_event_selects (r : Row) :
    inE (eventOf .dp) MomentsSrc.allEvent r = (r.c == none) := by
  unfold inE eventOf baseEvent
  cases hc : r.c with
  | none => simp
  | some c =>
    have : MomentsSrc.ctrlFormat c MomentsSrc.allEvent ≠ MomentsSrc.allEvent :=
      fun h => ctrlFormat_ne_self c _ h.symm
    simp [this]

theorem dp_event_selects_in_stratum (r : Row) (c0 : String) :
    inE (eventOf .dp) (MomentsSrc.ctrlFormat c0 MomentsSrc.allEvent) r = (r.c == some c0) := by
  rw [inE_eventOf_stratum .dp r c0 _ (fun b hb => Option.some.inj hb ▸ rfl)]
  exact (congrArg _ (beq_self_eq_true (some MomentsSrc.allEvent))).trans (Bool.and_true _)

end Cross
