import FairModel.Lemmas.Prelude
import FairModel.Model.Merge

/-! Lemmas for `_merge_columns` (C13) in three parts: the replacement chain as a per-character encoding and the
decoder `split` inverting it (`split_joinWith_escape`, hence injectivity of the merged key and of the callers' group
id); `positions` / `distinct` / `classes` (the partition of row positions by key); `combos` (MetricFrame's
intersectional cells). -/

namespace Merge

/-- the per-character encoding the replacement chain of the source amounts to (the function written out in the
    statement of `C13.escape_spec`) -/
def escChar (c : Char) : Str := if c = esc ∨ c = sep then [esc, c] else [c]

theorem replaceChar_nil (c : Char) (r : Str) : replaceChar c r [] = [] := rfl

theorem replaceChar_cons (c : Char) (r : Str) (x : Char) (xs : Str) :
    replaceChar c r (x :: xs) = (if x = c then r else [x]) ++ replaceChar c r xs := by
  simp [replaceChar]

theorem replaceChar_append (c : Char) (r : Str) (a b : Str) :
    replaceChar c r (a ++ b) = replaceChar c r a ++ replaceChar c r b := by
  simp [replaceChar]

/-- The chain of `.replace` calls found in the source (generated constants) is the per-character
    encoding `escChar`.  This is the lemma that breaks when a `.replace` is dropped, the two are
    swapped, or a character changes. -/
theorem escape_eq_flatMap (s : Str) : escape s = s.flatMap escChar := by
  show replaceChar sep [esc, sep] (replaceChar esc [esc, esc] s) = _
  rw [replaceChar, replaceChar, List.flatMap_assoc]
  congr 1
  funext x
  by_cases h1 : x = esc
  · subst h1; rfl
  · rw [if_neg h1, List.flatMap_singleton, escChar]
    by_cases h2 : x = sep
    · rw [if_pos h2, if_pos (.inr h2), h2]
    · rw [if_neg h2, if_neg (not_or.mpr ⟨h1, h2⟩)]

theorem escape_nil : escape [] = [] := by rw [escape_eq_flatMap]; rfl

theorem escape_cons (x : Char) (xs : Str) : escape (x :: xs) = escChar x ++ escape xs := by
  simp [escape_eq_flatMap]

/-- glue a decoded prefix to the first field of what follows -/
def prependField (f : Str) : List Str → List Str
  | [] => [f]
  | g :: gs => (f ++ g) :: gs

theorem consHead_prependField (x : Char) (f : Str) (l : List Str) :
    consHead x (prependField f l) = prependField (x :: f) l := by
  cases l <;> rfl

theorem consHead_ne_nil (c : Char) (l : List Str) : consHead c l ≠ [] := by
  cases l <;> simp [consHead]

theorem splitAux_ne_nil (b : Bool) (t : Str) : splitAux b t ≠ [] := by
  fun_induction splitAux b t
  all_goals first | exact List.cons_ne_nil _ _ | exact consHead_ne_nil _ _ | assumption

theorem splitAux_escChar (x : Char) (t : Str) : splitAux false (escChar x ++ t) = consHead x (splitAux false t) := by
  by_cases h : x = esc ∨ x = sep
  · rw [escChar, if_pos h]
    show splitAux false (esc :: x :: t) = _
    rw [splitAux, if_pos rfl, splitAux]
  · rw [escChar, if_neg h]
    rw [not_or] at h
    show splitAux false (x :: t) = _
    rw [splitAux, if_neg h.1, if_neg h.2]

theorem splitAux_escape_append (f t : Str) :
    splitAux false (escape f ++ t) = prependField f (splitAux false t) := by
  induction f with
  | nil =>
    rw [escape_nil, List.nil_append]
    cases h : splitAux false t with
    | nil => exact absurd h (splitAux_ne_nil _ _)
    | cons g gs => rfl
  | cons x xs ih => rw [escape_cons, List.append_assoc, splitAux_escChar, ih, consHead_prependField]

theorem split_joinWith_escape (fs : List Str) (hne : fs ≠ []) :
    split (joinWith (fs.map escape)) = fs := by
  induction fs with
  | nil => exact absurd rfl hne
  | cons f rest ih =>
    cases rest with
    | nil =>
      show splitAux false (escape f) = [f]
      rw [← List.append_nil (escape f), splitAux_escape_append]
      exact congrArg (fun x => [x]) (List.append_nil f)
    | cons g rest' =>
      show splitAux false (escape f ++ sep :: joinWith ((g :: rest').map escape)) = _
      rw [splitAux_escape_append, splitAux, if_neg (by decide), if_pos rfl]
      show prependField f ([] :: split (joinWith ((g :: rest').map escape))) = _
      rw [ih (List.cons_ne_nil _ _)]
      exact congrArg (· :: g :: rest') (List.append_nil f)

theorem joinNames_injective {fs gs : List Str} (hf : fs ≠ []) (hg : gs ≠ []) (h : joinNames fs = joinNames gs) :
    fs = gs := by
  rw [← split_joinWith_escape fs hf, ← split_joinWith_escape gs hg]
  exact congrArg split h

/-- the group id is injective on rows of one width ≥ 1, as long as only single columns are passed through unmerged -/
theorem encodeWith_injective {t : Nat} (ht : t ≤ 1) {r₁ r₂ : List Str} (hlen : r₁.length = r₂.length)
    (hpos : 0 < r₁.length) (h : encodeWith t r₁ = encodeWith t r₂) : r₁ = r₂ := by
  unfold encodeWith at h
  by_cases h1 : r₁.length > t
  · rw [if_pos h1, if_pos (hlen ▸ h1)] at h
    exact joinNames_injective (List.ne_nil_of_length_pos hpos) (List.ne_nil_of_length_pos (hlen ▸ hpos))
      (GroupId.merged.inj h)
  · rw [if_neg h1, if_neg (hlen ▸ h1)] at h
    have e1 : r₁.length = 1 := Nat.le_antisymm (Nat.le_trans (Nat.le_of_not_lt h1) ht) hpos
    obtain ⟨a, rfl⟩ := List.length_eq_one_iff.mp e1
    obtain ⟨b, rfl⟩ := List.length_eq_one_iff.mp hlen.symm
    rw [show a = b from GroupId.raw.inj h]

section classes
variable {α β : Type} [DecidableEq α] [DecidableEq β]

theorem mem_positionsFrom (k : α) (l : List α) (s i : Nat) :
    i ∈ positionsFrom k s l ↔ ∃ j, i = s + j ∧ l[j]? = some k := by
  induction l generalizing s with
  | nil => simp [positionsFrom]
  | cons x xs ih =>
    have step : (∃ j, i = s + j ∧ (x :: xs)[j]? = some k) ↔
        (i = s ∧ x = k) ∨ ∃ j, i = s + 1 + j ∧ xs[j]? = some k := by
      constructor
      · rintro ⟨_ | j, rfl, h⟩
        · exact .inl ⟨rfl, Option.some.inj h⟩
        · exact .inr ⟨j, Nat.add_right_comm s j 1, h⟩
      · rintro (⟨rfl, rfl⟩ | ⟨j, rfl, h⟩)
        · exact ⟨0, rfl, rfl⟩
        · exact ⟨j + 1, Nat.add_right_comm s 1 j, h⟩
    rw [positionsFrom, step]
    by_cases hx : x = k
    · rw [if_pos hx, List.mem_cons, ih]; simp only [hx, and_true]
    · rw [if_neg hx, ih]; simp only [hx, and_false, false_or]

theorem mem_positions (k : α) (l : List α) (i : Nat) : i ∈ positions k l ↔ l[i]? = some k := by
  rw [positions, mem_positionsFrom]
  constructor
  · rintro ⟨j, rfl, h⟩; rwa [Nat.zero_add]
  · exact fun h => ⟨i, (Nat.zero_add i).symm, h⟩

theorem positions_ne_nil (k : α) (l : List α) : positions k l ≠ [] ↔ k ∈ l := by
  rw [List.mem_iff_getElem?]
  constructor
  · intro h
    obtain ⟨i, hi⟩ := List.exists_mem_of_ne_nil _ h
    exact ⟨i, (mem_positions k l i).mp hi⟩
  · rintro ⟨i, hi⟩
    exact List.ne_nil_of_mem ((mem_positions k l i).mpr hi)

theorem positions_injective (k k' : α) (l : List α) (hk : k ∈ l) (h : positions k l = positions k' l) : k = k' := by
  obtain ⟨i, hi⟩ := List.mem_iff_getElem?.mp hk
  have hm := (mem_positions k l i).mpr hi
  rw [h, mem_positions, hi] at hm
  exact Option.some.inj hm

theorem positions_lt (k : α) (l : List α) (i : Nat) (h : i ∈ positions k l) : i < l.length :=
  (List.getElem?_eq_some_iff.mp ((mem_positions k l i).mp h)).1

theorem mem_distinct (a : α) (l : List α) : a ∈ distinct l ↔ a ∈ l := by
  induction l with
  | nil => simp [distinct]
  | cons x xs ih =>
    simp only [distinct, List.mem_cons, List.mem_filter, ih]
    by_cases h : a = x <;> simp [h]

theorem distinct_nodup (l : List α) : (distinct l).Nodup := by
  induction l with
  | nil => simp [distinct]
  | cons x xs ih =>
    simp only [distinct, List.nodup_cons, List.mem_filter]
    refine ⟨fun h => ?_, ih.filter _⟩
    simpa using h.2

theorem positionsFrom_map (f : α → β) (k : α) (l : List α) (s : Nat)
    (hinj : ∀ x ∈ l, f x = f k → x = k) :
    positionsFrom (f k) s (l.map f) = positionsFrom k s l := by
  induction l generalizing s with
  | nil => rfl
  | cons x xs ih =>
    have e : (f x = f k) = (x = k) := propext ⟨hinj x List.mem_cons_self, congrArg f⟩
    rw [List.map_cons, positionsFrom, positionsFrom, ih _ fun y hy => hinj y (List.mem_cons_of_mem _ hy)]
    simp only [e]

theorem distinct_map (f : α → β) (l : List α)
    (hinj : ∀ x ∈ l, ∀ y ∈ l, f x = f y → x = y) :
    distinct (l.map f) = (distinct l).map f := by
  induction l with
  | nil => rfl
  | cons x xs ih =>
    rw [List.map_cons, distinct, distinct, ih fun a ha b hb => hinj a (List.mem_cons_of_mem _ ha) b (List.mem_cons_of_mem _ hb),
      List.filter_map, List.map_cons]
    congr 2
    refine List.filter_congr fun a ha => ?_
    have hax : a ∈ x :: xs := List.mem_cons_of_mem _ ((mem_distinct a xs).mp ha)
    have e : (f a = f x) = (a = x) := propext ⟨hinj a hax x List.mem_cons_self, congrArg f⟩
    simp only [Function.comp, ne_eq, e]

/-- an encoding that is injective on the keys present induces the same partition -/
theorem classes_map (f : α → β) (l : List α)
    (hinj : ∀ x ∈ l, ∀ y ∈ l, f x = f y → x = y) :
    classes (l.map f) = classes l := by
  unfold classes
  rw [distinct_map f l hinj, List.map_map]
  apply List.map_congr_left
  intro k hk
  have hkl : k ∈ l := (mem_distinct k l).mp hk
  simp only [Function.comp, positions]
  exact positionsFrom_map f k l 0 (fun x hx => hinj x hx k hkl)

theorem mem_classes (c : List Nat) (keys : List α) :
    c ∈ classes keys ↔ ∃ k ∈ keys, c = positions k keys := by
  simp only [classes, List.mem_map, mem_distinct]
  constructor
  · rintro ⟨k, hk, rfl⟩; exact ⟨k, hk, rfl⟩
  · rintro ⟨k, hk, rfl⟩; exact ⟨k, hk, rfl⟩

end classes

theorem mem_combos (r : List Str) (ls : List (List Str)) :
    r ∈ combos ls ↔ List.Forall₂ (fun x l => x ∈ l) r ls := by
  induction ls generalizing r with
  | nil =>
    simp only [combos, List.mem_singleton]
    constructor
    · rintro rfl; exact List.Forall₂.nil
    · intro h; cases h; rfl
  | cons l ls ih =>
    simp only [combos, List.mem_flatMap, List.mem_map]
    constructor
    · rintro ⟨x, hx, t, ht, rfl⟩
      exact List.Forall₂.cons hx ((ih t).mp ht)
    · intro h
      cases h with
      | cons hx ht => exact ⟨_, hx, _, (ih _).mpr ht, rfl⟩

theorem row_eq_range_map (r : List Str) : r = (List.range r.length).map (fun k => r.getD k []) :=
  List.ext_getElem (by rw [List.length_map, List.length_range]) fun i h1 h2 => by
    rw [List.getElem_map, List.getElem_range, List.getD_eq_getElem?_getD, List.getElem?_eq_getElem h1]
    rfl

theorem row_mem_combos (rows : List (List Str)) (w : Nat) (r : List Str) (hr : r ∈ rows)
    (hw : r.length = w) : r ∈ combos (columnLevels rows w) := by
  rw [mem_combos]
  have e := row_eq_range_map r
  rw [hw] at e
  rw [e]
  unfold columnLevels
  rw [List.forall₂_map_left_iff, List.forall₂_map_right_iff, List.forall₂_same]
  intro k _
  rw [mem_distinct]
  unfold column
  exact List.mem_map.mpr ⟨r, hr, rfl⟩

end Merge
