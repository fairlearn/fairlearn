/-
The translated `_convert_to_ndarray_and_squeeze` (`Generated/SqueezeSrc.lean`) in closed form, on vectors, and
that `np.squeeze` of more than one element keeps a dimension.
-/
import FairModel.Lemmas.Prelude
import FairModel.Generated.SqueezeSrc

namespace SqueezeSrc
open NdShape

/-- the translated `_convert_to_ndarray_and_squeeze` in closed form -/
theorem conv_eq (s : Shape) :
    convert_to_ndarray_and_squeeze_shape s =
      if size s = 0 then .ok s else if size s > 1 then .ok (npSqueeze s) else npReshape s [1] := by
  unfold convert_to_ndarray_and_squeeze_shape
  by_cases h0 : size s = 0
  · simp [h0]; rfl
  · by_cases h1 : size s > 1
    · simp [h0, h1]; rfl
    · simp only [beq_iff_eq, h0, if_false, h1, decide_false]
      cases hr : npReshape s [1] <;> simp [bind, Except.bind, pure, Except.pure]

theorem conv_of_size {s : Shape} {n : Nat} (hs : size s = n) (hn : 0 < n) (hsq : 1 < n → npSqueeze s = [n]) :
    convert_to_ndarray_and_squeeze_shape s = .ok [n] := by
  rw [conv_eq, hs, if_neg hn.ne']
  by_cases h1 : n > 1
  · rw [if_pos h1, hsq h1]
  · obtain rfl : n = 1 := by omega
    rw [if_neg h1, npReshape, hs]; rfl

/-- a vector keeps its shape: `[n]` for EVERY `n`, incl. the empty and the one-element vector -/
theorem conv_vec (n : Nat) : convert_to_ndarray_and_squeeze_shape [n] = .ok [n] := by
  by_cases h0 : n = 0
  · subst h0; rfl
  · exact conv_of_size (by simp [size]) (Nat.pos_of_ne_zero h0) fun h => by
      have hne : n ≠ 1 := by omega
      simp [npSqueeze, hne]

/-- a shape with more than one element has a non-unit dimension -/
theorem squeeze_ne_nil (s : Shape) (h : size s > 1) : npSqueeze s ≠ [] := by
  induction s with
  | nil => exact absurd h (by decide)
  | cons d ds ih =>
    by_cases hd : d = 1
    · subst hd
      rw [size, List.foldr_cons, Nat.one_mul] at h
      rw [npSqueeze, List.filter_cons_of_neg (by decide)]
      exact ih h
    · rw [npSqueeze, List.filter_cons_of_pos (by simpa using hd)]
      exact List.cons_ne_nil _ _

theorem size_zero_ne_nil (s : Shape) (h : size s = 0) : s ≠ [] := by
  intro hs; subst hs; simp [size] at h

end SqueezeSrc
