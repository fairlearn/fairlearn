/-
C08 — ExponentiatedGradient meets the saddle-point guarantees certified by best_gap_.
Property theorems, with the few helpers stated in the property's own vocabulary (`Feasible`, `LoopHyp`, `tStar`,
`classLow`/`classGap`); the other helper lemmas live in `Lemmas/Saddle.lean`, `EGLoop.lean`, `LinProg.lean`, `EGCert.lean`;
the model is `Model/Saddle.lean`,
whose closed expressions (`gapOf`, `lHigh`, `keep`, `breakCond`, `pickLast`, `_PRECISION`, `_MIN_ITER`)
are regenerated from the Python source into `Generated/EGGen.lean` on every run.

Clauses of the property and where they are stated (all over `Rat`, any table size):
  * "g is at least the true duality gap of Q against the recorded multiplier"
        gap_ge_true_gap (the gap `eval_gap` computes from ANY candidate set that contains a true best
        response equals/bounds the gap over the whole class), project_preserves_best_response,
        project_nonneg, project_l1_le (the vector `_eval` really uses is the projected one)
  * "hence error(Q) <= min{error(Q') : Q' feasible} + 2 g"            saddle_error
  * "every constraint exceeds its bound by at most (1 + 2 g)/B"        saddle_violation
  * L_high is the lambda-player's best response value                   lHigh_is_max
  * "whenever fitting stops before max_iter iterations, best_gap_ < nu" early_stop_lt_nu, best_iter_spec

Further, all for every run length and ANY oracle answers:
  * the MAIN LOOP as a state machine (Model/EGLoop.lean over Generated/EGLoopGen.lean)
        loop_lambda_bounds, loop_lambdaEG_bounds (lambda_t, lambda_EG >= 0, L1 < B, from positivity of exp only),
        loop_QEG_prob, loop_Q_prob, loop_weights_prob, loop_weights_padded_prob ("weights_ ... a probability vector"),
        loop_eta_formula, loop_eta_nonincreasing, loop_iterations, loop_lengths, loop_oracle_calls,
        loop_early_stop (the early-stop clause for the modelled loop itself)
  * the two LPs of solve_linprog (Model/LinProg.lean over Generated/LinProgGen.lean)
        lp_feasible_iff, lp_feasible_iff_distribution, lp_objective, lp_objective_ge_lagr, lp_lHigh_feasible,
        lp_objective_ge_lHigh, dual_feasible_iff, dual_objective, lp_weak_duality, lp_gap_zero_optimal
  * the certificate `eval_gap` computes ([1,2,5,10] loop, early break, best_h cache), in the property's words
        evalGap_gap_le_classGap (ANY class-member oracle: reported gap <= true gap),
        evalGap_Llow_le_class / classGap_le_evalGap_gap (exact oracle at mul = 1: true gap <= reported gap + _PRECISION),
        precision_slack_needed (the slack cannot be dropped), evalGap_guarantees, evalGap_saddle_point,
        loop_certificate, loop_guarantees, loop_guarantees_end_to_end (the two guarantees for the OUTPUT of the loop),
        best_h_store, best_h_returned (cache), project_raises_L (the project_lambda step of _eval)
  * the fragments of `_eval` / `eval_gap` / `fit` that are LIFTED and consumed by the model functions: the `L`
        expression and `max_constraint` of `_eval` (`Saddle.lagr`, `viol`, `maxViol`), the `L_low` update test (`updLow`),
        the projection order of `_eval` and the body of `project_lambda` (`projLam`, `Saddle.project`), `idxmin` (`argminFrom`),
        `lambda_EG`'s mean (`meanCols`), `last_gap = inf` (`initState`), `weights_ = Qs[best_iter_]` (`weightsOf`) and the
        data-flow fact that `Qs` holds a fresh object per iteration (`storeQ`).  Section (3d): eval_L_lifted,
        eval_max_constraint_lifted, eval_gap_low_update_lifted, eval_projection_lifted, best_h_scan_lifted, lambda_EG_lifted,
        last_gap_init_lifted, qs_entries_are_snapshots, weights_are_certified_iterate, vec_padTo, loop_guarantees_weights
        (the certificate for the attribute `weights_` itself)

CLAUSE → THEOREM TABLE (property text of properties.jsonl, clause by clause)
  0 premise "exact cost-sensitive learner over a finite hypothesis class; constrained problem feasible"
        the class is a `Table` (any finite size); exactness = hypothesis `hbest` (gap_ge_true_gap) / `hexact`
        (evalGap_*, loop_guarantees*: ONE call, the one at mul = 1 of the certifying eval_gap); feasibility = the
        universally quantified `Feasible TC Q'` (no feasible Q' ⇒ min over the empty set, nothing to prove)
  1 "the fitted randomised classifier Q (weights_ over predictors_, a probability vector)"
        loop_QEG_prob (EG iterates, unconditional), loop_Q_prob / loop_weights_prob / loop_weights_padded_prob
        (conditional on every LP answer being a probability vector = primal feasibility, lp_feasible_iff_distribution;
        scipy.linprog is trusted for that and re-checked per call by the harness)
  2 "g = best_gap_ is at least the true duality gap of Q against the multiplier recorded for the returned iteration"
        gap_ge_true_gap (no-cache reading), evalGap_gap_le_classGap (reported ≤ true, any oracle),
        classGap_le_evalGap_gap (true ≤ reported + _PRECISION, exact call at mul = 1), loop_certificate.
        AS WRITTEN THE CLAUSE IS FALSE OF THE CODE by up to _PRECISION = 1e-8: precision_slack_needed (witness: the
        `best_h` cache returns a stored classifier when the oracle's answer improves by less than _PRECISION).
        Every downstream bound therefore carries `+ _PRECISION`; the harness compares with tolerance ≥ _PRECISION.
  3 "hence error(Q) <= min{error(Q') : Q' feasible} + 2 g"
        saddle_error (from a true-gap bound), evalGap_guarantees / loop_guarantees / loop_guarantees_end_to_end /
        loop_guarantees_explicit (for the OUTPUT of the loop: `+ 2 g + _PRECISION`)
  4 "every constraint value gamma_j(Q) exceeds its bound by at most (1 + 2 g)/B"
        saddle_violation (+ errQ_unit_interval for its two side conditions), same loop theorems (`(1 + 2 g + _PRECISION)/B`)
  5 "for every parity moment with difference or ratio bounds"
        the moment enters only through the table (gamma columns, bounds) and the flag `ratioOne` (project_lambda is the
        identity unless ratio = 1: `projectIf`); `AntiSym` is REQUIRED only when ratioOne (project_preserves_best_response,
        project_raises_L); C08X.momentTable instantiates the table with the C06 moments
  6 "with or without the linear-programming step and for every iteration budget"
        `Params.runLP`, `Params.maxIter` are universally quantified in every loop_* theorem
  7 "whenever fitting stops before max_iter iterations, best_gap_ is below nu"
        early_stop_lt_nu (selection model), loop_early_stop (the modelled loop itself), best_iter_spec
  further: loop_guarantees_explicit (the certifying call is NAMED, so its exactness hypothesis can be checked),
  `r2_*` = a non-trivial input meeting ALL hypotheses of the loop guarantees at once (2 stored classifiers, mixed weights_).

TOTALISATION NOTES
  * `gaps.getD b 0`, `qs.getD b []`, `certs.getD b default`: always under `bestIterOf … = some b`, which gives
    `b < gaps.length = qs.length = certs.length` (bestIter_spec, Inv.len_qs, CertInv.gaps_eq).
  * `meanCols` divides by the number of columns (≥ 1: the current multiplier is appended first); `normalise` divides by
    `Qsum.sum()` ≥ 1 after `bump`; `lamOf` divides by `1 + Σ e(θ)` > 0 under `LoopHyp.e_pos` — all covered by `Inv`.
  * `X.c.length / 2` (Nat division) is only used when `ratioOne`; `AntiSym` then demands `c.length = 2·(c.length/2)`,
    the driver refuses odd lengths (`bad-op`).
  * the driver's exp table lookup defaults to 0 (NOT positive): the op answers `stuck exp-table` instead of a value
    whenever a θ outside the supplied table is needed, so `LoopHyp.e_pos` is never silently violated.
  * `saddle_violation` divides by B: guarded by `0 < B`;  `EGGen.boundB eps = 1/eps`: `eg_slack_with_code_B` asks `0 < eps`
    (eps = 0 makes fairlearn raise ZeroDivisionError in `fit`: outside the quantifier).
-/
import FairModel.Lemmas.Saddle
import FairModel.Lemmas.EGLoop
import FairModel.Lemmas.LinProg
import FairModel.Lemmas.EGCert

namespace C08
open Saddle Finset

/-- `Q'` is a probability vector over the class that meets every constraint. -/
structure Feasible (T : Table) (Q' : Nat → Rat) : Prop where
  sum_one : ∑ i ∈ range T.nH, Q' i = 1
  nonneg : ∀ i < T.nH, 0 ≤ Q' i
  meets : ∀ j < T.nC, gamQ T Q' j ≤ T.c j

/-- a feasible mixture has Lagrangian value at most its error, for non-negative multipliers -/
theorem lagr_feasible_le (T : Table) (lam Q' : Nat → Rat) (hl : ∀ j < T.nC, 0 ≤ lam j)
    (hf : ∀ j < T.nC, gamQ T Q' j ≤ T.c j) : lagr T Q' lam ≤ errQ T Q' := by
  rw [lagr_def, sumTo_eq]
  exact add_le_of_nonpos_right (Finset.sum_nonpos fun j hj =>
    mul_nonpos_of_nonneg_of_nonpos (hl j (Finset.mem_range.mp hj)) (sub_nonpos.mpr (hf j (Finset.mem_range.mp hj))))

/-- the chain behind both guarantees: `L_high(Q) ≤ L(Q, λ̂) + g ≤ L_low + 2 g ≤ L(Q', λ̂) + 2 g ≤ error(Q') + 2 g` -/
theorem lHigh_le_of_gap (T : Table) (B g : Rat) (Q lam Q' : Nat → Rat)
    (hgap : trueGap T B Q lam ≤ g) (hl : ∀ j < T.nC, 0 ≤ lam j) (hf : Feasible T Q') :
    lHigh T B Q ≤ errQ T Q' + 2 * g := by
  obtain ⟨h1, h2⟩ := gap_parts hgap
  have h3 := lLow_le_mix T Q lam Q' hf.sum_one hf.nonneg
  have h4 := lagr_feasible_le T lam Q' hl hf.meets
  linarith

/-- **Error guarantee.**  If the duality gap of `(Q, λ̂)` over the whole class is at most `g`,
    `λ̂ ≥ 0`, and `Q'` is any feasible distribution over the class, then
    `error(Q) ≤ error(Q') + 2 g`.  (`Q` itself may be any weight vector.) -/
theorem saddle_error (T : Table) (B g : Rat) (Q lam Q' : Nat → Rat) (hB : 0 ≤ B)
    (hgap : trueGap T B Q lam ≤ g) (hl : ∀ j < T.nC, 0 ≤ lam j) (hf : Feasible T Q') :
    errQ T Q ≤ errQ T Q' + 2 * g :=
  (lHigh_ge T B hB Q).1.trans (lHigh_le_of_gap T B g Q lam Q' hgap hl hf)

/-- **Constraint guarantee.**  Under the same hypotheses, with `B > 0`, `error(Q) ≥ 0` and
    `error(Q') ≤ 1`, every constraint value of `Q` exceeds its bound by at most `(1 + 2 g)/B`. -/
theorem saddle_violation (T : Table) (B g : Rat) (Q lam Q' : Nat → Rat) (hB : 0 < B)
    (hgap : trueGap T B Q lam ≤ g) (hl : ∀ j < T.nC, 0 ≤ lam j) (hf : Feasible T Q')
    (he0 : 0 ≤ errQ T Q) (he1 : errQ T Q' ≤ 1) :
    ∀ j < T.nC, gamQ T Q j - T.c j ≤ (1 + 2 * g) / B :=
  (both_guarantees_of_lHigh_le T B hB Q _ _ (lHigh_le_of_gap T B g Q lam Q' hgap hl hf)).2 he0 he1

/-- errors in [0,1] per hypothesis give an error in [0,1] for every distribution -/
theorem errQ_unit_interval (T : Table) (Q : Nat → Rat) (he : ∀ i < T.nH, 0 ≤ T.err i ∧ T.err i ≤ 1)
    (hs : ∑ i ∈ range T.nH, Q i = 1) (hq : ∀ i < T.nH, 0 ≤ Q i) : 0 ≤ errQ T Q ∧ errQ T Q ≤ 1 := by
  rw [errQ, sumTo_eq]
  constructor
  · exact Finset.sum_nonneg fun i hi => mul_nonneg (hq i (Finset.mem_range.mp hi)) (he i (Finset.mem_range.mp hi)).1
  · rw [← hs]
    exact Finset.sum_le_sum fun i hi =>
      mul_le_of_le_one_right (hq i (Finset.mem_range.mp hi)) (he i (Finset.mem_range.mp hi)).2

/-- `L_high` is the value of the multiplier player's best response: `L(Q, λ) ≤ L_high` for every
    `λ ≥ 0` with `‖λ‖₁ ≤ B` (so `gap ≤ g` makes `(Q, λ̂)` a `g`-approximate saddle point). -/
theorem lHigh_is_max (T : Table) (B : Rat) (Q lam : Nat → Rat)
    (hl : ∀ j < T.nC, 0 ≤ lam j) (hB : ∑ j ∈ range T.nC, lam j ≤ B) : lagr T Q lam ≤ lHigh T B Q :=
  lagr_le_lHigh T B Q lam hl hB

theorem gap_nonneg (T : Table) (B : Rat) (Q lam : Nat → Rat) (cands : List Nat) :
    0 ≤ gap T B Q lam cands := by
  have := lLow_le_L T Q lam cands
  exact le_trans (by linarith) (gapOf_parts _ _ _).1

/-- **Certificate.**  The gap `eval_gap` computes with ANY list of candidate best responses that
    contains a true best response `i*` to `λ̂` (an exact learner returns one) is at least the true
    duality gap over the whole class — so `best_gap_` never understates the gap. -/
theorem gap_ge_true_gap (T : Table) (B : Rat) (Q lam : Nat → Rat) (cands : List Nat) (istar : Nat)
    (hmem : istar ∈ cands) (hbest : ∀ i < T.nH, lPure T lam istar ≤ lPure T lam i) :
    trueGap T B Q lam ≤ gap T B Q lam cands :=
  gapOf_anti_low _ _ _ _ (lLow_mono T Q lam fun i hi => ⟨istar, hmem, hbest i (List.mem_range.mp hi)⟩)

/-- with candidates inside the class the computed gap never exceeds the true gap either -/
theorem gap_le_true_gap (T : Table) (B : Rat) (Q lam : Nat → Rat) (cands : List Nat)
    (hsub : ∀ i ∈ cands, i < T.nH) : gap T B Q lam cands ≤ trueGap T B Q lam :=
  gapOf_anti_low _ _ _ _ (lLow_mono T Q lam fun i hi => ⟨i, List.mem_range.mpr (hsub i hi), le_rfl⟩)

/-- `_eval` replaces `λ̂` by `project_lambda λ̂`; when the `-` entries of every gamma vector are the
    negated `+` entries (UtilityParity, ratio 1) this changes `λ̂·γ(h)` for no `h`, so a best response
    to the recorded (unprojected) `λ̂` is a best response to the vector the gap is evaluated at. -/
theorem project_preserves_best_response (m : Nat) (lam gam : Nat → Rat)
    (hg : ∀ j < m, gam (m + j) = -gam j) :
    ∑ j ∈ range (m + m), project m lam j * gam j = ∑ j ∈ range (m + m), lam j * gam j :=
  project_dot m lam gam hg

theorem project_nonneg (m : Nat) (lam : Nat → Rat) (j : Nat) : 0 ≤ project m lam j :=
  Saddle.project_nonneg m lam j

theorem project_l1_le (m : Nat) (lam : Nat → Rat) (hl : ∀ j < m + m, 0 ≤ lam j) :
    ∑ j ∈ range (m + m), project m lam j ≤ ∑ j ∈ range (m + m), lam j :=
  Saddle.project_l1_le m lam hl

/-- `best_iter_`: in range, within `_PRECISION` of the smallest gap, and the last such iteration. -/
theorem best_iter_spec (gaps : List Rat) (i : Nat) (h : bestIter gaps = some i) :
    i < gaps.length ∧ gaps.getD i 0 ≤ minOf gaps + EGGen.precision ∧
    ∀ k < gaps.length, gaps.getD k 0 ≤ minOf gaps + EGGen.precision → k ≤ i := by
  obtain ⟨h1, h2, h3⟩ := bestIter_spec gaps i h
  exact ⟨h1, of_decide_eq_true h2, fun k hk hle => h3 k hk (decide_eq_true hle)⟩

/-- **Early stop.**  If the loop leaves before `max_iter` iterations, then at least `_MIN_ITER + 1`
    iterations ran and the gap of the returned iterate (`best_gap_`) is strictly below `nu` — including
    when the returned iterate is not the last one (the `_PRECISION` tie rule). -/
theorem early_stop_lt_nu (gapAt : Nat → Rat) (nu : Rat) (maxIter : Nat)
    (h : runLen gapAt nu maxIter < maxIter) :
    ∃ i, bestIter (recorded gapAt nu maxIter) = some i ∧
      (recorded gapAt nu maxIter).getD i 0 < nu ∧ EGGen.minIter < runLen gapAt nu maxIter := by
  unfold recorded
  unfold runLen at h ⊢
  cases hfind : (List.range maxIter).find? (fun t => EGGen.breakCond (gapAt t) nu t) with
  | none => rw [hfind] at h; exact absurd h (lt_irrefl _)
  | some t =>
    have hbc := List.find?_some hfind
    simp only [EGGen.breakCond, Bool.and_eq_true, decide_eq_true_eq] at hbc
    obtain ⟨i, hi, hlt⟩ := bestIter_lt_of_last_lt ((List.range (t + 1)).map gapAt) (gapAt t) nu
      (by rw [List.range_succ, List.map_append]; exact List.getLast?_concat ..) hbc.1
    exact ⟨i, hi, hlt, Nat.lt_succ_of_le hbc.2⟩

/-! Non-vacuity: a concrete 2-hypothesis, 2-constraint table (h0 = accurate but unfair, h1 = fair). -/
def exT : Table := mkTable [0, 1/2] [[1/2, 0], [-1/2, 0]] [1/10, 1/10]
def exQ : Nat → Rat := vec [1/5, 4/5]
def exLam : Nat → Rat := vec [1, 0]

example : errQ exT exQ = 2/5 := by decide +kernel
example : lagr exT exQ exLam = 2/5 := by decide +kernel
example : lHigh exT 4 exQ = 2/5 := by decide +kernel
example : trueGap exT 4 exQ exLam = 0 := by decide +kernel
example : trueGap exT 4 (vec [1, 0]) exLam = 6/5 := by decide +kernel
theorem exQ_feasible : Feasible exT exQ := ⟨by decide +kernel, by decide +kernel, by decide +kernel⟩
example : Feasible exT exQ := exQ_feasible
example : bestIter [3, 1, 2, 1 + 1/200000000, 5] = some 3 := by decide +kernel
example : runLen (vec [9, 9, 9, 9, 9, 9, 1/2, 0]) 1 20 = 7 := by decide +kernel
example : runLen (vec [0, 0, 0, 0, 0, 0]) 1 4 = 4 := by decide +kernel
example : (project 1 (vec [3, 1])) 0 = 2 ∧ (project 1 (vec [3, 1])) 1 = 0 := by decide +kernel

/-! ## (1) The main loop (`Model/EGLoop.lean`), clauses (a)–(f): theorems for EVERY run length and ANY oracle answers

`EGLoop.runN P O n` is the state after `n` passes through the body of `for t in range(0, self.max_iter)`
(`run` = `max_iter` passes); `O.h` answers the base-learner calls, `O.lp` the (non-cached) LP solves, `P.e` is the
exponential, of which only positivity is used.  The closed expressions are `Generated/EGLoopGen.lean`. -/
section Loop
open EGLoop

/-- standing assumptions on the parameters: `B = 1/eps > 0`, `eta0 >= 0`, and `e` (np.exp) positive -/
structure LoopHyp (P : Params) : Prop where
  B_pos : 0 < P.B
  e_pos : ∀ x, 0 < P.e x
  eta0_nonneg : 0 ≤ P.eta0

theorem etaInit_nonneg {P : Params} (h : LoopHyp P) : 0 ≤ EGLoopGen.etaInit P.eta0 P.B := by
  unfold EGLoopGen.etaInit
  exact div_nonneg h.eta0_nonneg (le_of_lt h.B_pos)

theorem loop_inv {P : Params} (O : Oracles) (h : LoopHyp P) (n : Nat) : Inv P O (runN P O n) :=
  inv_runN P O h.B_pos h.e_pos (etaInit_nonneg h) n

/-- **(a)** every column of `lambda_vecs_EG_` is non-negative with L1 norm strictly below `B`
    (uses only `0 < e`; the `1 +` of the denominator is what makes the bound strict). -/
theorem loop_lambda_bounds {P : Params} (O : Oracles) (h : LoopHyp P) (n : Nat) :
    ∀ v ∈ (runN P O n).lamCols, v.length = P.c.length ∧ (∀ x ∈ v, 0 ≤ x) ∧ v.sum < P.B :=
  (loop_inv O h n).lam_good

/-- **(b)** so is every running mean `lambda_EG` (the multiplier the EG certificate is evaluated at) -/
theorem loop_lambdaEG_bounds {P : Params} (O : Oracles) (h : LoopHyp P) (n : Nat) :
    ∀ v ∈ (runN P O n).lamEGs, v.length = P.c.length ∧ (∀ x ∈ v, 0 ≤ x) ∧ v.sum < P.B :=
  (loop_inv O h n).lamEG_good

/-- **(c, EG branch)** whenever the EG iterate was kept, `Qs[t] = Qsum / Qsum.sum()` is a probability vector —
    no assumption on the LP solver. -/
theorem loop_QEG_prob {P : Params} (O : Oracles) (h : LoopHyp P) (n : Nat) :
    ∀ p ∈ (runN P O n).fromLP.zip (runN P O n).qs, p.1 = false → IsProb p.2 :=
  (loop_inv O h n).qs_eg

/-- **(c)** if every LP answer is a probability vector (= primal feasibility of the LP's equality row and
    default bounds, `lp_feasible_iff` below), every entry of `Qs`, hence `weights_ = Qs[best_iter_]`, is one. -/
theorem loop_Q_prob {P : Params} (O : Oracles) (h : LoopHyp P) (n : Nat) (hlp : ∀ k, IsProb (O.lp k).Q) :
    ∀ q ∈ (runN P O n).qs, IsProb q :=
  (loop_inv O h n).qs_prob hlp

theorem loop_weights_prob {P : Params} (O : Oracles) (h : LoopHyp P) (hlp : ∀ k, IsProb (O.lp k).Q) (b : Nat)
    (hb : bestIterOf (run P O) = some b) : IsProb ((run P O).qs.getD b []) := by
  have hinv : Inv P O (run P O) := loop_inv O h P.maxIter
  have hlt : b < (run P O).qs.length := by
    rw [hinv.len_qs, ← hinv.len_gaps]; exact (bestIter_spec _ b hb).1
  exact loop_Q_prob O h P.maxIter hlp _ (getD_mem _ b [] hlt)

/-- **(c)** the fitted `weights_` (after the zero padding to every stored classifier) is a probability vector -/
theorem loop_weights_padded_prob {P : Params} (O : Oracles) (h : LoopHyp P) (hlp : ∀ k, IsProb (O.lp k).Q)
    (hne : bestIterOf (run P O) ≠ none) : IsProb (weightsOf (run P O)) := by
  unfold weightsOf
  cases hb : bestIterOf (run P O) with
  | none => exact absurd hb hne
  | some b => exact padTo_isProb _ _ (loop_weights_prob O h hlp b hb)

/-- **(d)** `eta = (eta0 / B) * 0.8^k`, `k` = number of shrink events ≤ number of regret checks ≤ `t` -/
theorem loop_eta_formula {P : Params} (O : Oracles) (h : LoopHyp P) (n : Nat) :
    (runN P O n).eta = EGLoopGen.etaInit P.eta0 P.B * EGGen.shrinkEta ^ (runN P O n).shrinks ∧
    (runN P O n).shrinks ≤ (runN P O n).checks ∧ (runN P O n).checks ≤ (runN P O n).t :=
  ⟨(loop_inv O h n).eta_eq, (loop_inv O h n).shrinks_le, (loop_inv O h n).checks_le⟩

/-- **(d)** the learning rates used by successive iterations never increase and never exceed `eta0 / B` -/
theorem loop_eta_nonincreasing {P : Params} (O : Oracles) (h : LoopHyp P) (n : Nat) :
    (runN P O n).etas.Pairwise (fun a b => b ≤ a) ∧
    ∀ x ∈ (runN P O n).etas, (runN P O n).eta ≤ x ∧ x ≤ EGLoopGen.etaInit P.eta0 P.B :=
  ⟨(loop_inv O h n).etas_mono, (loop_inv O h n).etas_hist⟩

/-- **(e)** at most `max_iter` iterations; `last_iter_ = len(Qs) - 1 = t - 1`; `best_iter_ ≤ last_iter_` -/
theorem loop_iterations {P : Params} (O : Oracles) (h : LoopHyp P) :
    (run P O).t ≤ P.maxIter ∧ lastIterOf (run P O) = ((run P O).t : Int) - 1 ∧
    ∀ b, bestIterOf (run P O) = some b → (b : Int) ≤ lastIterOf (run P O) := by
  have hinv : Inv P O (run P O) := loop_inv O h P.maxIter
  have hl : lastIterOf (run P O) = ((run P O).t : Int) - 1 := by rw [lastIterOf, EGLoopGen.lastIter, hinv.len_qs]
  refine ⟨hinv.t_le, hl, fun b hb => ?_⟩
  have := (bestIter_spec _ b hb).1
  rw [hl, ← hinv.len_gaps]
  omega

/-- **(f)** the loop invariant `len(gaps) = len(Qs) = len(gaps_EG) = #columns of lambda_vecs_EG_ = t` -/
theorem loop_lengths {P : Params} (O : Oracles) (h : LoopHyp P) (n : Nat) :
    (runN P O n).gaps.length = (runN P O n).t ∧ (runN P O n).qs.length = (runN P O n).t ∧
    (runN P O n).gapsEG.length = (runN P O n).t ∧ (runN P O n).lamCols.length = (runN P O n).t ∧
    (runN P O n).t ≤ n := by
  have hinv := loop_inv O h n
  exact ⟨hinv.len_gaps, hinv.len_qs, hinv.len_gapsEG, hinv.len_lamCols, (runN_t P O n).1⟩

/-- **(e')** `n_oracle_calls_ <= 9 * (last_iter_ + 1) <= 9 * max_iter` (one call of the loop body, at most four in each of
    the two `eval_gap` calls), and `len(predictors_) <= n_oracle_calls_` — for any oracle, no assumption at all. -/
theorem loop_oracle_calls (P : Params) (O : Oracles) :
    (run P O).calls ≤ 9 * (run P O).t ∧ (run P O).hs.length ≤ (run P O).calls :=
  calls_runN P O P.maxIter

/-- **Early stop, for the modelled loop itself**: if the run ends with fewer than `max_iter` iterations, the
    `break` was taken, more than `_MIN_ITER` iterations ran, and the gap of the RETURNED iterate (`best_gap_`) is
    strictly below `nu`. -/
theorem loop_early_stop {P : Params} (O : Oracles) (h : LoopHyp P) (hlt : (run P O).t < P.maxIter) :
    (run P O).done = true ∧ EGGen.minIter < (run P O).t ∧
    ∃ b, bestIterOf (run P O) = some b ∧ (run P O).gaps.getD b 0 < P.nu := by
  have hd : (run P O).done = true := by
    cases hdn : (run P O).done
    · exact absurd ((runN_t P O P.maxIter).2 (Nat.le_refl _) hdn) hlt.ne
    · rfl
  obtain ⟨g, hg, hlt, hmin⟩ := (loop_inv O h P.maxIter).done_spec hd
  exact ⟨hd, hmin, bestIter_lt_of_last_lt _ g P.nu hg hlt⟩

end Loop

/-! ## (2) The linear programmes of `solve_linprog` (`Model/LinProg.lean` over `Generated/LinProgGen.lean`)

`T` is the table of the classifiers found so far (`self.errors`, `self.gammas`, `bound()`), the primal variable is
`(Q, t)`, the dual variable `(lambda, mu)`. -/
section LP
open LinProg EGLoop

/-- **(2a)** primal feasibility, spelled out: `Q >= 0`, `t >= 0` (scipy's default bounds), the equality row says
    `sum Q = 1`, and inequality row `j` says `sum_i (gamma_j(h_i) - bound_j) Q_i - t <= 0`. -/
theorem lp_feasible_iff (T : Table) (Q : List Rat) (t : Rat) (hQ : Q.length = T.nH) :
    primalFeasible T (Q ++ [t]) = true ↔
      (∀ x ∈ Q, 0 ≤ x) ∧ 0 ≤ t ∧ Q.sum = 1 ∧
      ∀ j < T.nC, (∑ i ∈ range T.nH, (T.gam j i - T.c j) * vec Q i) - t ≤ 0 := by
  have hub : (∀ j < T.nC, LinProg.dot ((Aub T).getD j []) (Q ++ [t]) ≤ (bub T).getD j 0) ↔
      ∀ j < T.nC, (∑ i ∈ range T.nH, (T.gam j i - T.c j) * vec Q i) - t ≤ 0 :=
    forall₂_congr fun j hj => by rw [Aub_dot T Q t hQ j hj, bub_get]
  unfold primalFeasible
  rw [Bool.and_eq_true, Bool.and_eq_true, Bool.and_eq_true, rowsLe_iff, rowsEq_iff, Aub_eq, List.length_map,
    List.length_range, ← Aub_eq, hub, Aeq_eq, beq_eq,
    decide_eq_true (by rw [List.length_append, hQ]; rfl)]
  simp only [List.all_append, List.all_cons, List.all_nil, Bool.and_true, Bool.and_eq_true, List.all_eq_true,
    decide_eq_true_eq, List.length_singleton, Nat.lt_one_iff, forall_eq, List.getD_cons_zero, Aeq_dot T Q t hQ, true_and]
  exact ⟨fun ⟨⟨⟨hq, ht⟩, hv⟩, hs⟩ => ⟨hq, ht, hs, hv⟩, fun ⟨hq, ht, hs, hv⟩ => ⟨⟨⟨hq, ht⟩, hv⟩, hs⟩⟩

/-- **(2a)** ... which means exactly: `Q` is a distribution over the stored classifiers and `t` dominates `0` and
    every constraint violation of the mixture `Q`. -/
theorem lp_feasible_iff_distribution (T : Table) (Q : List Rat) (t : Rat) (hQ : Q.length = T.nH) :
    primalFeasible T (Q ++ [t]) = true ↔ IsProb Q ∧ 0 ≤ t ∧ ∀ j < T.nC, viol T (vec Q) j ≤ t := by
  rw [lp_feasible_iff T Q t hQ]
  constructor
  · rintro ⟨hq, ht, hs, hv⟩
    refine ⟨⟨hq, hs⟩, ht, fun j hj => ?_⟩
    have := hv j hj
    rwa [row_sum_eq_viol T Q hQ hs j, sub_nonpos] at this
  · rintro ⟨⟨hq, hs⟩, ht, hv⟩
    refine ⟨hq, ht, hs, fun j hj => ?_⟩
    rw [row_sum_eq_viol T Q hQ hs j, sub_nonpos]
    exact hv j hj

/-- **(2a)** the objective is `error(Q) + B t` (`B` is the last cost entry) -/
theorem lp_objective (T : Table) (B : Rat) (Q : List Rat) (t : Rat) (hQ : Q.length = T.nH) :
    primalObj T B (Q ++ [t]) = errQ T (vec Q) + B * t := c_dot T B Q t hQ

/-- **(2a)** every feasible point's objective is at least `L(Q, lambda)` for EVERY `lambda >= 0` with `|lambda|_1 <= B` -/
theorem lp_objective_ge_lagr (T : Table) (B : Rat) (Q : List Rat) (t : Rat) (hQ : Q.length = T.nH)
    (hf : primalFeasible T (Q ++ [t]) = true) (lam : Nat → Rat) (hl : ∀ j < T.nC, 0 ≤ lam j)
    (hB : ∑ j ∈ range T.nC, lam j ≤ B) : lagr T (vec Q) lam ≤ primalObj T B (Q ++ [t]) := by
  obtain ⟨_, ht, hv⟩ := (lp_feasible_iff_distribution T Q t hQ).mp hf
  rw [lp_objective T B Q t hQ]
  exact lagr_le_of_viol_le T B (vec Q) lam hl hB t ht hv

/-- the smallest feasible slack for a mixture: `max(0, max_j violation_j)` -/
def tStar (T : Table) (Q : Nat → Rat) : Rat := if maxViol T Q > 0 then maxViol T Q else 0

theorem tStar_eq (T : Table) (Q : Nat → Rat) : tStar T Q = Saddle.posPart (maxViol T Q) := by
  unfold tStar
  split
  · next h => rw [Saddle.posPart_of_nonneg (le_of_lt h)]
  · next h => rw [Saddle.posPart_of_nonpos (not_lt.mp h)]

/-- **(2a)** for a distribution `Q` the point `(Q, max(0, max violation))` is feasible and its objective is `L_high(Q)`
    of the Saddle model — the value of the multiplier player's best response. -/
theorem lp_lHigh_feasible (T : Table) (B : Rat) (Q : List Rat) (hQ : Q.length = T.nH) (hp : IsProb Q) :
    primalFeasible T (Q ++ [tStar T (vec Q)]) = true ∧
    primalObj T B (Q ++ [tStar T (vec Q)]) = lHigh T B (vec Q) := by
  constructor
  · rw [lp_feasible_iff_distribution T Q _ hQ, tStar_eq]
    exact ⟨hp, Saddle.posPart_nonneg _, fun j hj => (viol_le_maxViol T (vec Q) j hj).trans (Saddle.le_posPart _)⟩
  · rw [lp_objective T B Q _ hQ, tStar_eq, lHigh_eq]

/-- **(2a)** and no feasible point with the same `Q` does better (at least one constraint, `B >= 0`): the primal
    optimum is `min_Q L_high(Q) = min_Q max_lambda L(Q, lambda)` over distributions on the stored classifiers. -/
theorem lp_objective_ge_lHigh (T : Table) (B : Rat) (Q : List Rat) (t : Rat) (hQ : Q.length = T.nH) (hB : 0 ≤ B)
    (hnC : 0 < T.nC) (hf : primalFeasible T (Q ++ [t]) = true) : lHigh T B (vec Q) ≤ primalObj T B (Q ++ [t]) := by
  obtain ⟨_, ht, hv⟩ := (lp_feasible_iff_distribution T Q t hQ).mp hf
  obtain ⟨j, hj, hm⟩ := maxViol_attained T (vec Q) hnC
  rw [lp_objective T B Q t hQ, lHigh_eq, hm]
  exact add_le_add le_rfl (mul_le_mul_of_nonneg_left (Saddle.posPart_le (hv j hj) ht) hB)

/-- **(2b)** dual feasibility, spelled out: `lambda >= 0` (the bounds of the first `n_constraints` variables),
    `sum lambda <= B` (the row of the primal slack column), and the free variable `mu` is at most
    `err_i + sum_j lambda_j (gamma_j(h_i) - bound_j)` for every stored classifier `i` — it is a lower bound `L_low`. -/
theorem dual_feasible_iff (T : Table) (B : Rat) (lam : List Rat) (mu : Rat) (hl : lam.length = T.nC) :
    dualFeasible T B (lam ++ [mu]) = true ↔
      (∀ j < T.nC, 0 ≤ vec lam j) ∧ ∑ j ∈ range T.nC, vec lam j ≤ B ∧ ∀ i < T.nH, mu ≤ lPure T (vec lam) i := by
  have hrow_lo : ∀ i < T.nH, (LinProg.dot ((dualA T).getD i []) (lam ++ [mu]) ≤ (dualB T B).getD i 0 ↔
      mu ≤ lPure T (vec lam) i) := by
    intro i hi
    rw [dualA_row_lo T i hi, dot_range_snoc _ _ _ _ _ hl, dualB_get T B i hi.le, if_pos hi,
      lPure_eq T (vec lam) i hi, ← le_sub_iff_add_le', one_mul, sub_eq_add_neg, ← Finset.sum_neg_distrib]
    exact Iff.of_eq (congrArg (mu ≤ T.err i + ·) (Finset.sum_congr rfl fun j _ => by ring))
  have hrow_hi : (LinProg.dot ((dualA T).getD T.nH []) (lam ++ [mu]) ≤ (dualB T B).getD T.nH 0 ↔
      ∑ j ∈ range T.nC, vec lam j ≤ B) := by
    rw [dualA_row_hi T, dot_range_snoc _ _ _ _ _ hl, dualB_get T B T.nH le_rfl, if_neg (lt_irrefl _), zero_mul, add_zero]
    simp only [one_mul]
  have hsign : (∀ i < T.nC + 1, LinProgGen.dualFree T.nC i = true ∨ 0 ≤ (lam ++ [mu]).getD i 0) ↔
      ∀ j < T.nC, 0 ≤ vec lam j := by
    rw [Nat.forall_lt_succ_right]
    refine ⟨fun h j hj => ?_, fun h => ⟨fun j hj => Or.inr ?_, Or.inl (decide_eq_true rfl)⟩⟩
    · rw [vec, ← getD_append_lt lam [mu] 0 (hl ▸ hj)]
      exact (h.1 j hj).resolve_left fun hf => absurd (of_decide_eq_true hf) hj.ne
    · rw [getD_append_lt lam [mu] 0 (hl ▸ hj)]; exact h j hj
  unfold dualFeasible
  rw [Bool.and_eq_true, Bool.and_eq_true, rowsLe_iff, dualA_eq, List.length_map, List.length_range, ← dualA_eq,
    Nat.forall_lt_succ_right, hrow_hi,
    forall₂_congr hrow_lo, decide_eq_true (by rw [List.length_append, hl]; rfl), List.all_eq_true]
  simp only [List.mem_range, Bool.or_eq_true, decide_eq_true_eq, true_and]
  rw [hsign, and_comm (a := ∀ i < T.nH, _)]

/-- **(2b)** the code MINIMISES `dual_c . y = -mu` (`dual_c = (b_ub, -b_eq) = (0, ..., 0, -1)`), i.e. maximises `mu` -/
theorem dual_objective (T : Table) (lam : List Rat) (mu : Rat) (hl : lam.length = T.nC) :
    dualObj T (lam ++ [mu]) = -mu := by
  unfold dualObj
  rw [dualC_eq, dot_append_single _ _ _ _ (by rw [List.length_replicate, hl]), dot_replicate_zero]
  ring

/-- **(2b) weak duality for the generated pair**: any primal-feasible `(Q, t)` and dual-feasible `(lambda, mu)` satisfy
    `-(dual_c . y) = mu <= L(Q, lambda) <= c . x = error(Q) + B t`.  So the generated dual really is the LP dual of
    the generated primal, with the sign convention of the source. -/
theorem lp_weak_duality (T : Table) (B : Rat) (Q : List Rat) (t : Rat) (lam : List Rat) (mu : Rat)
    (hQ : Q.length = T.nH) (hl : lam.length = T.nC)
    (hp : primalFeasible T (Q ++ [t]) = true) (hd : dualFeasible T B (lam ++ [mu]) = true) :
    -(dualObj T (lam ++ [mu])) ≤ lagr T (vec Q) (vec lam) ∧
    lagr T (vec Q) (vec lam) ≤ primalObj T B (Q ++ [t]) := by
  obtain ⟨hnn, hsum, hmu⟩ := (dual_feasible_iff T B lam mu hl).mp hd
  obtain ⟨hprob, _, _⟩ := (lp_feasible_iff_distribution T Q t hQ).mp hp
  obtain ⟨hs, hq⟩ := isProb_vec hprob
  rw [dual_objective T lam mu hl, neg_neg]
  exact ⟨le_lagr_of_le_pure T _ _ mu (hQ ▸ hs) (fun i _ => hq i) hmu,
    lp_objective_ge_lagr T B Q t hQ hp (vec lam) hnn hsum⟩

/-- **(2c)** for a primal-feasible `Q` and dual-feasible `lambda` the duality gap of the Saddle model is `>= 0`, and
    if it is `0` then BOTH are optimal: no feasible primal point has a smaller objective than `(Q, t*)` and no
    feasible dual point a larger `mu` than `L(Q, lambda)`.  (The converse — both optimal implies gap `0` — is LP
    strong duality and is NOT proved here; the correspondence check observes `gap_LP` of every LP step.) -/
theorem lp_gap_zero_optimal (T : Table) (B : Rat) (Q lam : List Rat) (hQ : Q.length = T.nH)
    (hp : IsProb Q) (hnn : ∀ j < T.nC, 0 ≤ vec lam j) (hsum : ∑ j ∈ range T.nC, vec lam j ≤ B)
    (hgap : trueGap T B (vec Q) (vec lam) = 0) :
    (∀ (Q' : List Rat) (t' : Rat), Q'.length = T.nH → primalFeasible T (Q' ++ [t']) = true →
        primalObj T B (Q ++ [tStar T (vec Q)]) ≤ primalObj T B (Q' ++ [t'])) ∧
    (∀ (lam' : List Rat) (mu' : Rat), lam'.length = T.nC → dualFeasible T B (lam' ++ [mu']) = true →
        mu' ≤ lagr T (vec Q) (vec lam)) := by
  obtain ⟨h1, h2⟩ := gap_parts (le_of_eq hgap)
  have hhigh := lagr_le_lHigh T B (vec Q) (vec lam) hnn hsum
  have hlow := lLow_le_L T (vec Q) (vec lam) (List.range T.nH)
  have hHeq : lHigh T B (vec Q) = lagr T (vec Q) (vec lam) := le_antisymm (sub_nonpos.mp h2) hhigh
  have hLeq : lLow T (vec Q) (vec lam) (List.range T.nH) = lagr T (vec Q) (vec lam) :=
    le_antisymm hlow (sub_nonpos.mp h1)
  constructor
  · intro Q' t' hQ' hf'
    rw [(lp_lHigh_feasible T B Q hQ hp).2, hHeq, ← hLeq]
    obtain ⟨hprob', _, _⟩ := (lp_feasible_iff_distribution T Q' t' hQ').mp hf'
    obtain ⟨hs', hq'⟩ := isProb_vec hprob'
    exact le_trans (lLow_le_mix T (vec Q) (vec lam) (vec Q') (hQ' ▸ hs') (fun i _ => hq' i))
      (lp_objective_ge_lagr T B Q' t' hQ' hf' (vec lam) hnn hsum)
  · intro lam' mu' hl' hd'
    have hfeas := (lp_lHigh_feasible T B Q hQ hp).1
    have hw := lp_weak_duality T B Q (tStar T (vec Q)) lam' mu' hQ hl' hfeas hd'
    rw [dual_objective T lam' mu' hl', neg_neg] at hw
    have := le_trans hw.1 hw.2
    rw [(lp_lHigh_feasible T B Q hQ hp).2, hHeq] at this
    exact this

end LP

/-! ## (3) The certificate computed by `eval_gap` (the `[1, 2, 5, 10]` loop with its early break), in the property's words

`TC` is the table of the WHOLE hypothesis class; the store `hs` and every oracle answer are members of it.
`evalGap X O hs k Q lamHat` is `eval_gap(Q, lambda_hat, nu)` run on the store `hs`, the oracle answering `O k, O (k+1), ...`. -/
section Cert
open EGLoop

/-- the smallest Lagrangian value over the class, capped by `L` (what `L_low` would be with every class member as candidate) -/
def classLow (TC : Table) (lamP : Nat → Rat) (L : Rat) : Rat :=
  (List.range TC.nH).foldl (fun acc i => if lPure TC lamP i < acc then lPure TC lamP i else acc) L

/-- the TRUE duality gap over the class of a pair whose `L`, `L_high` are given -/
def classGap (TC : Table) (lamP : Nat → Rat) (L Lhigh : Rat) : Rat := EGGen.gapOf L (classLow TC lamP L) Lhigh

/-- **(3a, any oracle)** whatever classifiers of the class the oracle answers with — exact or not —, the `L_low` of
    `eval_gap` is at least the true minimum over the class (capped by `L`), hence the REPORTED gap never exceeds the
    true duality gap of `(Q, lambda_hat)`: inexact oracles can only make the certificate optimistic, never pessimistic. -/
theorem evalGap_gap_le_classGap (X : Ctx) (O : Nat → Hyp) (TC : Table) (hc : TC.nC = X.c.length) (hcc : TC.c = vec X.c)
    (hO : ∀ k, ∃ i, IsMember TC (O k) i) (hs : List Hyp) (hmem : Members TC hs) (k : Nat) (Q lamHat : List Rat) :
    (evalGap X O hs k Q lamHat).2.2.gap ≤
      classGap TC (projLam X lamHat) (evalGap X O hs k Q lamHat).2.2.L (evalGap X O hs k Q lamHat).2.2.Lhigh := by
  refine gapOf_anti_low _ _ _ _ ?_
  rw [(evalGap_fields X O hs k Q lamHat).1]
  exact evalLoop_Llow_ge X O lamHat TC hc hcc hO _ (fun i hi => foldMin_le_mem _ _ _ i (List.mem_range.mpr hi))
    EGGen.muls hs k _ hmem (foldMin_le_init _ _ _)

/-- **(3a, exact oracle at mul = 1)** this is the ONLY inequality that needs exactness: if the answer to the FIRST
    best-response call of `eval_gap` (the one at `1 * lambda_hat`) minimises `h_value` over the class, then `L_low` is at
    most the class minimum PLUS `_PRECISION` — `best_h` returns a stored classifier instead of the oracle's answer
    whenever the improvement is below `_PRECISION` — so the true gap is at most the reported gap plus `_PRECISION`.
    The later multipliers `2, 5, 10` and the early break play no role. -/
theorem evalGap_Llow_le_class (X : Ctx) (O : Nat → Hyp) (TC : Table) (hc : TC.nC = X.c.length) (hcc : TC.c = vec X.c)
    (ha : AntiSym X TC) (hs : List Hyp) (hmem : Members TC hs) (k : Nat) (Q lamHat : List Rat)
    (hOk : ∃ i, IsMember TC (O k) i) (hexact : ∀ i < TC.nH, storedValue lamHat (O k) ≤ classValue TC lamHat i) :
    ∀ i < TC.nH, (evalGap X O hs k Q lamHat).2.2.Llow ≤ lPure TC (projLam X lamHat) i + EGGen.precision := by
  intro i hi
  refine le_trans (evalLoop_first X O lamHat 1 _ hs k _) ?_
  simp only [one_mul, List.map_id']
  have hidx := bestH_idx_lt hs lamHat (O k)
  obtain ⟨r, hr⟩ := bestH_members TC hs lamHat (O k) hmem hOk _ (getD_mem _ _ _ hidx)
  rw [lPure_member TC X.c hc hcc _ (projLam X lamHat) _ hidx r hr, lPure_as_value X TC hc ha lamHat r hr.1,
    lPure_as_value X TC hc ha lamHat i hi, ← storedValue_member TC _ r hr lamHat]
  exact (sub_le_sub_right ((bestH_value hs lamHat (O k)).1.trans (add_le_add (hexact i hi) le_rfl)) _).trans_eq
    (add_sub_right_comm _ _ _)

theorem evalGap_Llow_le_mix (X : Ctx) (O : Nat → Hyp) (TC : Table) (hc : TC.nC = X.c.length) (hcc : TC.c = vec X.c)
    (ha : AntiSym X TC) (hs : List Hyp) (hmem : Members TC hs) (k : Nat) (Q lamHat : List Rat)
    (hOk : ∃ i, IsMember TC (O k) i) (hexact : ∀ i < TC.nH, storedValue lamHat (O k) ≤ classValue TC lamHat i)
    (Q' : Nat → Rat) (hsum : ∑ i ∈ range TC.nH, Q' i = 1) (hnn : ∀ i < TC.nH, 0 ≤ Q' i) :
    (evalGap X O hs k Q lamHat).2.2.Llow - EGGen.precision ≤ lagr TC Q' (projLam X lamHat) :=
  le_lagr_of_le_pure TC Q' _ _ hsum hnn fun i hi =>
    sub_le_iff_le_add.mpr (evalGap_Llow_le_class X O TC hc hcc ha hs hmem k Q lamHat hOk hexact i hi)

theorem classLow_ge (TC : Table) (lamP : Nat → Rat) (L m : Rat) (h1 : m ≤ L) (h2 : ∀ i < TC.nH, m ≤ lPure TC lamP i) :
    m ≤ classLow TC lamP L :=
  le_foldMin _ m _ L h1 (fun i hi => h2 i (List.mem_range.mp hi))

/-- **(3a)** ... hence with an exact oracle at `mul = 1`: `true gap <= reported gap + _PRECISION`. -/
theorem classGap_le_evalGap_gap (X : Ctx) (O : Nat → Hyp) (TC : Table) (hc : TC.nC = X.c.length) (hcc : TC.c = vec X.c)
    (ha : AntiSym X TC) (hs : List Hyp) (hmem : Members TC hs) (k : Nat) (Q lamHat : List Rat)
    (hOk : ∃ i, IsMember TC (O k) i) (hexact : ∀ i < TC.nH, storedValue lamHat (O k) ≤ classValue TC lamHat i) :
    classGap TC (projLam X lamHat) (evalGap X O hs k Q lamHat).2.2.L (evalGap X O hs k Q lamHat).2.2.Lhigh
      ≤ (evalGap X O hs k Q lamHat).2.2.gap + EGGen.precision := by
  have hle := evalGap_Llow_le_class X O TC hc hcc ha hs hmem k Q lamHat hOk hexact
  have hlowL := (evalGap_fields X O hs k Q lamHat).2.2
  obtain ⟨g1, g2⟩ := (evalGap X O hs k Q lamHat).2.2.gap_parts
  have hcl := classLow_ge TC (projLam X lamHat) (evalGap X O hs k Q lamHat).2.2.L
    ((evalGap X O hs k Q lamHat).2.2.Llow - EGGen.precision) ((sub_le_self _ precision_nonneg).trans hlowL)
    (fun i hi => sub_le_iff_le_add.mpr (hle i hi))
  exact gapOf_le (((sub_le_sub_left hcl _).trans_eq ((sub_sub_eq_add_sub _ _ _).trans (add_sub_right_comm _ _ _))).trans
    (add_le_add g1 le_rfl)) (g2.trans (le_add_of_nonneg_right precision_nonneg))

/-- **(3b) the two guarantees, stated for the OUTPUT of `eval_gap`** (any store of class members, any `Q`, any
    `lambda_hat` whose projected version is non-negative, exact oracle at `mul = 1`): with `g` the reported gap,
    `error(Q) <= error(Q*) + 2 g + _PRECISION` for every feasible distribution `Q*` over the class, and every constraint
    of `Q` exceeds its bound by at most `(1 + 2 g + _PRECISION)/B`. -/
theorem evalGap_guarantees (X : Ctx) (O : Nat → Hyp) (TC : Table) (hc : TC.nC = X.c.length) (hcc : TC.c = vec X.c)
    (ha : AntiSym X TC) (hs : List Hyp) (hmem : Members TC hs) (k : Nat) (Q lamHat : List Rat)
    (hOk : ∃ i, IsMember TC (O k) i) (hexact : ∀ i < TC.nH, storedValue lamHat (O k) ≤ classValue TC lamHat i)
    (hB : 0 < X.B) (hlam : ∀ j < TC.nC, 0 ≤ projLam X lamHat j) (Q' : Nat → Rat) (hf : Feasible TC Q') :
    errQ (tableOf X.c hs) (vec Q) ≤ errQ TC Q' + 2 * (evalGap X O hs k Q lamHat).2.2.gap + EGGen.precision ∧
    (0 ≤ errQ (tableOf X.c hs) (vec Q) → errQ TC Q' ≤ 1 → ∀ j < X.c.length,
      gamQ (tableOf X.c hs) (vec Q) j - vec X.c j
        ≤ (1 + 2 * (evalGap X O hs k Q lamHat).2.2.gap + EGGen.precision) / X.B) := by
  have hH := (evalGap_fields X O hs k Q lamHat).2.1
  have hmix := evalGap_Llow_le_mix X O TC hc hcc ha hs hmem k Q lamHat hOk hexact Q' hf.sum_one hf.nonneg
  obtain ⟨g1, g2⟩ := (evalGap X O hs k Q lamHat).2.2.gap_parts
  have hfe := lagr_feasible_le TC (projLam X lamHat) Q' hlam hf.meets
  rw [add_assoc, add_assoc]
  refine both_guarantees_of_lHigh_le (tableOf X.c hs) X.B hB (vec Q) _ _ ?_
  rw [← hH]
  generalize (evalGap X O hs k Q lamHat).2.2 = r at *
  linarith

/-- **The saddle-point statement itself** (Agarwal et al. 2018, Theorem 1, for what `eval_gap` certifies): with
    `g` the reported gap and `lambda^ = project(lambda_hat)` the multiplier the gap is evaluated at,
    (i) no multiplier `lambda >= 0` with `|lambda|_1 <= B` raises the Lagrangian of `Q` above `L(Q, lambda^) + g`
        — needs nothing about the oracle —, and
    (ii) no distribution `Q'` over the class lowers it below `L(Q, lambda^) - g - _PRECISION`
        — needs class-member answers and exactness of the one call at `mul = 1`. -/
theorem evalGap_saddle_point (X : Ctx) (O : Nat → Hyp) (TC : Table) (hc : TC.nC = X.c.length) (hcc : TC.c = vec X.c)
    (ha : AntiSym X TC) (hs : List Hyp) (hmem : Members TC hs) (k : Nat) (Q lamHat : List Rat)
    (hOk : ∃ i, IsMember TC (O k) i) (hexact : ∀ i < TC.nH, storedValue lamHat (O k) ≤ classValue TC lamHat i) :
    (∀ lam : Nat → Rat, (∀ j < X.c.length, 0 ≤ lam j) → ∑ j ∈ range X.c.length, lam j ≤ X.B →
      lagr (tableOf X.c hs) (vec Q) lam
        ≤ lagr (tableOf X.c hs) (vec Q) (projLam X lamHat) + (evalGap X O hs k Q lamHat).2.2.gap) ∧
    (∀ Q' : Nat → Rat, ∑ i ∈ range TC.nH, Q' i = 1 → (∀ i < TC.nH, 0 ≤ Q' i) →
      lagr (tableOf X.c hs) (vec Q) (projLam X lamHat) - (evalGap X O hs k Q lamHat).2.2.gap - EGGen.precision
        ≤ lagr TC Q' (projLam X lamHat)) := by
  obtain ⟨hL, hH, _⟩ := evalGap_fields X O hs k Q lamHat
  obtain ⟨g1, g2⟩ := (evalGap X O hs k Q lamHat).2.2.gap_parts
  have hmix := evalGap_Llow_le_mix X O TC hc hcc ha hs hmem k Q lamHat hOk hexact
  rw [← hL]
  generalize (evalGap X O hs k Q lamHat).2.2 = r at *
  constructor
  · intro lam hl hB
    have := lagr_le_lHigh (tableOf X.c hs) X.B (vec Q) lam hl hB
    rw [← hH] at this
    exact this.trans (sub_le_iff_le_add'.mp g2)
  · intro Q' hsum hnn
    exact (sub_le_sub_right (sub_le_comm.mp g1) _).trans (hmix Q' hsum hnn)

/-- **(3b) for the OUTPUT of the modelled loop, any run, any oracle answers from the class**: the returned gap
    `best_gap_ = gaps[best_iter_]` IS the gap `eval_gap` computed for the returned `weights_ = Qs[best_iter_]` in one
    specific call (store `c.hs`, first oracle call number `c.k`, multiplier `c.lamHat` = that iteration's `lambda_EG` or
    the LP's dual solution — also when the LP result came from the `last_linprog_n_hs` cache). -/
theorem loop_certificate {P : Params} (O : Oracles) (TC : Table) (hO : ∀ k, ∃ i, IsMember TC (O.h k) i) (b : Nat)
    (hb : bestIterOf (run P O) = some b) :
    ∃ c : Cert, (run P O).gaps.getD b 0 = certGap P O c ∧ (run P O).qs.getD b [] = c.Q ∧ Members TC c.hs :=
  ⟨_, (cert_at O TC hO b hb).2⟩

/-- **(3b) the property's two guarantees for the output of the modelled loop.**  With `g = best_gap_`,
    `Q = weights_`: if the oracle's answers are class members, the ONE oracle call at `mul = 1` of the certifying
    `eval_gap` call was exact, and the (projected) multiplier of that call is non-negative, then for every feasible
    distribution `Q*` over the class   `error(Q) <= error(Q*) + 2 g + _PRECISION`   and every constraint of `Q`
    exceeds its bound by at most `(1 + 2 g + _PRECISION)/B`.  (`_PRECISION = 1e-8` is the cache tolerance of `best_h`;
    `precision_slack_needed` below shows it cannot be dropped.) -/
theorem loop_guarantees {P : Params} (O : Oracles) (TC : Table) (hB : 0 < P.B) (hc : TC.nC = P.c.length)
    (hcc : TC.c = vec P.c) (ha : AntiSym P.ctx TC) (hO : ∀ k, ∃ i, IsMember TC (O.h k) i) (b : Nat)
    (hb : bestIterOf (run P O) = some b) :
    ∃ c : Cert, (run P O).gaps.getD b 0 = certGap P O c ∧ (run P O).qs.getD b [] = c.Q ∧
      ((∀ i < TC.nH, storedValue c.lamHat (O.h c.k) ≤ classValue TC c.lamHat i) →
       (∀ j < TC.nC, 0 ≤ projLam P.ctx c.lamHat j) → ∀ Q', Feasible TC Q' →
        errQ (tableOf P.c c.hs) (vec ((run P O).qs.getD b []))
          ≤ errQ TC Q' + 2 * (run P O).gaps.getD b 0 + EGGen.precision ∧
        (0 ≤ errQ (tableOf P.c c.hs) (vec ((run P O).qs.getD b [])) → errQ TC Q' ≤ 1 → ∀ j < P.c.length,
          gamQ (tableOf P.c c.hs) (vec ((run P O).qs.getD b [])) j - vec P.c j
            ≤ (1 + 2 * (run P O).gaps.getD b 0 + EGGen.precision) / P.B)) := by
  obtain ⟨c, h1, h2, h3⟩ := loop_certificate O TC hO b hb
  refine ⟨c, h1, h2, ?_⟩
  intro hexact hlam Q' hf
  rw [h1, h2]
  exact evalGap_guarantees P.ctx O.h TC hc hcc ha c.hs h3 c.k c.Q c.lamHat (hO c.k) hexact hB hlam Q' hf

/-- **the same, with the certifying call NAMED**: in `loop_guarantees(_end_to_end)` the certificate `c` is
    existentially quantified, so the exactness hypothesis talks about a call the reader cannot identify.  Here
    `c = certs[b]` — the record the state machine keeps of which `eval_gap` call produced `gaps[b]` — is explicit: its
    store `c.hs`, first oracle call `c.k`, arguments `c.Q = weights_` and `c.lamHat` are computable from the run, the
    hypothesis `hexact` is decidable on concrete inputs (see the `r2_*` instance below).  The non-negativity of the
    certifying multiplier is DERIVED — for an EG iterate from `loop_lambdaEG_bounds` (positivity of `exp`), for an LP
    iterate from the dual LP's bounds (`hlpl`: every LP answer has `lambda >= 0`, which is part of `dual_feasible_iff`). -/
theorem loop_guarantees_explicit {P : Params} (O : Oracles) (TC : Table) (h : LoopHyp P) (hc : TC.nC = P.c.length)
    (hcc : TC.c = vec P.c) (ha : AntiSym P.ctx TC) (hO : ∀ k, ∃ i, IsMember TC (O.h k) i)
    (hlpl : ∀ k, ∀ x ∈ (O.lp k).lam, 0 ≤ x) (b : Nat) (hb : bestIterOf (run P O) = some b) :
    (run P O).gaps.getD b 0 = certGap P O ((run P O).certs.getD b default).1 ∧
    (run P O).qs.getD b [] = ((run P O).certs.getD b default).1.Q ∧
    Members TC ((run P O).certs.getD b default).1.hs ∧
    ((∀ i < TC.nH, storedValue ((run P O).certs.getD b default).1.lamHat (O.h ((run P O).certs.getD b default).1.k)
          ≤ classValue TC ((run P O).certs.getD b default).1.lamHat i) →
      ∀ Q', Feasible TC Q' →
        errQ (tableOf P.c ((run P O).certs.getD b default).1.hs) (vec ((run P O).qs.getD b []))
          ≤ errQ TC Q' + 2 * (run P O).gaps.getD b 0 + EGGen.precision ∧
        (0 ≤ errQ (tableOf P.c ((run P O).certs.getD b default).1.hs) (vec ((run P O).qs.getD b [])) →
          errQ TC Q' ≤ 1 → ∀ j < P.c.length,
          gamQ (tableOf P.c ((run P O).certs.getD b default).1.hs) (vec ((run P O).qs.getD b [])) j - vec P.c j
            ≤ (1 + 2 * (run P O).gaps.getD b 0 + EGGen.precision) / P.B)) := by
  obtain ⟨hmem, hg, hq, h3⟩ := cert_at O TC hO b hb
  have h4 := (loop_inv O h P.maxIter).certs_nonneg hlpl _ hmem
  refine ⟨hg, hq, h3, ?_⟩
  intro hexact Q' hf
  rw [hg, hq]
  exact evalGap_guarantees P.ctx O.h TC hc hcc ha _ h3 _ _ _ (hO _) hexact h.B_pos
    (fun j _ => projLam_nonneg P.ctx _ h4 j) Q' hf

/-- **(3b) end to end**: as `loop_guarantees`, with the non-negativity of the certifying multiplier derived as in
    `loop_guarantees_explicit`.  What remains assumed is exactly what the property assumes: class-member answers and
    exactness of one oracle call. -/
theorem loop_guarantees_end_to_end {P : Params} (O : Oracles) (TC : Table) (h : LoopHyp P) (hc : TC.nC = P.c.length)
    (hcc : TC.c = vec P.c) (ha : AntiSym P.ctx TC) (hO : ∀ k, ∃ i, IsMember TC (O.h k) i)
    (hlpl : ∀ k, ∀ x ∈ (O.lp k).lam, 0 ≤ x) (b : Nat) (hb : bestIterOf (run P O) = some b) :
    ∃ c : Cert, (run P O).gaps.getD b 0 = certGap P O c ∧ (run P O).qs.getD b [] = c.Q ∧
      ((∀ i < TC.nH, storedValue c.lamHat (O.h c.k) ≤ classValue TC c.lamHat i) → ∀ Q', Feasible TC Q' →
        errQ (tableOf P.c c.hs) (vec ((run P O).qs.getD b []))
          ≤ errQ TC Q' + 2 * (run P O).gaps.getD b 0 + EGGen.precision ∧
        (0 ≤ errQ (tableOf P.c c.hs) (vec ((run P O).qs.getD b [])) → errQ TC Q' ≤ 1 → ∀ j < P.c.length,
          gamQ (tableOf P.c c.hs) (vec ((run P O).qs.getD b [])) j - vec P.c j
            ≤ (1 + 2 * (run P O).gaps.getD b 0 + EGGen.precision) / P.B)) := by
  obtain ⟨hg, hq, _, hrest⟩ := loop_guarantees_explicit O TC h hc hcc ha hO hlpl b hb
  exact ⟨_, hg, hq, hrest⟩

def slackX : Ctx := ⟨4, [1/10], false, 1/100⟩
def slackTC : Table := mkTable [1/2, 1/2 - 5/1000000000] [[0, 0]] [1/10]
/-- the `_PRECISION` slack is real: stored `h0` (value 1/2), oracle answers the true minimiser `h1` (value 1/2 - 5e-9);
    the improvement is below `_PRECISION`, `best_h` returns `h0`, and `eval_gap` reports gap `0` although the true
    duality gap of `(Q = h0, lambda = 0)` over the class `{h0, h1}` is `5e-9`. -/
theorem precision_slack_needed :
    (evalGap slackX (fun _ => ⟨1/2 - 5/1000000000, [0]⟩) [⟨1/2, [0]⟩] 0 [1] [0]).2.2.gap = 0 ∧
    classGap slackTC (projLam slackX [0]) (1/2) (1/2) = 5/1000000000 := by
  constructor <;> decide +kernel

/-! ### (3c) the `project_lambda` step inside `_eval` -/

/-- for a uniform non-negative bound and a mixture whose `-` constraint values are the negated `+` values (every
    UtilityParity moment with ratio 1), projecting a non-negative multiplier never lowers the Lagrangian of that `Q`:
    `L(Q, project(lambda)) >= L(Q, lambda)`; `L_high` does not depend on the multiplier, so the `L_high - L` half of the
    gap can only shrink, and by `project_preserves_best_response` the best responses are unchanged. -/
theorem project_raises_L (T : Table) (m : Nat) (c0 : Rat) (Q lam : Nat → Rat) (hn : T.nC = m + m) (hc0 : 0 ≤ c0)
    (hc : ∀ j < m + m, T.c j = c0) (hg : ∀ j < m, gamQ T Q (m + j) = -gamQ T Q j) (hl : ∀ j < m + m, 0 ≤ lam j) :
    lagr T Q lam ≤ lagr T Q (project m lam) ∧
    lHigh T B Q - lagr T Q (project m lam) ≤ lHigh T B Q - lagr T Q lam := by
  have key : lagr T Q lam ≤ lagr T Q (project m lam) := by
    rw [lagr_def, lagr_def]
    rw [sumTo_eq, sumTo_eq, hn]
    have e1 : ∀ l : Nat → Rat, ∑ j ∈ range (m + m), l j * viol T Q j
        = ∑ j ∈ range (m + m), l j * gamQ T Q j - c0 * ∑ j ∈ range (m + m), l j := by
      intro l
      rw [Finset.mul_sum, ← Finset.sum_sub_distrib]
      apply Finset.sum_congr rfl
      intro j hj
      rw [viol_def]
      rw [hc j (Finset.mem_range.mp hj)]; ring
    rw [e1 lam, e1 (project m lam), project_dot m lam (gamQ T Q) hg]
    exact add_le_add le_rfl (sub_le_sub_left (mul_le_mul_of_nonneg_left (Saddle.project_l1_le m lam hl) hc0) _)
  exact ⟨key, sub_le_sub_left key _⟩

/-! ### (3d) the lifted `_eval` / `eval_gap` / `fit` fragments the certificate depends on

Each statement below is about a definition that is computed with text LIFTED from the source on every run
(`Generated/EGGen.lean`, `EGLoopGen.lean`, `ProjectLambdaSrc.lean`); the closed form on the right is what all theorems of
this file use (through `Lemmas/Saddle.lean:lagr_def/viol_def/maxViol_def/src_posOf/src_negOf`,
`Lemmas/EGCert.lean:lowImproves_iff/argBetter_iff/projLam_def`, `Lemmas/EGLoop.lean:storeQ_fresh/meanCols_def`).  An edit of
the corresponding source line changes the generated text and the named theorem stops checking. -/

/-- `L = error + np.sum(lambda_vec * (gamma - self.constraints.bound()))` -/
theorem eval_L_lifted (T : Table) (Q lam : Nat → Rat) :
    lagr T Q lam = errQ T Q + ∑ j ∈ range T.nC, lam j * (gamQ T Q j - T.c j) := rfl

/-- `max_constraint = (gamma - self.constraints.bound()).max()`: an upper bound of every violation that is attained -/
theorem eval_max_constraint_lifted (T : Table) (Q : Nat → Rat) (h : 0 < T.nC) :
    (∀ j < T.nC, gamQ T Q j - T.c j ≤ maxViol T Q) ∧ ∃ j < T.nC, maxViol T Q = gamQ T Q j - T.c j :=
  ⟨viol_le_maxViol T Q, maxViol_attained T Q h⟩

/-- `if L_low_mul < result.L_low: result.L_low = L_low_mul`: `L_low` becomes the minimum of the two, `L` and `L_high`
    are untouched (with the comparison flipped `L_low` would be a running MAXIMUM and `gap_ge_true_gap` would fail) -/
theorem eval_gap_low_update_lifted (r : GapRes) (x : Rat) :
    (updLow r x).Llow = (if x < r.Llow then x else r.Llow) ∧ (updLow r x).L = r.L ∧ (updLow r x).Lhigh = r.Lhigh := by
  simp only [updLow, EGGen.lowImproves, decide_eq_true_eq]
  split <;> exact ⟨rfl, rfl, rfl⟩

/-- `_eval` computes `L` with the PROJECTED multiplier (the projection statement precedes `L = ...`), and the projection is
    the lifted `UtilityParity.project_lambda` for ratio 1: positive part of `λ⁺ − λ⁻` on the `+` half, of `λ⁻ − λ⁺` on the
    `-` half (`m` pairs); identity otherwise -/
theorem eval_projection_lifted (X : Ctx) (lam : List Rat) (j : Nat) :
    projLam X lam j =
      if X.ratioOne then
        (if j < X.c.length / 2 then Saddle.posPart (vec lam j - vec lam (j + X.c.length / 2))
         else Saddle.posPart (vec lam j - vec lam (j - X.c.length / 2)))
      else vec lam j := by
  rw [projLam_def]
  unfold projectIf project
  cases X.ratioOne
  · simp
  · simp only [if_true]
    split
    · rw [src_posOf]
    · rw [src_negOf]

/-- `best_idx = values.idxmin()`: scanning in index order, a later stored value replaces the current best only when it is
    strictly smaller (first minimum) -/
theorem best_h_scan_lifted (v : Rat) (vs : List Rat) (i bi : Nat) (bv : Rat) :
    argminFrom (v :: vs) i bi bv = if v < bv then argminFrom vs (i + 1) i v else argminFrom vs (i + 1) bi bv := by
  rw [argminFrom]
  simp only [EGLoopGen.argBetter, decide_eq_true_eq]

/-- `lambda_EG = self.lambda_vecs_EG_.mean(axis=1)` -/
theorem lambda_EG_lifted (n : Nat) (cols : List (List Rat)) :
    meanCols n cols = (List.range n).map (fun j => (cols.map (fun col => col.getD j 0)).sum / (cols.length : Rat)) :=
  meanCols_def n cols

/-- `last_gap = np.inf` before the loop: the first due regret check never shrinks `eta` -/
theorem last_gap_init_lifted (P : Params) : (initState P).lastGap = none := rfl

/-- **`Qs` holds the iterates, not aliases of one object**: one pass through the loop body appends exactly the
    distribution chosen in that pass and leaves every earlier entry of `Qs` as it was.  This needs the lifted data-flow
    fact `EGLoopGen.qsEntriesFresh` (`Q_EG` / `Q_LP` are re-bound to newly built objects in every pass and never updated
    in place); the seeded change C08a (`Q_EG *= t/(t+1)` in place) makes it `false`, the model's `storeQ` then rewrites
    the earlier EG entries — as Python would — and this theorem and `loop_guarantees*` no longer check. -/
theorem qs_entries_are_snapshots (P : Params) (s : State) (D : Decision) :
    (finish P s D).qs = s.qs ++ [D.q] := finish_qs P s D

/-- **`weights_` is the certified iterate**: `self.weights_ = Qs[self.best_iter_]` (lifted index `EGGen.weightsPick`)
    followed by the zero padding.  With `Qs[-1]` / `Qs[0]` in the source the index is another one and this fails. -/
theorem weights_are_certified_iterate (s : State) (b : Nat) (hb : bestIterOf s = some b) :
    weightsOf s = padTo s.hs.length (s.qs.getD b []) := by
  unfold weightsOf
  rw [hb]
  rfl

/-- zero padding is invisible to every mixture quantity (`vec` reads 0 beyond the end) -/
theorem vec_padTo (n : Nat) (q : List Rat) : vec (padTo n q) = vec q := by
  funext i
  unfold vec padTo
  rw [List.getD_eq_getElem?_getD, List.getD_eq_getElem?_getD]
  by_cases hi : i < q.length
  · rw [List.getElem?_append_left hi]
  · have hi' : q.length ≤ i := not_lt.mp hi
    rw [List.getElem?_append_right hi', List.getElem?_eq_none hi', List.getElem?_replicate]
    split <;> rfl

/-- **the certificate is about `weights_`** (not only about the list entry `Qs[best_iter_]`): `loop_guarantees_explicit`
    restated for `vec (weightsOf (run P O))`, the attribute the user gets -/
theorem loop_guarantees_weights {P : Params} (O : Oracles) (TC : Table) (h : LoopHyp P) (hc : TC.nC = P.c.length)
    (hcc : TC.c = vec P.c) (ha : AntiSym P.ctx TC) (hO : ∀ k, ∃ i, IsMember TC (O.h k) i)
    (hlpl : ∀ k, ∀ x ∈ (O.lp k).lam, 0 ≤ x) (b : Nat) (hb : bestIterOf (run P O) = some b) :
    vec (weightsOf (run P O)) = vec ((run P O).certs.getD b default).1.Q ∧
    ((∀ i < TC.nH, storedValue ((run P O).certs.getD b default).1.lamHat (O.h ((run P O).certs.getD b default).1.k)
          ≤ classValue TC ((run P O).certs.getD b default).1.lamHat i) →
      ∀ Q', Feasible TC Q' →
        errQ (tableOf P.c ((run P O).certs.getD b default).1.hs) (vec (weightsOf (run P O)))
          ≤ errQ TC Q' + 2 * (run P O).gaps.getD b 0 + EGGen.precision ∧
        (0 ≤ errQ (tableOf P.c ((run P O).certs.getD b default).1.hs) (vec (weightsOf (run P O))) →
          errQ TC Q' ≤ 1 → ∀ j < P.c.length,
          gamQ (tableOf P.c ((run P O).certs.getD b default).1.hs) (vec (weightsOf (run P O))) j - vec P.c j
            ≤ (1 + 2 * (run P O).gaps.getD b 0 + EGGen.precision) / P.B)) := by
  obtain ⟨_, hq, _, hrest⟩ := loop_guarantees_explicit O TC h hc hcc ha hO hlpl b hb
  have hw : vec (weightsOf (run P O)) = vec ((run P O).qs.getD b []) := by
    rw [weights_are_certified_iterate _ b hb, vec_padTo]
  refine ⟨by rw [hw, hq], ?_⟩
  intro hexact Q' hf
  rw [hw]
  exact hrest hexact Q' hf

/-! ### (4) the `best_h` cache -/

/-- the store is append-only; a classifier is appended exactly when the oracle's answer beats EVERY stored value at
    the multiplier asked by more than `_PRECISION` (so the values of successive additions, each under its own multiplier,
    strictly improve on everything stored before), and then it is the returned index -/
theorem best_h_store (hs : List Hyp) (lam : List Rat) (h : Hyp) :
    ((bestH hs lam h).1 = hs ∧ (bestH hs lam h).2 < hs.length) ∨
    ((bestH hs lam h).1 = hs ++ [h] ∧ (bestH hs lam h).2 = hs.length ∧
      ∀ g ∈ hs, storedValue lam h < storedValue lam g - EGGen.precision) := by
  rcases bestH_cases hs lam h with ⟨h1, h2⟩ | ⟨i, h1, h2, _⟩ <;> rw [h1]
  · exact Or.inr ⟨rfl, rfl, h2⟩
  · exact Or.inl ⟨rfl, h2⟩

/-- the returned index always refers to a stored classifier, whose `h_value` at the multiplier asked is within
    `_PRECISION` of the oracle's answer and minimal over the store -/
theorem best_h_returned (hs : List Hyp) (lam : List Rat) (h : Hyp) :
    (bestH hs lam h).2 < (bestH hs lam h).1.length ∧
    storedValue lam ((bestH hs lam h).1.getD (bestH hs lam h).2 default) ≤ storedValue lam h + EGGen.precision ∧
    ∀ g ∈ (bestH hs lam h).1,
      storedValue lam ((bestH hs lam h).1.getD (bestH hs lam h).2 default) ≤ storedValue lam g :=
  ⟨bestH_idx_lt hs lam h, (bestH_value hs lam h).1, (bestH_value hs lam h).2⟩

end Cert

/-! Non-vacuity for the loop: a 2-constraint run with a positive "exponential", two oracle answers. -/
def exP : EGLoop.Params := ⟨4, 2, 1/100, 3, false, true, [1/10, 1/10], fun x => 1 + x * x⟩
def exO : EGLoop.Oracles := ⟨fun k => if k % 2 = 0 then ⟨0, [1/2, -1/2]⟩ else ⟨1/2, [0, 0]⟩, fun _ => default⟩
example : LoopHyp exP := ⟨by decide +kernel, fun x => add_pos_of_pos_of_nonneg one_pos (mul_self_nonneg x), by decide +kernel⟩
example : (EGLoop.run exP exO).t = 3 := by decide +kernel
example : (EGLoop.run exP exO).lamCols.head? = some [4/3, 4/3] := by decide +kernel
example : ((EGLoop.run exP exO).qs.getD 2 []).sum = 1 := by decide +kernel
example : (EGLoop.run exP exO).certs.length = 3 := by decide +kernel

/-! Non-vacuity for the LP theorems on the table `exT` (B = 4): `(Q, t) = (1/5, 4/5, 0)` and `(lambda, mu) = (1, 0, 2/5)`
    are feasible with equal objectives `2/5`, hence both optimal by `lp_weak_duality`. -/
example : LinProg.primalFeasible exT [1/5, 4/5, 0] = true := by decide +kernel
example : LinProg.dualFeasible exT 4 [1, 0, 2/5] = true := by decide +kernel
example : LinProg.primalObj exT 4 [1/5, 4/5, 0] = 2/5 ∧ LinProg.dualObj exT [1, 0, 2/5] = -(2/5) := by
  constructor <;> decide +kernel
example : LinProg.primalFeasible exT [1, 0, 0] = false := by decide +kernel
example : LinProg.Aub exT = [[2/5, -1/10, -1], [-3/5, -1/10, -1]] := by decide +kernel

/-! ### ONE non-trivial input meeting ALL hypotheses of `loop_guarantees_explicit` (hence of `loop_guarantees`,
`loop_guarantees_end_to_end`, `loop_certificate`, `evalGap_guarantees`, `evalGap_saddle_point`, `classGap_le_evalGap_gap`,
`evalGap_gap_le_classGap`) at once: the class is `exT` = {h0 accurate/unfair, h1 fair}, ratio 1 (projection active,
`AntiSym` needed), 6 iterations, a positive INCREASING stand-in for exp, oracle answers h0 for the first 8 calls and h1
afterwards (all class members; NOT all exact), both classifiers get stored, the returned iterate is the last one with
`weights_ = (2/3, 1/3)`, and the one call that matters (call 11, at mul = 1 of the certifying eval_gap) IS exact. -/
section R2
open EGLoop

def r2e (x : Rat) : Rat := if 0 ≤ x then 1 + x else 1 / (1 - x)
def r2P : EGLoop.Params := ⟨4, 2, 1/100, 6, false, true, [1/10, 1/10], r2e⟩
def r2O : EGLoop.Oracles := ⟨fun k => if k < 8 then ⟨0, [1/2, -1/2]⟩ else ⟨1/2, [0, 0]⟩, fun _ => ⟨[], []⟩⟩

theorem r2e_pos (x : Rat) : 0 < r2e x := by
  unfold r2e
  split
  · next h => exact add_pos_of_pos_of_nonneg one_pos h
  · next h => exact div_pos one_pos (sub_pos.mpr ((not_le.mp h).trans one_pos))

theorem r2_loopHyp : LoopHyp r2P := ⟨by decide +kernel, r2e_pos, by decide +kernel⟩

theorem r2_antiSym : AntiSym r2P.ctx exT := fun _ => ⟨rfl, by decide +kernel⟩

theorem r2_members : ∀ k, ∃ i, IsMember exT (r2O.h k) i := by
  intro k
  by_cases hk : k < 8
  · refine ⟨0, ?_⟩
    simp only [r2O, hk, if_true]
    unfold IsMember
    decide +kernel
  · refine ⟨1, ?_⟩
    simp only [r2O, hk, if_false]
    unfold IsMember
    decide +kernel

theorem r2_lp_nonneg : ∀ k, ∀ x ∈ (r2O.lp k).lam, 0 ≤ x := by intro k x hx; simp [r2O] at hx

theorem r2_best : EGLoop.bestIterOf (EGLoop.run r2P r2O) = some 5 := by decide +kernel

/-- the run is not degenerate: mixed weights over two stored classifiers, positive gap, the certifying call is call 11 -/
example : (EGLoop.run r2P r2O).qs.getD 5 [] = [2/3, 1/3] ∧ (EGLoop.run r2P r2O).hs.length = 2 ∧
    (EGLoop.run r2P r2O).gaps.getD 5 0 = 134261057798/194692209525 ∧
    ((EGLoop.run r2P r2O).certs.getD 5 default).1.k = 11 ∧ (EGLoop.run r2P r2O).calls = 12 := by decide +kernel

/-- the exactness hypothesis of the certifying call holds (h1 is the best response at that multiplier: 1/2 < 0.5223) -/
theorem r2_exact : ∀ i < exT.nH,
    EGLoop.storedValue ((EGLoop.run r2P r2O).certs.getD 5 default).1.lamHat
        (r2O.h ((EGLoop.run r2P r2O).certs.getD 5 default).1.k)
      ≤ EGLoop.classValue exT ((EGLoop.run r2P r2O).certs.getD 5 default).1.lamHat i := by decide +kernel

/-- … and the theorem applies: error(weights_) ≤ error(exQ) + 2·best_gap_ + _PRECISION for the feasible `exQ` -/
example : errQ (EGLoop.tableOf r2P.c ((EGLoop.run r2P r2O).certs.getD 5 default).1.hs)
      (vec ((EGLoop.run r2P r2O).qs.getD 5 []))
    ≤ errQ exT exQ + 2 * (EGLoop.run r2P r2O).gaps.getD 5 0 + EGGen.precision := by
  have h := loop_guarantees_explicit r2O exT r2_loopHyp rfl rfl r2_antiSym r2_members r2_lp_nonneg 5 r2_best
  exact (h.2.2.2 r2_exact exQ exQ_feasible).1

/-! the same class with the LINEAR-PROGRAMMING step switched on: the hypothesis `hlp` of `loop_Q_prob`,
`loop_weights_prob`, `loop_weights_padded_prob` (every LP answer is a probability vector — for ALL indices, also the
ones the run never asks for) and `hlpl` of the guarantee theorems are met; the LP iterate is chosen at t = 4, the cache
is hit at t = 2, 3 and 5, the returned `weights_ = (1/5, 4/5)` is the exact constrained optimum with `best_gap_ = 0`, and the
error guarantee is TIGHT up to `_PRECISION`: 2/5 ≤ 2/5 + 2·0 + 1e-8. -/
def r2Plp : EGLoop.Params := { r2P with runLP := true }
def r2Olp : EGLoop.Oracles := ⟨r2O.h, fun k => if k = 0 then ⟨[1], [0, 0]⟩ else ⟨[1/5, 4/5], [1, 0]⟩⟩

theorem r2lp_loopHyp : LoopHyp r2Plp := ⟨by decide +kernel, r2e_pos, by decide +kernel⟩

theorem r2lp_isProb : ∀ k, IsProb (r2Olp.lp k).Q := by
  intro k
  by_cases hk : k = 0
  · simp only [r2Olp, hk, if_true]; exact ⟨by decide +kernel, by decide +kernel⟩
  · simp only [r2Olp, hk, if_false]; exact ⟨by decide +kernel, by decide +kernel⟩

theorem r2lp_lam_nonneg : ∀ k, ∀ x ∈ (r2Olp.lp k).lam, 0 ≤ x := by
  intro k
  by_cases hk : k = 0
  · simp only [r2Olp, hk, if_true]; decide +kernel
  · simp only [r2Olp, hk, if_false]; decide +kernel

theorem r2lp_best : bestIterOf (run r2Plp r2Olp) = some 5 := by decide +kernel

example : (run r2Plp r2Olp).fromLP = [false, false, false, false, true, true] ∧ (run r2Plp r2Olp).lpCalls = 2 ∧
    (run r2Plp r2Olp).cacheHits = 3 ∧ (run r2Plp r2Olp).gaps.getD 5 0 = 0 ∧
    weightsOf (run r2Plp r2Olp) = [1/5, 4/5] := by decide +kernel

/-- `loop_weights_padded_prob` applied: the fitted `weights_` is a probability vector -/
example : IsProb (weightsOf (run r2Plp r2Olp)) :=
  loop_weights_padded_prob r2Olp r2lp_loopHyp r2lp_isProb (by rw [r2lp_best]; simp)

theorem r2lp_exact : ∀ i < exT.nH,
    storedValue ((run r2Plp r2Olp).certs.getD 5 default).1.lamHat (r2Olp.h ((run r2Plp r2Olp).certs.getD 5 default).1.k)
      ≤ classValue exT ((run r2Plp r2Olp).certs.getD 5 default).1.lamHat i := by decide +kernel

/-- `loop_guarantees_explicit` applied to the LP iterate: the bound is tight up to `_PRECISION` -/
example : errQ (tableOf r2Plp.c ((run r2Plp r2Olp).certs.getD 5 default).1.hs) (vec ((run r2Plp r2Olp).qs.getD 5 [])) = 2/5 ∧
    errQ exT exQ + 2 * (run r2Plp r2Olp).gaps.getD 5 0 + EGGen.precision = 2/5 + EGGen.precision ∧
    errQ (tableOf r2Plp.c ((run r2Plp r2Olp).certs.getD 5 default).1.hs) (vec ((run r2Plp r2Olp).qs.getD 5 []))
      ≤ errQ exT exQ + 2 * (run r2Plp r2Olp).gaps.getD 5 0 + EGGen.precision := by
  have h := loop_guarantees_explicit r2Olp exT r2lp_loopHyp rfl rfl r2_antiSym r2_members r2lp_lam_nonneg 5 r2lp_best
  exact ⟨by decide +kernel, by decide +kernel, (h.2.2.2 r2lp_exact exQ exQ_feasible).1⟩

/-- non-vacuity of `loop_early_stop` (and of the early-stop clause): with a budget of 8 the LP-enabled run above leaves after 6
    iterations — the break is taken at t = 5 = _MIN_ITER with gap 0 < nu -/
def r2Plp8 : EGLoop.Params := { r2Plp with maxIter := 8 }
theorem r2lp8_loopHyp : LoopHyp r2Plp8 := ⟨by decide +kernel, r2e_pos, by decide +kernel⟩
example : (run r2Plp8 r2Olp).t = 6 ∧ (run r2Plp8 r2Olp).t < r2Plp8.maxIter ∧ (run r2Plp8 r2Olp).done = true ∧
    bestIterOf (run r2Plp8 r2Olp) = some 5 ∧ (run r2Plp8 r2Olp).gaps.getD 5 0 = 0 ∧ r2Plp8.nu = 1/100 := by decide +kernel
example : ∃ b, bestIterOf (run r2Plp8 r2Olp) = some b ∧ (run r2Plp8 r2Olp).gaps.getD b 0 < r2Plp8.nu :=
  (loop_early_stop r2Olp r2lp8_loopHyp (by decide +kernel)).2.2

/-- non-vacuity of `project_raises_L` / `project_preserves_best_response`: `exT` has m = 1, uniform bound 1/10, and every
    mixture has antisymmetric constraint values; the multiplier (3, 1) projects to (2, 0) and L rises from 1/5 to 2/5 -/
example : exT.nC = 1 + 1 ∧ (0 : Rat) ≤ 1/10 ∧ (∀ j < 1 + 1, exT.c j = 1/10) ∧
    (∀ j < 1, gamQ exT exQ (1 + j) = -gamQ exT exQ j) ∧ (∀ j < 1 + 1, 0 ≤ vec [3, 1] j) ∧
    lagr exT exQ (vec [3, 1]) = 1/5 ∧ lagr exT exQ (project 1 (vec [3, 1])) = 2/5 := by
  exact ⟨rfl, by norm_num, by decide +kernel, by decide +kernel, by decide +kernel, by decide +kernel, by decide +kernel⟩

end R2

end C08
