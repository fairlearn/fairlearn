/-
C18 — bootstrap intervals are reproducible, ordered and shaped like the estimates.
Helper lemmas live in `Lemmas/Bootstrap.lean`, `Lemmas/BootstrapSrc.lean`.

The random number generator is an INPUT of the model (`idxs`: for every bootstrap sample the list
of row positions it drew); "identical across runs with the same random_state" is therefore the
statement that every `*_ci` value is a function of (rows, idxs, quantiles) — which it is by
construction (`Bootstrap.ci` is a Lean function) — plus the harness's replay of the seed stream.
The statistical reading of "the resamples differ" is outside the model (partial, see the check).

CLAUSE → THEOREM TABLE (property text of properties.jsonl, clause by clause)
  1 "every *_ci result is a list with one entry per requested quantile"
        ci_length, ci_length_and_order (`Ordered qs l` contains `l.length = qs.length`), src_ci_length_and_order
  2 "each with the same type, columns … as the corresponding point estimate"
        pandas glue, NOT in the model: lifted flags only (src_order_and_shape: entry i = row i of the quantile array
        with name/columns/index of the first aligned sample) + harness relations C18.ci_type / ci_columns / ci_index
  3 "… and (for groups that occur in at least one resample) index as the point estimate"
        ci_shape (index ⊆ point-estimate index; every drawn group is in it),
        ci_index_eq_point_estimate (equality with the point estimate's index once every group is drawn),
        ci_index_may_be_smaller (witness that the parenthesis of the clause is needed)
  4 "entries are element-wise non-decreasing in the quantile"
        quantile_mono, ci_length_and_order, src_quantile_mono, src_ci_length_and_order
        (NaN entries: NaN at one quantile iff NaN at all — `XRle` — see nan_skipped_in_frames / nan_propagates_in_series)
  5 "identical across runs with the same integer random_state"
        PARTIAL BY NATURE: `ci` is a function of (rows, idxs, qs); src_seed_stream (per-sample seed i from a stream of
        n_boot entries derived from random_state); that numpy/pandas RNGs are deterministic is trusted; harness
        relation C18.same_seed (two builds, bitwise equal) and C18.replay (spy metric)
  6 "every resample draws exactly n rows with replacement from the n data rows"
        src_draw_count, src_resample_shape, src_with_replacement, resample_has_n_rows
  7 "the overall row count is n at every quantile"
        count_is_n, src_count_is_n
  8 "a metric that is constant over the rows has all quantiles equal to the point estimate"
        constant_metric_all_quantiles (row-ignoring metric), constant_statistic_all_quantiles (any column),
        resample_constant_metric_all_quantiles (ANY metric taking the value v on every drawn resample),
        identical_rows_all_quantiles (ANY metric on n identical rows — equals the point estimate)
  9 "for data on which the metric varies the resamples differ"
        PARTIAL BY NATURE (behaviour of the RNG): observed per case (tag varying_samples); not a theorem
 10 "so a wide quantile pair encloses an interval of positive width around the resampling mean"
        nonconstant_gives_width (positive width, explicit meaning of "wide"), mean_strictly_between_min_max,
        extreme_pair_encloses_mean (Q(0) ≤ mean ≤ Q(1)).  For quantiles strictly inside (0,1) "encloses the mean"
        is FALSE as a statement about numpy's quantile: wide_pair_need_not_enclose_mean (witness
        [0,0,0,100], q = 1/10, 7/10: Q(7/10) = 10 < 25 = mean; replayed with np.quantile).  Only the positive width
        is checked by the harness (C18.nonconstant_gives_width).

TOTALISATION NOTES
  * `quantileSorted` uses `getD _ 0` and `k - 1 : Nat`: every theorem about it carries `xs ≠ []` and `0 ≤ q ≤ 1`
    (then both indices are < k, lemma `interp_bounds`); the driver refuses empty lists and q outside the range
    (`bad-op`), the real code raises on q outside [0,1] (`np.quantile`: "Quantiles must be in the range [0, 1]").
  * `mean xs = sum / length`: only used with a member `a ∈ xs` / `xs ≠ []`.
  * `ci … = none` (position out of range, metric error, infinite sample value) is OUTSIDE the model; every theorem
    about `ci` assumes `= some c`, the driver prints `unsupported` and the check reports that as a harness error —
    it is never silently skipped.  Examples below show `some` is reached on non-trivial inputs.
  * `lookupKey` returns NaN when the key is missing (= pandas reindex NaN fill — intended, not a default).
-/
import FairModel.Lemmas.Bootstrap
import FairModel.Lemmas.BootstrapSrc

namespace C18
open BaseMetrics Weights Bootstrap

/-! ### 1. numpy's linear quantile of the bootstrap sample values -/

/-- entries are non-decreasing in the quantile: any non-empty list, any 0 ≤ q₁ ≤ q₂ ≤ 1 -/
theorem quantile_mono (xs : List Rat) (hne : xs ≠ []) (q1 q2 : Rat) (h0 : 0 ≤ q1) (h12 : q1 ≤ q2)
    (h1 : q2 ≤ 1) : quantileLinear xs q1 ≤ quantileLinear xs q2 :=
  quantileLinear_mono xs hne q1 q2 h0 h12 h1

/-- a statistic that is the same in every resample has every quantile equal to that value -/
theorem quantile_const (xs : List Rat) (hne : xs ≠ []) (c : Rat) (hc : ∀ x ∈ xs, x = c)
    (q : Rat) (q0 : 0 ≤ q) (q1 : q ≤ 1) : quantileLinear xs q = c :=
  quantileLinear_const xs hne c hc q q0 q1

/-- every quantile lies between two of the sample values, hence between their min and max -/
theorem quantile_between_min_max (xs : List Rat) (hne : xs ≠ []) (q : Rat) (q0 : 0 ≤ q) (q1 : q ≤ 1) :
    (∃ a ∈ xs, ∃ b ∈ xs, a ≤ quantileLinear xs q ∧ quantileLinear xs q ≤ b) ∧
    (∀ lo hi : Rat, (∀ x ∈ xs, lo ≤ x ∧ x ≤ hi) → lo ≤ quantileLinear xs q ∧ quantileLinear xs q ≤ hi) :=
  ⟨quantileLinear_mem_bounds xs hne q q0 q1, fun lo hi hb => quantileLinear_between xs hne q q0 q1 lo hi hb⟩

/-! ### 2. every `*_ci` result: one entry per quantile, ordered like the quantiles -/

/-- `overall_ci`, each row of `by_group_ci`, `group_min_ci`, `group_max_ci`, `difference_ci` and
    `ratio_ci` (both methods) have exactly one entry per requested quantile, and entry i ≤ entry j
    whenever qᵢ ≤ qⱼ (both NaN, or both finite and ordered) — for any data, metric, resamples. -/
theorem ci_length_and_order (skip : Bool) (m : BMetric) (rows : List WRow) (idxs : List (List Nat))
    (qs : List Rat) (hq : ∀ q ∈ qs, 0 ≤ q ∧ q ≤ 1) (c : CI) (h : ci skip m rows idxs qs = some c) :
    Ordered qs c.overall ∧ c.byGroup.length = c.keys.length ∧ (∀ row ∈ c.byGroup, Ordered qs row) ∧
    Ordered qs c.gmin ∧ Ordered qs c.gmax ∧ Ordered qs c.diffBetween ∧ Ordered qs c.diffOverall ∧
    Ordered qs c.ratioBetween ∧ Ordered qs c.ratioOverall := by
  obtain ⟨samples, _, hk, e1, e2, e3, e4, e5, e6, e7, e8⟩ := ci_fields skip m rows idxs qs c h
  have ord : ∀ {s xs l}, ciOf s xs qs = some l → Ordered qs l := fun e => ciOf_ordered _ _ _ hq _ e
  refine ⟨ord e1, ?_, ?_, ord e3, ord e4, ord e5, ord e6, ord e7, ord e8⟩
  · rw [hk]; exact (mapM_some_get _ _ _ e2).1
  · intro row hrow
    obtain ⟨key, _, hkey⟩ := mapM_some_mem _ _ _ e2 row hrow
    exact ord hkey

theorem ci_length (skip : Bool) (m : BMetric) (rows : List WRow) (idxs : List (List Nat))
    (qs : List Rat) (hq : ∀ q ∈ qs, 0 ≤ q ∧ q ≤ 1) (c : CI) (h : ci skip m rows idxs qs = some c) :
    c.overall.length = qs.length ∧ (∀ row ∈ c.byGroup, row.length = qs.length) ∧
    c.gmin.length = qs.length ∧ c.gmax.length = qs.length ∧ c.diffBetween.length = qs.length ∧
    c.diffOverall.length = qs.length ∧ c.ratioBetween.length = qs.length ∧
    c.ratioOverall.length = qs.length := by
  obtain ⟨a, _, b, c1, c2, c3, c4, c5, c6⟩ := ci_length_and_order skip m rows idxs qs hq c h
  exact ⟨a.1, fun row hr => (b row hr).1, c1.1, c2.1, c3.1, c4.1, c5.1, c6.1⟩

/-! ### 3. shape: the index of `by_group_ci` -/

/-- only groups of the data occur in the index; a group hit by at least one resample does occur -/
theorem ci_shape (skip : Bool) (m : BMetric) (rows : List WRow) (idxs : List (List Nat)) (qs : List Rat)
    (c : CI) (h : ci skip m rows idxs qs = some c) :
    (∀ key ∈ c.keys, key ∈ keys rows) ∧
    (∀ idx ∈ idxs, ∀ i ∈ idx, ∀ r, rows[i]? = some r → r.g ∈ c.keys) := by
  obtain ⟨samples, hs, hk, _⟩ := ci_fields skip m rows idxs qs c h
  rw [hk]
  constructor
  · intro key hkey
    obtain ⟨f, hf, hkey⟩ := mem_ciKeys.1 hkey
    obtain ⟨idx, _, hsf⟩ := mapM_some_mem _ idxs samples hs _ hf
    obtain ⟨rs, hp, _, hfr⟩ := sampleFrame_some _ _ _ _ hsf
    rw [(frameOf_fields _ _ _ hfr).1] at hkey
    obtain ⟨r, hr, hg⟩ := mem_keys.1 hkey
    exact mem_keys.2 ⟨r, pick_subset rows idx rs hp r hr, hg⟩
  · intro idx hidx i hi r hr
    obtain ⟨s, hs', hsf⟩ := mapM_some_of_mem _ idxs samples hs idx hidx
    cases s with
    | none => rw [sampleFrame_none _ _ _ hsf] at hi; cases hi
    | some f =>
      obtain ⟨rs, hp, _, hf⟩ := sampleFrame_some _ _ _ _ hsf
      obtain ⟨r', hr', e⟩ := mapM_some_of_mem _ idx rs hp i hi
      rw [hr] at e
      cases e
      exact mem_ciKeys.2 ⟨f, hs', by rw [(frameOf_fields _ _ _ hf).1]; exact mem_keys.2 ⟨r, hr', rfl⟩⟩

/-- when every group of the data is drawn by at least one resample, the index of `by_group_ci` IS the
    index of the point estimate (`(frameOf m rows).keys = keys rows`, lemma `frameOf_fields`) — same order, no
    duplicates. -/
theorem ci_index_eq_point_estimate (skip : Bool) (m : BMetric) (rows : List WRow) (idxs : List (List Nat))
    (qs : List Rat) (c : CI) (h : ci skip m rows idxs qs = some c)
    (hall : ∀ key ∈ keys rows, ∃ idx ∈ idxs, ∃ i ∈ idx, ∃ r, rows[i]? = some r ∧ r.g = key) :
    c.keys = keys rows ∧ (∀ f, frameOf m rows = .ok f → c.keys = f.keys) := by
  obtain ⟨samples, _, hk, _⟩ := ci_fields skip m rows idxs qs c h
  obtain ⟨h1, h2⟩ := ci_shape skip m rows idxs qs c h
  have e : c.keys = keys rows := sorted_ext _ _ (hk ▸ sorted_uniqueSorted _) (sorted_uniqueSorted _)
    (fun x => ⟨h1 x, fun hx => by obtain ⟨idx, hidx, i, hi, r, hr, hg⟩ := hall x hx; exact hg ▸ h2 idx hidx i hi r hr⟩)
  exact ⟨e, fun f hf => by rw [(frameOf_fields m rows f hf).1]; exact e⟩

/-- vacuity: both groups of these four rows are drawn by the three resamples, all hypotheses hold at once -/
example : ∃ c, ci false (.w (.sel 1)) [⟨0, 1, 1, 1, 1⟩, ⟨1, 0, 0, 0, 1⟩, ⟨1, 1, 0, 0, 1⟩, ⟨0, 0, 1, 1, 1⟩]
      [[0, 1, 1, 3], [2, 2, 0, 0], [3, 3, 3, 3]] [1/10, 9/10] = some c ∧ c.keys = [0, 1] ∧
    keys [⟨0, 1, 1, 1, 1⟩, ⟨1, 0, 0, 0, 1⟩, ⟨1, 1, 0, 0, 1⟩, ⟨0, 0, 1, 1, 1⟩] = [0, 1] := by decide +kernel

/-- the parenthesis "(for groups that occur in at least one resample)" is needed: a group that no
    resample draws is missing from the `by_group_ci` index although it is in the point estimate's index. -/
theorem ci_index_may_be_smaller :
    (ci false .count [⟨0, 1, 1, 1, 1⟩, ⟨1, 0, 0, 0, 1⟩] [[0, 0], [0, 0]] [1/2]).map (·.keys) = some [0] ∧
    keys [⟨0, 1, 1, 1, 1⟩, ⟨1, 0, 0, 0, 1⟩] = [0, 1] := by decide +kernel

/-! ### 4. statistics that are constant over the resamples; every resample has exactly n rows -/

/-- any statistic taking the same finite value in every resample -/
theorem constant_statistic_all_quantiles (skip : Bool) (xs : List XR) (hne : xs ≠ []) (v : Rat)
    (hc : ∀ x ∈ xs, x = .fin v) (qs : List Rat) (hq : ∀ q ∈ qs, 0 ≤ q ∧ q ≤ 1) (l : List XR)
    (h : ciOf skip xs qs = some l) : ∀ x ∈ l, x = .fin v := by
  intro x hx
  obtain ⟨q, hqm, hqv⟩ := mapM_some_mem _ qs l h x hx
  rw [quantileXR_const skip xs hne v hc q (hq q hqm).1 (hq q hqm).2] at hqv
  exact (Option.some.inj hqv).symm

/-- clause 8 at full strength — ANY metric (selection rate, TPR, count, …) that takes the finite value `v`
    on every resample that is actually drawn has every overall quantile equal to `v`.  (`hlen`: a resample of n ≥ 1
    rows is non-empty; `constant_metric_all_quantiles` is the special case of a metric that ignores its rows.) -/
theorem resample_constant_metric_all_quantiles (skip : Bool) (m : BMetric) (v : Rat) (rows : List WRow)
    (idxs : List (List Nat)) (hne : idxs ≠ []) (hlen : ∀ idx ∈ idxs, idx ≠ [])
    (hv : ∀ idx ∈ idxs, ∀ rs, pick rows idx = some rs → rs ≠ [] → evalB m rs = .ok v)
    (qs : List Rat) (hq : ∀ q ∈ qs, 0 ≤ q ∧ q ≤ 1) (c : CI) (h : ci skip m rows idxs qs = some c) :
    ∀ x ∈ c.overall, x = .fin v := by
  obtain ⟨samples, hs, _, e1, _⟩ := ci_fields skip _ rows idxs qs c h
  have hne' : column fOverall samples ≠ [] := fun e => hne (List.length_eq_zero_iff.mp (by
    rw [← (mapM_some_get _ idxs samples hs).1, ← List.length_map (as := samples), ← column, e]; rfl))
  refine constant_statistic_all_quantiles skip _ hne' _ (fun x hx => ?_) qs hq _ e1
  -- every entry of the column comes from a drawn, non-empty resample
  obtain ⟨s, hs', rfl⟩ := List.mem_map.mp hx
  obtain ⟨idx, hidx, hsf⟩ := mapM_some_mem _ idxs samples hs s hs'
  cases s with
  | none => exact absurd (sampleFrame_none _ _ _ hsf) (hlen idx hidx)
  | some f =>
    obtain ⟨rs, hp, hrs, hf⟩ := sampleFrame_some _ _ _ _ hsf
    have h1 := (frameOf_fields _ _ _ hf).2
    rw [hv idx hidx rs hp hrs] at h1
    cases h1
    rfl

/-- a metric that is constant over the rows: all quantiles equal the point estimate -/
theorem constant_metric_all_quantiles (skip : Bool) (v : Rat) (rows : List WRow)
    (idxs : List (List Nat)) (hne : idxs ≠ []) (hlen : ∀ idx ∈ idxs, idx ≠ []) (qs : List Rat)
    (hq : ∀ q ∈ qs, 0 ≤ q ∧ q ≤ 1) (c : CI) (h : ci skip (.const v) rows idxs qs = some c) :
    evalB (.const v) rows = .ok v ∧ ∀ x ∈ c.overall, x = .fin v :=
  ⟨rfl, resample_constant_metric_all_quantiles skip _ v rows idxs hne hlen (fun _ _ _ _ _ => rfl) qs hq c h⟩

/-- a resample of n positions has n rows, all of them rows of the data -/
theorem resample_has_n_rows (rows : List WRow) (idx : List Nat) (rs : List WRow)
    (h : pick rows idx = some rs) : rs.length = idx.length ∧ ∀ r ∈ rs, r ∈ rows :=
  ⟨pick_length rows idx rs h, pick_subset rows idx rs h⟩

/-- every resample has n rows, so `count`'s overall CI is n at every quantile -/
theorem count_is_n (skip : Bool) (rows : List WRow) (idxs : List (List Nat)) (n : Nat) (hn : 0 < n)
    (hne : idxs ≠ []) (hlen : ∀ idx ∈ idxs, idx.length = n) (qs : List Rat)
    (hq : ∀ q ∈ qs, 0 ≤ q ∧ q ≤ 1) (c : CI) (h : ci skip .count rows idxs qs = some c) :
    ∀ v ∈ c.overall, v = .fin (n : Rat) :=
  resample_constant_metric_all_quantiles skip .count n rows idxs hne (fun idx hi => ne_nil_of_length_eq hn (hlen idx hi))
    (fun idx hi rs hp _ => by rw [← hlen idx hi, ← pick_length rows idx rs hp]; rfl) qs hq c h

/-- n identical rows — whatever the metric, every resample of n positions is the data itself, so every
    overall quantile equals the POINT ESTIMATE `evalB m rows`. -/
theorem identical_rows_all_quantiles (skip : Bool) (m : BMetric) (r : WRow) (n : Nat) (hn : 0 < n)
    (idxs : List (List Nat)) (hne : idxs ≠ []) (hlen : ∀ idx ∈ idxs, idx.length = n) (v : Rat)
    (hpt : evalB m (List.replicate n r) = .ok v)
    (qs : List Rat) (hq : ∀ q ∈ qs, 0 ≤ q ∧ q ≤ 1) (c : CI) (h : ci skip m (List.replicate n r) idxs qs = some c) :
    ∀ x ∈ c.overall, x = .fin v := by
  refine resample_constant_metric_all_quantiles skip m v _ idxs hne
    (fun idx hi => ne_nil_of_length_eq hn (hlen idx hi)) (fun idx hi rs hp _ => ?_) qs hq c h
  have e : rs = List.replicate n r := List.eq_replicate_iff.2
    ⟨by rw [pick_length _ idx rs hp, hlen idx hi], fun x hx => List.eq_of_mem_replicate (pick_subset _ idx rs hp x hx)⟩
  rw [e]; exact hpt

/-- vacuity for the two theorems above: 3 identical rows (label 1, prediction 1), selection rate, two resamples with
    repetitions; all hypotheses hold, the CI exists, and its entries are the point estimate 1 -/
example : (0 < 3) ∧ ([[0, 0, 2], [1, 2, 2]] : List (List Nat)) ≠ [] ∧
    (∀ idx ∈ ([[0, 0, 2], [1, 2, 2]] : List (List Nat)), idx.length = 3) ∧
    evalB (.w (.sel 1)) (List.replicate 3 ⟨0, 1, 1, 1, 1⟩) = .ok 1 ∧
    (ci false (.w (.sel 1)) (List.replicate 3 ⟨0, 1, 1, 1, 1⟩) [[0, 0, 2], [1, 2, 2]] [1/10, 9/10]).map (·.overall) =
      some [.fin 1, .fin 1] := by decide +kernel

/-- a metric that is constant on the resamples without the rows being identical: all predictions are 1, labels and
    groups vary; selection rate is 1 on every resample -/
example : (ci false (.w (.sel 1)) [⟨0, 1, 1, 1, 1⟩, ⟨1, 0, 1, 1, 1⟩, ⟨1, 1, 1, 1, 2⟩] [[0, 1, 1], [2, 2, 0]] [1/4, 3/4]).map
    (·.overall) = some [.fin 1, .fin 1] := by decide +kernel

/-! ### 5. non-constant samples give an interval of positive width -/

/-- k sample values that are not all equal: a pair with `q_lo·(k−1) < 1`, `q_hi·(k−1) > k−2` and
    `q_lo < q_hi` has strictly increasing quantiles.  (That the resampled values of a varying
    metric *are* non-constant is the statistical part; the harness checks it on the replayed
    resamples.) -/
theorem nonconstant_gives_width (xs : List Rat) (a b : Rat) (ha : a ∈ xs) (hb : b ∈ xs) (hab : a < b)
    (qlo qhi : Rat) (h0 : 0 ≤ qlo) (h1 : qhi ≤ 1) (hlt : qlo < qhi)
    (hlo : qlo * ((xs.length : Rat) - 1) < 1) (hhi : (xs.length : Rat) - 2 < qhi * ((xs.length : Rat) - 1)) :
    quantileLinear xs qlo < quantileLinear xs qhi := by
  have hs := sortR_sorted xs
  -- min ≤ a < b ≤ max, so there are at least two elements
  have hmM := lt_of_le_of_lt (sorted_getD_zero_le _ hs a ((mem_sortR a xs).mpr ha))
    (lt_of_lt_of_le hab (sorted_le_getD_last _ hs b ((mem_sortR b xs).mpr hb)))
  rw [sortR_length] at hmM
  obtain ⟨k, hk⟩ : ∃ k, xs.length = k + 2 := Nat.exists_eq_add_of_le' (Nat.lt_of_sub_pos
    (Nat.pos_of_ne_zero fun e => by rw [e] at hmM; exact lt_irrefl _ hmM))
  have hc : xs.length - 1 = k + 1 := by rw [hk]; rfl
  have e2 : (xs.length : Rat) - 2 = k := by rw [hk, Nat.cast_add, Nat.cast_ofNat, add_sub_cancel_right]
  have e1 : (xs.length : Rat) - 1 = k + 1 := by rw [← e2]; ring
  rw [e1, mul_comm] at hlo hhi
  rw [e2] at hhi
  have k1 : (0 : Rat) < (k : Rat) + 1 := Nat.cast_add_one_pos k
  rw [quantileLinear_eq, quantileLinear_eq, hc, Nat.cast_succ]
  rw [hc] at hmM
  exact interp_first_cell_lt_last_cell _ hs k (by rw [sortR_length, hk]) hmM _ _ (mul_nonneg k1.le h0) hlo
    (mul_lt_mul_of_pos_left hlt k1) hhi (mul_le_of_le_one_right k1.le h1)

/-- ... and the resampling mean lies strictly inside (min, max), the limit of wide quantile pairs -/
theorem mean_strictly_between_min_max (xs : List Rat) (lo hi : Rat) (hb : ∀ x ∈ xs, lo ≤ x ∧ x ≤ hi)
    (a b : Rat) (ha : a ∈ xs) (hb' : b ∈ xs) (hla : lo < a) (hbh : b < hi) :
    lo < mean xs ∧ mean xs < hi :=
  ⟨lt_mean xs lo (fun x hx => (hb x hx).1) a ha hla, mean_lt xs hi (fun x hx => (hb x hx).2) b hb' hbh⟩

/-- the widest pair, q = 0 and q = 1 (min and max of the resampled values), always encloses the resampling
    mean … -/
theorem extreme_pair_encloses_mean (xs : List Rat) (hne : xs ≠ []) :
    quantileLinear xs 0 ≤ mean xs ∧ mean xs ≤ quantileLinear xs 1 :=
  ⟨le_mean xs hne _ (quantileLinear_zero_le xs), mean_le xs hne _ (le_quantileLinear_one xs)⟩

/-- … but for quantiles strictly inside (0,1) "a wide pair encloses the mean" is FALSE of numpy's linear
    quantile, even under all the width hypotheses of `nonconstant_gives_width`: resampled values 0,0,0,100 and the pair
    (1/10, 7/10) give the interval [0, 10] of positive width, the mean is 25.  (`np.quantile([0,0,0,100],[.1,.7])` =
    `[0., 10.]`, `np.mean` = 25.0 — replayed on numpy 2.5.)  The clause is therefore kept as: positive width (theorem)
    + mean strictly inside (min, max) (theorem) + enclosure at the extreme pair (theorem). -/
theorem wide_pair_need_not_enclose_mean :
    ∃ (xs : List Rat) (a b qlo qhi : Rat), a ∈ xs ∧ b ∈ xs ∧ a < b ∧ 0 ≤ qlo ∧ qhi ≤ 1 ∧ qlo < qhi ∧
      qlo * ((xs.length : Rat) - 1) < 1 ∧ (xs.length : Rat) - 2 < qhi * ((xs.length : Rat) - 1) ∧
      quantileLinear xs qlo < quantileLinear xs qhi ∧ quantileLinear xs qhi < mean xs :=
  ⟨[0, 0, 0, 100], 0, 100, 1/10, 7/10, by decide +kernel⟩

/-- vacuity of `nonconstant_gives_width`: ALL its hypotheses at once on a 4-sample column (both order statistics cells
    are interior: h_lo = 3/10 ∈ cell 0, h_hi = 27/10 ∈ the last cell) -/
example : (1 : Rat) ∈ ([3, 1, 2, 10] : List Rat) ∧ (10 : Rat) ∈ ([3, 1, 2, 10] : List Rat) ∧ (1 : Rat) < 10 ∧
    (0 : Rat) ≤ 1/10 ∧ (9/10 : Rat) ≤ 1 ∧ (1/10 : Rat) < 9/10 ∧
    (1/10 : Rat) * ((([3, 1, 2, 10] : List Rat).length : Rat) - 1) < 1 ∧
    ((([3, 1, 2, 10] : List Rat).length : Rat) - 2) < (9/10 : Rat) * ((([3, 1, 2, 10] : List Rat).length : Rat) - 1) ∧
    quantileLinear [3, 1, 2, 10] (1/10) = 13/10 ∧ quantileLinear [3, 1, 2, 10] (9/10) = 79/10 := by decide +kernel

/-- vacuity of `mean_strictly_between_min_max` (all hypotheses, non-constant list) -/
example : (∀ x ∈ ([3, 1, 2, 10] : List Rat), (1 : Rat) ≤ x ∧ x ≤ 10) ∧ (3 : Rat) ∈ ([3, 1, 2, 10] : List Rat) ∧
    (2 : Rat) ∈ ([3, 1, 2, 10] : List Rat) ∧ (1 : Rat) < 3 ∧ (2 : Rat) < 10 ∧ mean [3, 1, 2, 10] = 4 := by decide +kernel

/-! ### Non-vacuity: concrete inputs meeting the hypotheses, evaluated by the kernel. -/

example : quantileLinear [3, 1, 2, 10] (9/10) = 79/10 := by decide +kernel
example : quantileLinear [3, 1, 2, 10] (1/10) < quantileLinear [3, 1, 2, 10] (9/10) := by decide +kernel
example : (1 / 10 : Rat) * (((([3, 1, 2, 10] : List Rat).length : Nat) : Rat) - 1) < 1 := by norm_num
example : quantileLinear [5, 5, 5] (1/3) = 5 := by decide +kernel
/-- the virtual index hits both branches (interior cell, last cell) -/
example : quantileLinear [4, 8] 1 = 8 ∧ quantileLinear [4, 8] (1/2) = 6 ∧ quantileLinear [7] (1/2) = 7 := by decide +kernel

def exRows : List WRow := [⟨0, 1, 1, 1, 1⟩, ⟨1, 0, 0, 0, 1⟩, ⟨1, 1, 0, 0, 1⟩, ⟨0, 0, 1, 1, 1⟩]
def exIdxs : List (List Nat) := [[0, 1, 1, 3], [2, 2, 0, 0], [3, 3, 3, 3]]
/-- selection rate: the third resample misses group 1, its by_group entry is NaN and skipped -/
example : (ci false (.w (.sel 1)) exRows exIdxs [1/10, 9/10]).map (·.overall) =
    some [.fin (1/2), .fin (9/10)] := by decide +kernel
example : (ci false (.w (.sel 1)) exRows exIdxs [1/10, 9/10]).map (·.keys) = some [0, 1] := by decide +kernel
example : (ci false .count exRows exIdxs [1/10, 9/10]).map (·.overall) = some [.fin 4, .fin 4] := by
  decide +kernel
example : (ci false (.const 7) exRows exIdxs [1/10, 1/2]).map (·.overall) = some [.fin 7, .fin 7] := by
  decide +kernel
/-- vacuity of `count_is_n`, `ci_length_and_order`, `ci_length`, `ci_shape`, `constant_metric_all_quantiles`: ALL
    hypotheses at once on 4 rows / 2 groups / both labels / 3 resamples with repetitions / 2 quantiles -/
example : (0 < 4) ∧ exIdxs ≠ [] ∧ (∀ idx ∈ exIdxs, idx.length = 4) ∧ (∀ idx ∈ exIdxs, idx ≠ []) ∧
    (∀ q ∈ ([1/10, 9/10] : List Rat), 0 ≤ q ∧ q ≤ 1) ∧
    (ci false .count exRows exIdxs [1/10, 9/10]).isSome = true ∧
    (ci true (.w (.sel 1)) exRows exIdxs [1/10, 9/10]).isSome = true ∧
    (ci false (.const 7) exRows exIdxs [1/10, 9/10]).isSome = true := by decide +kernel
/-- … and the by-group table of that case is not degenerate: two rows, group 1 absent from the third resample -/
example : (ci false (.w (.sel 1)) exRows exIdxs [1/10, 9/10]).map (·.byGroup) =
    some [[.fin 1, .fin 1], [.fin 0, .fin 0]] := by decide +kernel
/-- a ratio that is 0/0 in one resample makes `np.quantile` (no control features) return NaN -/
example : (ci false (.w (.sel 1)) [⟨0, 1, 0, 0, 1⟩, ⟨0, 1, 1, 1, 1⟩] [[0, 0], [1, 0]] [1/2]).map (·.ratioBetween) =
    some [.nan] := by decide +kernel

/-! ### 6. the same clauses for the model PARAMETRISED BY THE SOURCE

`Generated/BootstrapSrc.lean` is rewritten from the Python `ast` of `_bootstrap.py` / `_metric_frame.py` on every run
(harness/lifters/bootstrap.py): the `data.sample(..)` keywords, the seed of sample i, the loop count, which numpy
quantile function with which method / axis / `q=` each path calls, how entry i of a `*_ci` list is assembled, and
that every accessor receives `ci_quantiles` unchanged.  `Model/BootstrapSrc.lean` builds `ciSrc`, `drawCount`,
`validResample`, `seedIndex`, `loopCount` from those values.  The theorems below hold for the values lifted from the
current tree; an edit of the source changes the generated file and re-checks (or breaks) them. -/

section Src
open BootstrapSrc Generated.BootstrapSrc

/-- `data.sample(frac=1, ..)`: a resample of n rows draws exactly n positions -/
theorem src_draw_count (n : Nat) : drawCount n = n := by
  have h : drawSize = .frac 1 := rfl
  rw [drawCount, h]
  simp only [one_mul]
  exact roundHalfEven_nat n

/-- … with replacement: every list of n positions below n — repetitions allowed — is a possible resample,
    and nothing else is -/
theorem src_resample_shape (n : Nat) (idx : List Nat) :
    validResample n idx = true ↔ (idx.length = n ∧ ∀ i ∈ idx, i < n) := by
  have hr : sampleReplace = true := rfl
  simp only [validResample, src_draw_count, hr, Bool.true_or, Bool.and_true, Bool.and_eq_true, beq_iff_eq,
    List.all_eq_true, decide_eq_true_eq]

theorem src_with_replacement : sampleReplace = true ∧ validResample 3 [0, 0, 2] = true := by decide +kernel

/-- `n_boot` resamples are drawn, the seed stream has `n_boot` entries derived from the user's `random_state`,
    and resample i is seeded with entry i (distinct resamples use distinct entries) -/
theorem src_seed_stream (B i j : Nat) :
    loopCount B = B ∧ seedIndex i = some i ∧ (seedIndex i = seedIndex j → i = j) ∧
    seedStreamSizeIsNSamples = true ∧ nSamplesIsNBoot = true ∧ randomStatePassed = true := by
  refine ⟨loopCount_eq_self B, rfl, ?_, rfl, rfl, rfl⟩
  intro h; rw [seedIndex_eq_some_self, seedIndex_eq_some_self] at h; exact Option.some.inj h

/-- the Series path calls `np.quantile`, the DataFrame path `np.nanquantile`, both with numpy's default method
    'linear' along the sample axis: the lifted quantile IS the modelled one -/
theorem src_quantile_is_linear (frame : Bool) (xs : List XR) (q : Rat) :
    quantileXRsrc frame xs q = quantileXR frame xs q ∧ seriesAxis = 0 ∧ frameAxis = 0 :=
  ⟨quantileXRsrc_eq frame xs q, rfl, rfl⟩

/-- the requested quantiles reach numpy in the order given at every call site, entry i of every `*_ci` list is row i
    of the quantile array, shaped (name / columns / index) like the first aligned sample, and all six accessors are
    filled -/
theorem src_order_and_shape (qs : List Rat) :
    qsUsed seriesQOrder qs = qs ∧ qsUsed frameQOrder qs = qs ∧
    quantileArgs.all (· == "ci_quantiles") = true ∧ quantileArgs.length = 5 ∧
    seriesShapeFromFirstSample = true ∧ frameShapeFromFirstSample = true ∧ frameAligned = true ∧
    ciAccessors = ["by_group_ci", "difference_ci", "group_max_ci", "group_min_ci", "overall_ci", "ratio_ci"] := by
  exact ⟨rfl, rfl, by decide +kernel, rfl, rfl, rfl, rfl, rfl⟩

/-- the whole `*_ci` computation assembled from the lifted pieces is the modelled one -/
theorem src_ci_eq (frame : Bool) (m : BMetric) (rows : List WRow) (idxs : List (List Nat)) (qs : List Rat) :
    ciSrc frame m rows idxs qs = ci frame m rows idxs qs := by
  unfold ciSrc ci
  rw [ciOfSrc_eq, byGroupCISrc_eq]
  -- what is left of `ciSrc` differs from `ci` by the guard `!frameAligned && ..`, which evaluates to `false`
  rfl

theorem src_quantile_mono (xs : List Rat) (hne : xs ≠ []) (q1 q2 : Rat) (h0 : 0 ≤ q1) (h12 : q1 ≤ q2)
    (h1 : q2 ≤ 1) : quantileBy seriesMethod xs q1 ≤ quantileBy seriesMethod xs q2 ∧
      quantileBy frameMethod xs q1 ≤ quantileBy frameMethod xs q2 :=
  ⟨quantileLinear_mono xs hne q1 q2 h0 h12 h1, quantileLinear_mono xs hne q1 q2 h0 h12 h1⟩

theorem src_ci_length_and_order (frame : Bool) (m : BMetric) (rows : List WRow) (idxs : List (List Nat))
    (qs : List Rat) (hq : ∀ q ∈ qs, 0 ≤ q ∧ q ≤ 1) (c : CI) (h : ciSrc frame m rows idxs qs = some c) :
    Ordered qs c.overall ∧ c.byGroup.length = c.keys.length ∧ (∀ row ∈ c.byGroup, Ordered qs row) ∧
    Ordered qs c.gmin ∧ Ordered qs c.gmax ∧ Ordered qs c.diffBetween ∧ Ordered qs c.diffOverall ∧
    Ordered qs c.ratioBetween ∧ Ordered qs c.ratioOverall := by
  rw [src_ci_eq] at h; exact ci_length_and_order frame m rows idxs qs hq c h

/-- every resample the lifted `data.sample` call can produce has n rows, so `count`'s overall CI is n -/
theorem src_count_is_n (frame : Bool) (rows : List WRow) (idxs : List (List Nat)) (hn : 0 < rows.length)
    (hne : idxs ≠ []) (hv : ∀ idx ∈ idxs, validResample rows.length idx = true) (qs : List Rat)
    (hq : ∀ q ∈ qs, 0 ≤ q ∧ q ≤ 1) (c : CI) (h : ciSrc frame .count rows idxs qs = some c) :
    ∀ v ∈ c.overall, v = .fin (rows.length : Rat) := by
  rw [src_ci_eq] at h
  exact count_is_n frame rows idxs rows.length hn hne
    (fun idx hi => ((src_resample_shape _ idx).mp (hv idx hi)).1) qs hq c h

example : (ciSrc false (.w (.sel 1)) exRows exIdxs [9/10, 1/10]).map (·.overall) =
    some [.fin (9/10), .fin (1/2)] := by decide +kernel
example : exIdxs.all (validResample exRows.length) = true := by decide +kernel
/-- vacuity of `src_count_is_n` / `src_ci_length_and_order`: all hypotheses at once -/
example : (0 < exRows.length) ∧ exIdxs ≠ [] ∧ (∀ idx ∈ exIdxs, validResample exRows.length idx = true) ∧
    (∀ q ∈ ([9/10, 1/10] : List Rat), 0 ≤ q ∧ q ≤ 1) ∧
    (ciSrc true .count exRows exIdxs [9/10, 1/10]).map (·.overall) = some [.fin 4, .fin 4] := by decide +kernel
/-- vacuity of `src_quantile_mono` -/
example : ([3, 1, 2, 10] : List Rat) ≠ [] ∧ quantileBy seriesMethod [3, 1, 2, 10] (1/10) = 13/10 ∧
    quantileBy frameMethod [3, 1, 2, 10] (9/10) = 79/10 := by decide +kernel

end Src

/-! ### 7. NaN handling and entry-wise independence (control features, several metrics) -/

/-- what the code does with a group that is absent from some resamples: `by_group_ci` (and everything when control
    features are present) goes through `np.nanquantile`, i.e. the quantile of the values of the resamples in which the
    group occurs; only a group absent from EVERY resample gives NaN … -/
theorem nan_skipped_in_frames (xs : List XR) (q : Rat) :
    quantileXR true xs q = quantileXR true (xs.filter (fun x => !isNaN x)) q ∧
    ((∀ x ∈ xs, x = .nan) → quantileXR true xs q = some .nan) ∧
    (∀ l : List Rat, l ≠ [] → finOnly (xs.filter (fun x => !isNaN x)) = some l →
      quantileXR true xs q = some (.fin (quantileLinear l q))) := by
  have e : ∀ ys, quantileXR true ys q = quantileSkip ys q := fun _ => rfl
  simp only [e, quantileSkip, List.filter_filter, Bool.and_self]
  refine ⟨trivial, fun h => ?_, fun l hne hf => ?_⟩
  · rw [List.filter_eq_nil_iff.2 (fun x hx => by rw [h x hx]; exact Bool.false_ne_true)]; rfl
  · rw [hf, if_neg (fun h0 => hne (by rw [List.isEmpty_iff.1 h0] at hf; cases hf; rfl))]; rfl

/-- … whereas the Series path (`overall_ci` and the aggregates without control features) uses `np.quantile`:
    one NaN resample value (e.g. a 0/0 ratio in one resample) makes the entry NaN at every quantile -/
theorem nan_propagates_in_series (xs : List XR) (h : XR.nan ∈ xs) (q : Rat) : quantileXR false xs q = some .nan := by
  have hne : xs.isEmpty = false := by cases xs <;> simp_all
  have hany : xs.any isNaN = true := List.any_eq_true.mpr ⟨.nan, h, rfl⟩
  simp [quantileXR, quantileProp, hne, hany]

/-- the per-level computation is the resampled frame filtered by control level: picking the restricted positions
    from the rows of level L gives the level-L rows of the resample, in drawing order -/
theorem level_resample_is_filtered_resample (L : Nat) (tr : List TRow) (idx : List Nat) (h : ∀ i ∈ idx, i < tr.length) :
    pick (levelRows L tr) (restrict L tr idx) = some (levelRows L (idx.filterMap (fun i => tr[i]?))) := by
  induction idx with
  | nil => rfl
  | cons i rest ih =>
    have hr := ih (fun j hj => h j (List.mem_cons_of_mem _ hj))
    obtain ⟨p, hp⟩ : ∃ p, tr[i]? = some p := ⟨_, List.getElem?_eq_getElem (h i List.mem_cons_self)⟩
    rw [restrict_cons L tr i rest p hp, List.filterMap_cons_some hp, levelRows_cons]
    by_cases hL : p.1 = L
    · rw [if_pos hL, if_pos hL, pick, List.mapM_cons, levelRows_rank L tr i _ hp hL]
      rw [pick] at hr
      rw [hr]; rfl
    · rw [if_neg hL, if_neg hL]; exact hr

/-- no cross-talk between control levels: changing rows of OTHER levels (labels, predictions, weights, groups) does
    not change any `*_ci` entry of level L -/
theorem no_cross_talk_between_levels (L : Nat) (m : BMetric) (tr1 tr2 : List TRow)
    (htags : tr1.map (fun p => p.1) = tr2.map (fun p => p.1))
    (hrows : ∀ (i : Nat) (p q : TRow), tr1[i]? = some p → tr2[i]? = some q → p.1 = L → p.2 = q.2)
    (idxs : List (List Nat)) (qs : List Rat) : ciAt L m tr1 idxs qs = ciAt L m tr2 idxs qs := by
  have hlev : levelRows L tr1 = levelRows L tr2 := by
    induction tr1 generalizing tr2 with
    | nil => cases tr2 with
      | nil => rfl
      | cons _ _ => cases htags
    | cons a t ih => cases tr2 with
      | nil => cases htags
      | cons b u =>
        rw [List.map_cons, List.map_cons, List.cons.injEq] at htags
        rw [levelRows_cons, levelRows_cons, ← htags.1, ih u htags.2 (fun i p q hp hq => hrows (i + 1) p q hp hq)]
        by_cases ha : a.1 = L
        · rw [if_pos ha, if_pos ha, hrows 0 a b rfl rfl ha]
        · rw [if_neg ha, if_neg ha]
  unfold ciAt
  rw [hlev]
  congr 1
  exact List.map_congr_left (fun idx _ => by rw [restrict_eq_tags, restrict_eq_tags, htags])

/-- no cross-talk between metrics / levels of one frame: entry (i, j) of the frame's CI table is the CI of metric i at
    level j alone — adding, removing or changing other metrics of the dict or other levels does not change it -/
theorem frame_entrywise (ms : List BMetric) (levels : List Nat) (tr : List TRow) (idxs : List (List Nat)) (qs : List Rat)
    (i j : Nat) (hi : i < ms.length) (hj : j < levels.length) :
    ((ciFrame ms levels tr idxs qs)[i]?).bind (·[j]?) = some (ciAt levels[j] ms[i] tr idxs qs) := by
  simp [ciFrame, hi, hj]

example : ciAt 1 (.w (.sel 1)) [(0, ⟨0, 1, 1, 1, 1⟩), (1, ⟨0, 0, 1, 1, 1⟩), (1, ⟨1, 1, 0, 0, 1⟩)] [[2, 0, 1], [1, 1, 0]] [1/2] =
    ci true (.w (.sel 1)) [⟨0, 0, 1, 1, 1⟩, ⟨1, 1, 0, 0, 1⟩] [[1, 0], [0, 0]] [1/2] := by decide +kernel

/-! ### vacuity witnesses for the control-feature / NaN theorems of section 7 -/

/-- vacuity of `no_cross_talk_between_levels`: two data sets with the same control tags that differ ONLY in a row of
    level 0 (label, prediction and group changed) — all hypotheses hold, and the level-1 CI is the same -/
def ctA : List TRow := [(0, ⟨0, 1, 1, 1, 1⟩), (1, ⟨0, 0, 1, 1, 1⟩), (1, ⟨1, 1, 0, 0, 1⟩)]
def ctB : List TRow := [(0, ⟨1, 0, 0, 0, 1⟩), (1, ⟨0, 0, 1, 1, 1⟩), (1, ⟨1, 1, 0, 0, 1⟩)]
example : ctA.map (fun p => p.1) = ctB.map (fun p => p.1) := by decide +kernel
theorem ct_rows : ∀ (i : Nat) (p q : TRow), ctA[i]? = some p → ctB[i]? = some q → p.1 = 1 → p.2 = q.2 := by
  intro i p q h1 h2 hL
  match i, h1, h2 with
  | 0, h1, _ => cases h1; cases hL
  | 1, h1, h2 => cases h1; cases h2; rfl
  | 2, h1, h2 => cases h1; cases h2; rfl
  | _ + 3, h1, _ => cases h1
example : ciAt 1 (.w (.sel 1)) ctA [[2, 0, 1], [1, 1, 0]] [1/2] = ciAt 1 (.w (.sel 1)) ctB [[2, 0, 1], [1, 1, 0]] [1/2] :=
  no_cross_talk_between_levels 1 (.w (.sel 1)) ctA ctB (by decide +kernel) ct_rows _ _
/-- … and it is a statement with content: level 0 DOES change -/
example : ciAt 0 (.w (.sel 1)) ctA [[2, 0, 1], [1, 1, 0]] [1/2] ≠ ciAt 0 (.w (.sel 1)) ctB [[2, 0, 1], [1, 1, 0]] [1/2] := by
  decide +kernel
/-- vacuity of `level_resample_is_filtered_resample`: positions in range, level 1 hit twice by [2, 0, 1] -/
example : (∀ i ∈ ([2, 0, 1] : List Nat), i < ctA.length) ∧ restrict 1 ctA [2, 0, 1] = [1, 0] ∧
    pick (levelRows 1 ctA) (restrict 1 ctA [2, 0, 1]) = some [⟨1, 1, 0, 0, 1⟩, ⟨0, 0, 1, 1, 1⟩] := by decide +kernel
/-- vacuity of `nan_skipped_in_frames` (third clause) and `nan_propagates_in_series` on the same column -/
example : finOnly (([.fin 1, .nan, .fin 3] : List XR).filter (fun x => !isNaN x)) = some [1, 3] ∧
    quantileXR true [.fin 1, .nan, .fin 3] (1/2) = some (.fin 2) ∧
    quantileXR false [.fin 1, .nan, .fin 3] (1/2) = some .nan := by decide +kernel

end C18
