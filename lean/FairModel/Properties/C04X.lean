/-
C04X — composition theorems C04 ↔ C06: the rule fitted by `ThresholdOptimizer` satisfies the matching reduction
moment EXACTLY on its training data.

For `constraints = "demographic_parity"` / `"selection_rate_parity"`, `"true_positive_rate_parity"`,
`"false_positive_rate_parity"` and `"equalized_odds"`: take the training rows of all groups as rows of the
moment (`Cross.thrRows names groups`: label, group name, no control feature) and the fitted rule's EXPECTED
predictions `P(pred = 1 | score, group)` as prediction vector (`Cross.thrPred fit.rules groups`).  Then every
entry of `DemographicParity.gamma` / `TruePositiveRateParity.gamma` / `FalsePositiveRateParity.gamma` /
`EqualizedOdds.gamma` (difference form, ratio 1) is exactly 0 — hence (C06X) the constraint holds with slack 0
and the expected group rates all coincide with the expected overall rate.

Corollaries of `C04.parity_simple` / `C04.parity_EO` + the mixing step `Cross.mE_eq_of_groups_eq` (overall rate =
frequency-weighted mean of the group rates) + the dictionary `Cross.meanOn_thr`.
Any number of groups / rows, any grid size `N ≥ 1`, any objective, `flip`, and any forced grid index.
-/
import FairModel.Lemmas.CrossThreshold
import FairModel.Properties.C06X

namespace C04
open Threshold ThresholdGen Cross Moments

/-- simple constraints, generic in the constrained metric `xm` and the moment kind `k`: `e0` is the only event of
    the moment on these rows, it selects the rows whose label satisfies `L`, and `xm` on expected confusion counts is
    the mean over those rows.  Then every observed (event, group) mean of the fitted rule's expected predictions is
    the common value `gridVal N fit.iBest` (hence so is the event mean, and gamma vanishes) -/
theorem threshold_simple_parity (k : Kind) (xm : Metric) (L : Bool → Bool) (e0 : String)
    (hx : IsConstraintMetric xm)
    (hm : ∀ (prob : Rat → Rat) (g : List Threshold.Row), thrMean L prob g = xm.eval (expCM prob g))
    (hev : ∀ r : Moments.Row, r.c = none → (r.y = 0 ∨ r.y = 1) →
      (∀ e, eventOf k r = some e → e = e0) ∧ inE (eventOf k) e0 r = L (r.y == 1))
    (flip : Bool) (ym : Metric) (N : Nat) (names : List String) (groups : List (List Threshold.Row))
    (force : Option Nat) (fit : Fit) (hN : 1 ≤ N) (hnd : names.Nodup)
    (hfit : fitSimple flip xm ym N groups force = some fit) :
    fit.rules.length = groups.length ∧
    ∀ e g, Observed (eventOf k) (thrRows names groups) e g →
      meanOn (inEG (eventOf k) e g) (thrRows names groups) (thrPred fit.rules groups) = gridVal N fit.iBest := by
  obtain ⟨_, _, hrl, hpar⟩ := parity_simple flip xm ym N groups force fit hN hx hfit
  refine ⟨hrl, fun e g hobs => thr_parity _ names groups fit.rules (fun _ => gridVal N fit.iBest) hnd hrl ?_ hobs⟩
  intro e ⟨r0, hr0, he0⟩
  obtain ⟨hc0, hy0⟩ := thrRows_shape hr0
  obtain rfl : e = e0 := (hev r0 hc0 hy0).1 e he0
  refine ⟨L, fun r hr => ?_, fun j hj hj' _ => ?_⟩
  · obtain ⟨hc, hy⟩ := thrRows_shape hr
    exact (hev r hc hy).2
  · rw [hm]
    exact (hpar j hj hj').1

theorem threshold_simple_gamma_zero (k : Kind) (xm : Metric) (L : Bool → Bool) (e0 : String)
    (hx : IsConstraintMetric xm)
    (hm : ∀ (prob : Rat → Rat) (g : List Threshold.Row), thrMean L prob g = xm.eval (expCM prob g))
    (hev : ∀ r : Moments.Row, r.c = none → (r.y = 0 ∨ r.y = 1) →
      (∀ e, eventOf k r = some e → e = e0) ∧ inE (eventOf k) e0 r = L (r.y == 1))
    (flip : Bool) (ym : Metric) (N : Nat) (names : List String) (groups : List (List Threshold.Row))
    (force : Option Nat) (fit : Fit) (hN : 1 ≤ N) (hnd : names.Nodup) (hl : names.length = groups.length)
    (hfit : fitSimple flip xm ym N groups force = some fit) :
    ∀ key ∈ index (eventOf k) (thrRows names groups),
      gammaAt (eventOf k) (thrRows names groups) 1 defaultUtil (thrPred fit.rules groups) key = 0 := by
  obtain ⟨hrl, hpar⟩ := threshold_simple_parity k xm L e0 hx hm hev flip ym N names groups force fit hN hnd hfit
  exact thr_gamma_zero_of_parity _ names groups fit.rules _ hl hrl hpar

/-- the single event of demographic parity on rows without control value -/
theorem dp_event_of_no_control (r : Moments.Row) (hc : r.c = none) :
    (∀ e, eventOf .dp r = some e → e = MomentsSrc.allEvent) ∧
      inE (eventOf .dp) MomentsSrc.allEvent r = true := by
  rw [dp_event_selects, eventOf_of_no_control .dp r hc, hc]
  exact ⟨fun e he => (Option.some.inj he).symm, rfl⟩

/-- … and of a rule conditioned on the label class `c` (`.where(y_train == c)`) -/
theorem label_event_of_no_control (k : Kind) (c : Int)
    (hk : ∀ r, baseEvent k r = if r.y = c then some (MomentsSrc.labelEvent r.y) else none)
    (r : Moments.Row) (hc : r.c = none) (e : String) (he : eventOf k r = some e) : e = MomentsSrc.labelEvent c := by
  rw [eventOf_of_no_control k r hc, hk] at he
  split at he
  · next h => rw [← h]; exact (Option.some.inj he).symm
  · cases he

/-- **ThresholdOptimizer(constraints="demographic_parity" / "selection_rate_parity") ⇒
    DemographicParity.gamma = 0 entrywise** on the training rows, for the fitted rule's expected predictions -/
theorem threshold_dp_gamma_zero (flip : Bool) (ym : Metric) (N : Nat) (names : List String)
    (groups : List (List Threshold.Row)) (force : Option Nat) (fit : Fit) (hN : 1 ≤ N) (hnd : names.Nodup)
    (hl : names.length = groups.length)
    (hfit : fitSimple flip .selection_rate ym N groups force = some fit) :
    ∀ key ∈ index (eventOf .dp) (thrRows names groups),
      gammaAt (eventOf .dp) (thrRows names groups) 1 defaultUtil (thrPred fit.rules groups) key = 0 := by
  exact threshold_simple_gamma_zero .dp .selection_rate (fun _ => true) MomentsSrc.allEvent (by decide +kernel)
    thrMean_selection_rate (fun r hc _ => dp_event_of_no_control r hc) flip ym N names groups force fit hN hnd hl hfit

/-- **ThresholdOptimizer(constraints="true_positive_rate_parity") ⇒ TruePositiveRateParity.gamma = 0** -/
theorem threshold_tpr_gamma_zero (flip : Bool) (ym : Metric) (N : Nat) (names : List String)
    (groups : List (List Threshold.Row)) (force : Option Nat) (fit : Fit) (hN : 1 ≤ N) (hnd : names.Nodup)
    (hl : names.length = groups.length)
    (hfit : fitSimple flip .true_positive_rate ym N groups force = some fit) :
    ∀ key ∈ index (eventOf .tpr) (thrRows names groups),
      gammaAt (eventOf .tpr) (thrRows names groups) 1 defaultUtil (thrPred fit.rules groups) key = 0 := by
  exact threshold_simple_gamma_zero .tpr .true_positive_rate (fun b => b) (MomentsSrc.labelEvent 1) (by decide +kernel)
    thrMean_true_positive_rate
    (fun r hc _ => ⟨label_event_of_no_control .tpr 1 (fun _ => rfl) r hc, by rw [tpr_inE_nocontrol, hc]; rfl⟩)
    flip ym N names groups force fit hN hnd hl hfit

/-- **ThresholdOptimizer(constraints="false_positive_rate_parity") ⇒ FalsePositiveRateParity.gamma = 0** -/
theorem threshold_fpr_gamma_zero (flip : Bool) (ym : Metric) (N : Nat) (names : List String)
    (groups : List (List Threshold.Row)) (force : Option Nat) (fit : Fit) (hN : 1 ≤ N) (hnd : names.Nodup)
    (hl : names.length = groups.length)
    (hfit : fitSimple flip .false_positive_rate ym N groups force = some fit) :
    ∀ key ∈ index (eventOf .fpr) (thrRows names groups),
      gammaAt (eventOf .fpr) (thrRows names groups) 1 defaultUtil (thrPred fit.rules groups) key = 0 := by
  exact threshold_simple_gamma_zero .fpr .false_positive_rate (fun b => !b) (MomentsSrc.labelEvent 0) (by decide +kernel)
    thrMean_false_positive_rate
    (fun r hc hy => ⟨label_event_of_no_control .fpr 0 (fun _ => rfl) r hc,
      by rcases hy with h | h <;> rw [fpr_inE_nocontrol, hc, h] <;> rfl⟩)
    flip ym N names groups force fit hN hnd hl hfit

/-- **ThresholdOptimizer(constraints="equalized_odds") ⇒ EqualizedOdds.gamma = 0 entrywise**: every group's
    expected TPR is `y_best` and expected FPR is `x_best`, hence so are the overall ones (mixing) -/
theorem threshold_eo_gamma_zero (flip : Bool) (obj : Metric) (N : Nat) (names : List String)
    (groups : List (List Threshold.Row)) (force : Option Nat) (fit : Fit) (yBest : Rat) (hN : 1 ≤ N)
    (hnd : names.Nodup) (hl : names.length = groups.length)
    (hfit : fitEO flip obj N groups force = some (fit, yBest)) :
    ∀ key ∈ index (eventOf .eo) (thrRows names groups),
      gammaAt (eventOf .eo) (thrRows names groups) 1 defaultUtil (thrPred fit.rules groups) key = 0 := by
  obtain ⟨_, _, hrl, hpar⟩ := parity_EO flip obj N groups force fit yBest hN hfit
  apply thr_gamma_zero_of_parity (eventOf .eo) names groups fit.rules _ hl hrl
  intro e g hobs
  refine thr_parity _ names groups fit.rules
    (fun e => if e = MomentsSrc.labelEvent 1 then yBest else gridVal N fit.iBest) hnd hrl ?_ hobs
  intro e ⟨r0, hr0, he0⟩
  obtain ⟨hc0, hy0⟩ := thrRows_shape hr0
  rw [eventOf_of_no_control .eo r0 hc0] at he0
  obtain rfl : MomentsSrc.labelEvent r0.y = e := Option.some.inj he0
  rcases hy0 with h0 | h0 <;> rw [h0]
  · -- the event of the negatives: FPR
    refine ⟨fun b => !b, fun r hr => ?_, fun j hj hj' _ => ?_⟩
    · obtain ⟨hc, hy⟩ := thrRows_shape hr
      rcases hy with h | h <;> rw [eo_inE_nocontrol r 0 (Or.inl rfl), hc, h] <;> rfl
    · rw [thrMean_false_positive_rate, if_neg (by decide +kernel)]
      exact (hpar j hj hj').1
  · refine ⟨fun b => b, fun r hr => ?_, fun j hj hj' _ => ?_⟩
    · rw [eo_inE_nocontrol r 1 (Or.inr rfl), (thrRows_shape hr).1]; rfl
    · rw [thrMean_true_positive_rate, if_pos rfl]
      exact (hpar j hj hj').2.1

/-- corollary in the vocabulary of C06X: the fitted rule satisfies the moment's constraint with slack 0 (and
    with every slack `eps ≥ 0`), so all of C06X's bounds apply to its expected predictions with `eps = 0` -/
theorem threshold_dp_constraint_satisfied (flip : Bool) (ym : Metric) (N : Nat) (names : List String)
    (groups : List (List Threshold.Row)) (force : Option Nat) (fit : Fit) (hN : 1 ≤ N) (hnd : names.Nodup)
    (hl : names.length = groups.length)
    (hfit : fitSimple flip .selection_rate ym N groups force = some fit) (eps : Rat) (he : 0 ≤ eps) :
    GammaLe (eventOf .dp) (thrRows names groups) 1 defaultUtil (thrPred fit.rules groups) eps := by
  intro key hk
  rw [threshold_dp_gamma_zero flip ym N names groups force fit hN hnd hl hfit key hk]
  exact he

/-- the same for `constraints = "equalized_odds"` -/
theorem threshold_eo_constraint_satisfied (flip : Bool) (obj : Metric) (N : Nat) (names : List String)
    (groups : List (List Threshold.Row)) (force : Option Nat) (fit : Fit) (yBest : Rat) (hN : 1 ≤ N)
    (hnd : names.Nodup) (hl : names.length = groups.length)
    (hfit : fitEO flip obj N groups force = some (fit, yBest)) (eps : Rat) (he : 0 ≤ eps) :
    GammaLe (eventOf .eo) (thrRows names groups) 1 defaultUtil (thrPred fit.rules groups) eps := by
  intro key hk
  rw [threshold_eo_gamma_zero flip obj N names groups force fit yBest hN hnd hl hfit key hk]
  exact he

/-- the mixing step on its own: the expected overall selection rate of the fitted rule is the common group value -/
theorem threshold_overall_selection_rate (flip : Bool) (ym : Metric) (N : Nat) (names : List String)
    (groups : List (List Threshold.Row)) (force : Option Nat) (fit : Fit) (hN : 1 ≤ N) (hnd : names.Nodup)
    (hne : thrRows names groups ≠ [])
    (hfit : fitSimple flip .selection_rate ym N groups force = some fit) :
    meanOn (fun _ => true) (thrRows names groups) (thrPred fit.rules groups) = gridVal N fit.iBest := by
  obtain ⟨_, hpar⟩ := threshold_simple_parity .dp .selection_rate (fun _ => true) MomentsSrc.allEvent
    (by decide +kernel) thrMean_selection_rate (fun r hc _ => dp_event_of_no_control r hc) flip ym N names groups force fit hN hnd hfit
  obtain ⟨r0, hr0⟩ := List.exists_mem_of_ne_nil _ hne
  have hin : ∀ r ∈ thrRows names groups, inE (eventOf .dp) MomentsSrc.allEvent r = true :=
    fun r hr => (dp_event_of_no_control r (thrRows_shape hr).1).2
  rw [← meanOn_congr (inE (eventOf .dp) MomentsSrc.allEvent) _ _ _ hin]
  exact mE_eq_of_groups_eq _ _ _ _ _ (hpar _) ⟨r0.g, observed_of_inE hr0 (hin r0 hr0)⟩

/-! ### non-vacuity: the 3-group example of C04 (ties, vertical hull segment, non-trivial p_ignore) -/

def exNames : List String := ["a", "b", "c"]

example : exNames.Nodup ∧ exNames.length = ex.length := by decide +kernel
example : (fitSimple false .selection_rate .balanced_accuracy_score 3 ex none).isSome := by decide +kernel
example : (fitSimple false .selection_rate .balanced_accuracy_score 3 ex none).map
    (fun f => gamma (eventOf .dp) (thrRows exNames ex) 1 defaultUtil (thrPred f.rules ex)) =
    some [0, 0, 0, 0, 0, 0] := by decide +kernel
example : (fitEO false .accuracy_score 4 ex none).map
    (fun f => gamma (eventOf .eo) (thrRows exNames ex) 1 defaultUtil (thrPred f.1.rules ex)) =
    some [0, 0, 0, 0, 0, 0, 0, 0, 0, 0, 0, 0] := by decide +kernel
example : (fitSimple true .true_positive_rate .accuracy_score 5 ex none).map
    (fun f => gamma (eventOf .tpr) (thrRows exNames ex) 1 defaultUtil (thrPred f.rules ex)) =
    some [0, 0, 0, 0, 0, 0] := by decide +kernel

/-! ## From `gamma = 0` to the user-facing metric (ThresholdOptimizer end to end)

`threshold_*_gamma_zero` says the fitted rule's expected predictions make every entry of the matching moment's gamma
vanish.  Through C06X (`meanpred_difference_le_of_constraint` at `eps = 0`) the `mean_prediction` difference that
`fairlearn.metrics.MetricFrame` reports for these expected predictions on the rows of each event — all rows for
demographic parity; the positives / the negatives for the TPR / FPR / equalized-odds constraints — is EXACTLY 0, for
both `method`s.  (This is the second half of crosscheck relation `X1.threshold-gamma-zero`.) -/

/-- any prediction vector whose difference-form gamma vanishes entrywise has `mean_prediction` difference exactly 0
    on the rows of every observed event -/
theorem meanpred_difference_zero_of_gamma_zero (ev : Ev) (rows : List Moments.Row) (h : List Rat) (e : String)
    (hl : h.length = rows.length) (hne : ∃ g, Observed ev rows e g)
    (hz : ∀ key ∈ index ev rows, gammaAt ev rows 1 defaultUtil h key = 0) :
    Fairness.run .meanpred .difference .toOverall true 1 (toFrame (inE ev e) rows h) = .value (XR.fin 0) ∧
    Fairness.run .meanpred .difference .between true 1 (toFrame (inE ev e) rows h) = .value (XR.fin 0) := by
  have hg : GammaLe ev rows 1 defaultUtil h 0 := by
    intro key hk; rw [hz key hk]
  obtain ⟨⟨D1, h1, h10, h11⟩, ⟨D2, h2, h20, h21⟩⟩ := C06.meanpred_difference_le_of_constraint ev rows h 0 e hl hne hg
  have e1 : D1 = 0 := le_antisymm h11 h10
  have e2 : D2 = 0 := le_antisymm (h21.trans_eq (mul_zero 2)) h20
  rw [h1, h2, e1, e2]
  exact ⟨rfl, rfl⟩

/-- **ThresholdOptimizer(demographic_parity / selection_rate_parity) ⇒ `mean_prediction` difference of the expected
    predictions = 0** on the training data (both methods) -/
theorem threshold_dp_meanpred_difference_zero (flip : Bool) (ym : Metric) (N : Nat) (names : List String)
    (groups : List (List Threshold.Row)) (force : Option Nat) (fit : Fit) (hN : 1 ≤ N) (hnd : names.Nodup)
    (hl : names.length = groups.length) (hne : thrRows names groups ≠ [])
    (hfit : fitSimple flip .selection_rate ym N groups force = some fit) :
    Fairness.run .meanpred .difference .toOverall true 1
        (toFrame (inE (eventOf .dp) MomentsSrc.allEvent) (thrRows names groups) (thrPred fit.rules groups)) = .value (XR.fin 0) ∧
    Fairness.run .meanpred .difference .between true 1
        (toFrame (inE (eventOf .dp) MomentsSrc.allEvent) (thrRows names groups) (thrPred fit.rules groups)) = .value (XR.fin 0) := by
  obtain ⟨_, _, hrl, _⟩ := parity_simple flip .selection_rate ym N groups force fit hN (by decide +kernel) hfit
  obtain ⟨r0, hr0⟩ := List.exists_mem_of_ne_nil _ hne
  apply meanpred_difference_zero_of_gamma_zero _ _ _ _ (blockVals_length names groups _ hl (by simp [hrl]))
  · exact ⟨r0.g, r0, hr0, by rw [eventOf_of_no_control .dp r0 (thrRows_shape hr0).1]; rfl, rfl⟩
  · exact threshold_dp_gamma_zero flip ym N names groups force fit hN hnd hl hfit

/-- **ThresholdOptimizer(equalized_odds) ⇒ the expected TPRs (`lab = 1`) and expected FPRs (`lab = 0`) of all groups
    coincide with the overall ones**: `mean_prediction` difference 0 on the rows with label `lab` -/
theorem threshold_eo_meanpred_difference_zero (flip : Bool) (obj : Metric) (N : Nat) (names : List String)
    (groups : List (List Threshold.Row)) (force : Option Nat) (fit : Fit) (yBest : Rat) (hN : 1 ≤ N)
    (hnd : names.Nodup) (hl : names.length = groups.length)
    (hfit : fitEO flip obj N groups force = some (fit, yBest)) (lab : Int)
    (hne : ∃ g, Observed (eventOf .eo) (thrRows names groups) (MomentsSrc.labelEvent lab) g) :
    Fairness.run .meanpred .difference .toOverall true 1
        (toFrame (inE (eventOf .eo) (MomentsSrc.labelEvent lab)) (thrRows names groups) (thrPred fit.rules groups)) = .value (XR.fin 0) ∧
    Fairness.run .meanpred .difference .between true 1
        (toFrame (inE (eventOf .eo) (MomentsSrc.labelEvent lab)) (thrRows names groups) (thrPred fit.rules groups)) = .value (XR.fin 0) := by
  obtain ⟨_, _, hrl, _⟩ := parity_EO flip obj N groups force fit yBest hN hfit
  exact meanpred_difference_zero_of_gamma_zero _ _ _ _ (blockVals_length names groups _ hl (by simp [hrl])) hne
    (threshold_eo_gamma_zero flip obj N names groups force fit yBest hN hnd hl hfit)

/-- non-vacuity: the 3-group example, demographic parity and equalized odds (positives) -/
example : (fitSimple false .selection_rate .balanced_accuracy_score 3 ex none).map
    (fun f => Fairness.run .meanpred .difference .between true 1
      (toFrame (inE (eventOf .dp) MomentsSrc.allEvent) (thrRows exNames ex) (thrPred f.rules ex))) = some (.value (XR.fin 0)) := by
  decide +kernel
example : thrRows exNames ex ≠ [] := by decide +kernel
example : (fitEO false .accuracy_score 4 ex none).map
    (fun f => Fairness.run .meanpred .difference .toOverall true 1
      (toFrame (inE (eventOf .eo) (MomentsSrc.labelEvent 1)) (thrRows exNames ex) (thrPred f.1.rules ex))) = some (.value (XR.fin 0)) := by
  decide +kernel

end C04
