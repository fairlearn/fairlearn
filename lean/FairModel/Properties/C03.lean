/-
C03 — named fairness metrics equal their first-principles definitions.
Property theorems and the few helpers that need `Valid` / `variantSpec`; the other lemmas are in `Lemmas/Fairness.lean`.
Model: `Model/Fairness.lean`, which interprets the tables of the GENERATED
`Generated/FairnessSpec.lean` (lifted from `_fairness_metrics.py`, `_generated_metrics.py`,
`_make_derived_metric.py`) with the MetricFrame model of C01/C02.

Reading guide.  `groupOf rows r` are the rows in the same sensitive-feature group as `r` (as the metric
sees them); `g (groupOf rows r)` is therefore "the base metric of the group of `r` computed directly
from the rows", `g (slice rows)` the base metric of the whole data.  All theorems hold for EVERY
dataset with at least one row, any number of groups of any sizes (single-member groups included),
one or more sensitive feature columns, any positive weights.

CLAUSE → THEOREM TABLE.  Standing hypotheses = the property's quantifier: `Valid nsf rows` (≥ 1 row,
≥ 1 sensitive column, weights > 0; no weights = all 1) and, for the confusion-matrix rates, `BinaryRows rows`.
  rates "directly from the rows" (specification side = `wsum` quotients, `Model/Fairness.lean` + head of `Lemmas/Fairness.lean`;
  model side = `MetricPool.eval`, for TPR/FPR/TNR/FNR through the `BaseMetrics` model of sklearn's normalised confusion
  matrix — two different definitions, the theorems are not `f = f`):
      selection_rate_eq_spec, true_positive_rate_eq_spec, false_positive_rate_eq_spec, finiteOn_of_spec (all 10 modelled
      bases: + TNR, FNR, accuracy, zero-one loss, MAE, MSE, mean prediction); the group values the aggregates see are
      exactly {rate(group of r) : r ∈ rows}: group_values
  demographic_parity_difference   between_groups: dp_difference_eq_spec      to_overall: dp_difference_overall_eq_spec
  demographic_parity_ratio        between_groups: dp_ratio_eq_spec           to_overall: dp_ratio_overall_eq_spec (overall ≠ 0),
                                                                             ratio_overall_nan_of_all_zero (overall = 0: NaN)
  equal_opportunity_difference    eopp_difference_eq_spec                    eopp_difference_overall_eq_spec
  equal_opportunity_ratio         eopp_ratio_eq_spec                         eopp_ratio_overall_eq_spec (overall TPR ≠ 0)
  equalized_odds_difference       eodds_difference_eq_spec (worst case AND mean)   eodds_difference_overall_eq_spec
  equalized_odds_ratio            eodds_ratio_eq_spec (both ratios defined)  any method / NaN / ±inf operands: eodds_general
  "worst case or mean as requested"  eodds_def (from `Fairness.eodds_of_runs`), pyFold_max_pair / pyFold_min_pair / meanSkip_pair, worst_case_bounds
  every generated <metric>_{difference,ratio,group_min,group_max}:
      generated_family (EVERY entry of the lifted METRICS_SPEC with a modelled base is the MetricFrame aggregate its name
      says), generated_eq_spec (… hence the first-principles value, all four variants, both methods), generated_of_mem,
      metrics_spec_wellformed; coverage statement generated_bases: 18 of the 25 functions (9 of 16 bases).
      PARTIAL BY DESIGN: the 7 functions over sklearn-only scores (balanced_accuracy, precision, recall, roc_auc, r2, f1,
      log_loss; all group_min/group_max) have NO theorem (`generated … = some none`); they are checked only by the
      correspondence harness against sklearn evaluated on first-principles slices.
  single-member groups / empty denominators   all theorems quantify over arbitrary `rows`; tpr_zero_of_no_positive; the
      `if … = 0 then 0` branch of tprSpec/fprSpec/tnrSpec/fnrSpec; examples exF1 (weighted single-row group), exEO
  make_derived_metric = the equivalent MetricFrame call   derived_eq_metricframe, derived_eq, derived_variant, derived_finish_eq,
      derived_make_eq / _ok_iff / _fails, derived_route, derived_bad_method, derived_nameless_ok,
      derived_call_eq_finish (the whole __call__: routing of sample_weight / method, then the MetricFrame call)
  the MetricFrame accessor each function calls (default errors= / method=, cache slot, the (method, errors) the slot was
      computed with by `_populate_results`, `_extract_result`)   LIFTED (`Generated/PopulateSrc.lean`, `FrameSrc.extract_result`):
      applyAgg_lifted_eq_model, run_lifted_eq_model, src_accessor_calls
Consistency corollaries (C03X.lean): eodds_ge_eopp, dp_ratio_one_iff_difference_zero, dp_ranges, eopp_eodds_ranges.
-/
import FairModel.Lemmas.Fairness
import FairModel.Model.Derived

namespace C03
open Fairness Frame Aggregate MetricPool XR

/-- a dataset the property quantifies over: ≥ 1 row, ≥ 1 sensitive column, positive weights -/
structure Valid (nsf : Nat) (rows : List (Row Dat)) : Prop where
  ne : rows ≠ []
  nsf_pos : 0 < nsf
  wf : WF 0 nsf rows
  wpos : ∀ r ∈ rows, 0 < r.dat.p0

/-- labels and predictions are 0/1 -/
def BinaryRows (rows : List (Row Dat)) : Prop :=
  ∀ r ∈ rows, (r.dat.y = 0 ∨ r.dat.y = 1) ∧ (r.dat.pred = 0 ∨ r.dat.pred = 1)

instance (rows : List (Row Dat)) : Decidable (BinaryRows rows) := by
  unfold BinaryRows; exact List.decidableBAll _ rows

/-! ### (1) the base rates are the direct weighted ratios on EVERY non-empty slice -/

theorem selection_rate_eq_spec (ds : List Dat) (hw : ∀ d ∈ ds, 0 < d.p0) (hne : ds ≠ []) :
    eval .selrate ds = .scalar (fin (wsum (fun d => d.pred == 1) ds / wsum (fun _ => true) ds)) :=
  selrate_eq_spec hw hne

/-- TPR = Σ_{y=1,pred=1} w / Σ_{y=1} w, and exactly 0 when the slice has no row with y = 1 -/
theorem true_positive_rate_eq_spec (ds : List Dat) (hb : Binary ds) (hne : ds ≠ []) :
    eval .tpr ds = .scalar (fin (
      if wsum (fun d => d.y == 1) ds = 0 then 0
      else wsum (fun d => d.y == 1 && d.pred == 1) ds / wsum (fun d => d.y == 1) ds)) :=
  tpr_eq_spec hb hne

theorem false_positive_rate_eq_spec (ds : List Dat) (hb : Binary ds) (hne : ds ≠ []) :
    eval .fpr ds = .scalar (fin (
      if wsum (fun d => d.y == 0) ds = 0 then 0
      else wsum (fun d => d.y == 0 && d.pred == 1) ds / wsum (fun d => d.y == 0) ds)) :=
  fpr_eq_spec hb hne

/-- the empty-denominator branch is really taken: a slice without positives has TPR 0 -/
theorem tpr_zero_of_no_positive (ds : List Dat) (h : ∀ d ∈ ds, d.y ≠ 1) : tprSpec ds = 0 := by
  unfold tprSpec
  rw [if_pos]
  exact wsum_eq_zero_of_forall_false (by intro d hd; simpa using h d hd)

theorem finiteOn_of_pos {nsf : Nat} {rows : List (Row Dat)} (hv : Valid nsf rows) {f : List Dat → Cell}
    {g : List Dat → Rat} (h : ∀ {ds : List Dat}, (∀ d ∈ ds, 0 < d.p0) → ds ≠ [] → f ds = .scalar (fin (g ds))) :
    FiniteOn f g rows :=
  fun _ hne hsub => h (fun d hd => by obtain ⟨r, hr, rfl⟩ := hsub d hd; exact hv.wpos r hr) hne

theorem finiteOn_of_binary {rows : List (Row Dat)} (hb : BinaryRows rows) {f : List Dat → Cell}
    {g : List Dat → Rat} (h : ∀ {ds : List Dat}, Binary ds → ds ≠ [] → f ds = .scalar (fin (g ds))) :
    FiniteOn f g rows :=
  fun _ hne hsub => h (fun d hd => by obtain ⟨r, hr, rfl⟩ := hsub d hd; exact hb r hr) hne

theorem selrate_finiteOn {nsf : Nat} {rows : List (Row Dat)} (hv : Valid nsf rows) :
    FiniteOn (eval .selrate) selRateSpec rows := finiteOn_of_pos hv selrate_eq_spec

theorem tpr_finiteOn {rows : List (Row Dat)} (hb : BinaryRows rows) : FiniteOn (eval .tpr) tprSpec rows :=
  finiteOn_of_binary hb tpr_eq_spec

theorem fpr_finiteOn {rows : List (Row Dat)} (hb : BinaryRows rows) : FiniteOn (eval .fpr) fprSpec rows :=
  finiteOn_of_binary hb fpr_eq_spec

/-! ### (2) what the aggregates of the one-stratum frame are, for any finite base metric `g` -/

/-- attained lower / upper bound of the group values computed directly from the rows -/
def IsGroupMin (g : List Dat → Rat) (rows : List (Row Dat)) (x : Rat) : Prop :=
  (∃ r ∈ rows, x = g (groupOf rows r)) ∧ ∀ r ∈ rows, x ≤ g (groupOf rows r)
def IsGroupMax (g : List Dat → Rat) (rows : List (Row Dat)) (x : Rat) : Prop :=
  (∃ r ∈ rows, x = g (groupOf rows r)) ∧ ∀ r ∈ rows, g (groupOf rows r) ≤ x

section general
variable {m : Metric} {g : List Dat → Rat} {nsf : Nat} {rows : List (Row Dat)}

/-- the function value is the per-stratum aggregate of the group values and the overall value -/
theorem run_value (hv : Valid nsf rows) (hf : FiniteOn (eval m) g rows) (k : AggKind) (meth : Method) :
    run m k meth true nsf rows =
      .value (perStratum k meth (vals (ofFrame 0 nsf (eval m) rows) []) (fin (g (slice rows)))) := by
  unfold run
  simp only [frameRaised_one hv.nsf_pos hf hv.ne, Bool.false_eq_true, if_false]
  rw [applyAgg_one hv.nsf_pos hv.wf hf hv.ne, overallAt_one hf hv.ne]
  rfl

/-- the finite values the aggregates see are exactly the base metric of every observed group -/
theorem group_values (hv : Valid nsf rows) (hf : FiniteOn (eval m) g rows) (x : Rat) :
    fin x ∈ vals (ofFrame 0 nsf (eval m) rows) [] ↔ ∃ r ∈ rows, x = g (groupOf rows r) :=
  mem_vals_one hv.nsf_pos hv.wf hf x

theorem extremes (hv : Valid nsf rows) (hf : FiniteOn (eval m) g rows) :
    ∃ mn mx, IsGroupMin g rows mn ∧ IsGroupMax g rows mx ∧
      minSkip (vals (ofFrame 0 nsf (eval m) rows) []) = fin mn ∧
      maxSkip (vals (ofFrame 0 nsf (eval m) rows) []) = fin mx := by
  have hfn := finNan_vals_one hv.nsf_pos hf
  obtain ⟨r0, hr0⟩ := List.exists_mem_of_ne_nil _ hv.ne
  have hmem0 : g (groupOf rows r0) ∈ fins (vals (ofFrame 0 nsf (eval m) rows) []) :=
    mem_fins.mpr ((group_values hv hf _).mpr ⟨r0, hr0, rfl⟩)
  rcases min_max_together hfn with ⟨h1, _⟩ | ⟨mn, mx, h1, h2, _⟩
  · rw [minSkip_eq_nan hfn h1] at hmem0; simp at hmem0
  · obtain ⟨a1, a2⟩ := minSkip_eq_fin hfn h1
    obtain ⟨b1, b2⟩ := maxSkip_eq_fin hfn h2
    refine ⟨mn, mx, ⟨(group_values hv hf mn).mp (mem_fins.mp a1), ?_⟩,
      ⟨(group_values hv hf mx).mp (mem_fins.mp b1), ?_⟩, h1, h2⟩
    · intro r hr; exact a2 _ (mem_fins.mpr ((group_values hv hf _).mpr ⟨r, hr, rfl⟩))
    · intro r hr; exact b2 _ (mem_fins.mpr ((group_values hv hf _).mpr ⟨r, hr, rfl⟩))

/-- `<metric>_group_min` / `_group_max`: the smallest / largest group value -/
theorem group_min_spec (hv : Valid nsf rows) (hf : FiniteOn (eval m) g rows) (meth : Method) :
    ∃ mn, IsGroupMin g rows mn ∧ run m .groupMin meth true nsf rows = .value (fin mn) := by
  obtain ⟨mn, _, h1, _, h3, _⟩ := extremes hv hf
  exact ⟨mn, h1, by rw [run_value hv hf]; simp [perStratum, h3]⟩

theorem group_max_spec (hv : Valid nsf rows) (hf : FiniteOn (eval m) g rows) (meth : Method) :
    ∃ mx, IsGroupMax g rows mx ∧ run m .groupMax meth true nsf rows = .value (fin mx) := by
  obtain ⟨_, mx, _, h2, _, h4⟩ := extremes hv hf
  exact ⟨mx, h2, by rw [run_value hv hf]; simp [perStratum, h4]⟩

/-- difference, between_groups: largest group value minus smallest group value -/
theorem difference_between_spec (hv : Valid nsf rows) (hf : FiniteOn (eval m) g rows) :
    ∃ mn mx, IsGroupMin g rows mn ∧ IsGroupMax g rows mx ∧
      run m .difference .between true nsf rows = .value (fin (mx - mn)) := by
  obtain ⟨mn, mx, h1, h2, h3, h4⟩ := extremes hv hf
  refine ⟨mn, mx, h1, h2, ?_⟩
  rw [run_value hv hf]
  simp only [perStratum]
  rw [h3, diffOf_min (finNan_vals_one hv.nsf_pos hf) h3 h4]

/-- difference, to_overall: the largest |group value − value on all rows| -/
theorem difference_overall_spec (hv : Valid nsf rows) (hf : FiniteOn (eval m) g rows) :
    ∃ D, run m .difference .toOverall true nsf rows = .value (fin D) ∧
      (∃ r ∈ rows, D = |g (groupOf rows r) - g (slice rows)|) ∧
      ∀ r ∈ rows, |g (groupOf rows r) - g (slice rows)| ≤ D := by
  have hfn := finNan_vals_one hv.nsf_pos hf
  obtain ⟨r0, hr0⟩ := List.exists_mem_of_ne_nil _ hv.ne
  rcases diffOf_spec hfn (g (slice rows)) with ⟨h0, _⟩ | ⟨D, hD, ⟨q, hq, hDq⟩, hle⟩
  · have : g (groupOf rows r0) ∈ fins (vals (ofFrame 0 nsf (eval m) rows) []) :=
      mem_fins.mpr ((group_values hv hf _).mpr ⟨r0, hr0, rfl⟩)
    rw [h0] at this; simp at this
  · refine ⟨D, by rw [run_value hv hf]; simp [perStratum, hD], ?_, ?_⟩
    · obtain ⟨r, hr, rfl⟩ := (group_values hv hf q).mp (mem_fins.mp hq)
      exact ⟨r, hr, hDq⟩
    · intro r hr
      exact hle _ (mem_fins.mpr ((group_values hv hf _).mpr ⟨r, hr, rfl⟩))

/-- ratio, between_groups: smallest group value / largest group value (float division:
    0/0 = NaN when every group value is 0) -/
theorem ratio_between_spec (hv : Valid nsf rows) (hf : FiniteOn (eval m) g rows) :
    ∃ mn mx, IsGroupMin g rows mn ∧ IsGroupMax g rows mx ∧
      run m .ratio .between true nsf rows = .value (XR.div (fin mn) (fin mx)) := by
  obtain ⟨mn, mx, h1, h2, h3, h4⟩ := extremes hv hf
  refine ⟨mn, mx, h1, h2, ?_⟩
  rw [run_value hv hf]
  simp only [perStratum]
  rw [h3, h4]

/-- `ratio_sub_one` on a finite quotient -/
def subOne (q : Rat) : Rat := if 1 < q then 1 / q else q

/-- for positive quotients `subOne q = min q (1/q)` -/
theorem subOne_eq_min (q : Rat) (hq : 0 < q) : subOne q = min q (1 / q) := by
  unfold subOne
  by_cases h : 1 < q
  · rw [if_pos h, min_eq_right ((div_le_iff₀ hq).mpr (one_le_mul_of_one_le_of_one_le h.le h.le))]
  · rw [if_neg h, min_eq_left ((le_div_iff₀ hq).mpr (mul_le_one₀ (not_lt.mp h) hq.le (not_lt.mp h)))]

/-- ratio, to_overall (overall value non-zero): the smallest `ratio_sub_one(group value / overall
    value)` over the groups, attained by a group -/
theorem ratio_overall_spec (hv : Valid nsf rows) (hf : FiniteOn (eval m) g rows)
    (ho : g (slice rows) ≠ 0) :
    ∃ ρ, run m .ratio .toOverall true nsf rows = .value (fin ρ) ∧
      (∃ r ∈ rows, ρ = subOne (g (groupOf rows r) / g (slice rows))) ∧
      ∀ r ∈ rows, ρ ≤ subOne (g (groupOf rows r) / g (slice rows)) := by
  have hfn := finNan_vals_one hv.nsf_pos hf
  obtain ⟨r0, hr0⟩ := List.exists_mem_of_ne_nil _ hv.ne
  rcases ratioOverallOf_spec hfn ho with ⟨h0, _⟩ | ⟨ρ, hρ, ⟨q, hq, hρq⟩, hle⟩
  · have : g (groupOf rows r0) ∈ fins (vals (ofFrame 0 nsf (eval m) rows) []) :=
      mem_fins.mpr ((group_values hv hf _).mpr ⟨r0, hr0, rfl⟩)
    rw [h0] at this; simp at this
  · refine ⟨ρ, by rw [run_value hv hf]; simp [perStratum, hρ], ?_, ?_⟩
    · obtain ⟨r, hr, rfl⟩ := (group_values hv hf q).mp (mem_fins.mp hq)
      exact ⟨r, hr, hρq⟩
    · intro r hr
      exact hle _ (mem_fins.mpr ((group_values hv hf _).mpr ⟨r, hr, rfl⟩))

end general

/-- the branch excluded by `ratio_overall_spec` (`ho : overall ≠ 0`): when the overall value and every
    group value are 0, every quotient is 0/0 and ratio(to_overall) is NaN — replayed on fairlearn:
    `demographic_parity_ratio([0,1],[0,0],sensitive_features=['a','b'],method='to_overall')` is nan -/
theorem ratio_overall_nan_of_all_zero {m : Metric} {g : List Dat → Rat} {nsf : Nat} {rows : List (Row Dat)}
    (hv : Valid nsf rows) (hf : FiniteOn (eval m) g rows) (ho : g (slice rows) = 0)
    (hz : ∀ r ∈ rows, g (groupOf rows r) = 0) :
    run m .ratio .toOverall true nsf rows = .value nan := by
  rw [run_value hv hf, ho]
  simp only [perStratum, ratioOverallOf, AggregateSpec.ratioOverallAgg, Grouping.apply]
  congr 1
  apply minSkip_all_nan
  intro x hx
  obtain ⟨v, hvm, rfl⟩ := List.mem_map.mp hx
  rcases finNan_vals_one hv.nsf_pos hf v hvm with rfl | ⟨q, rfl⟩
  · rfl
  · obtain ⟨r, hr, hq⟩ := (group_values hv hf q).mp hvm
    rw [hq, hz r hr]
    decide +kernel

/-! ### (3) the named functions are these aggregates of the stated base rate
(the right-hand sides are read off the tables lifted from `_fairness_metrics.py`) -/

theorem demographic_parity_difference_def (meth : Method) (nsf : Nat) (rows : List (Row Dat)) :
    named "demographic_parity_difference" meth nsf rows = some (run .selrate .difference meth true nsf rows) :=
  named_of_mem (base := "selection_rate") (agg := "difference") (.head _) (by decide +kernel)
    (by decide +kernel) meth nsf rows

theorem demographic_parity_ratio_def (meth : Method) (nsf : Nat) (rows : List (Row Dat)) :
    named "demographic_parity_ratio" meth nsf rows = some (run .selrate .ratio meth true nsf rows) :=
  named_of_mem (base := "selection_rate") (agg := "ratio") (.tail _ (.head _)) (by decide +kernel)
    (by decide +kernel) meth nsf rows

theorem equal_opportunity_difference_def (meth : Method) (nsf : Nat) (rows : List (Row Dat)) :
    named "equal_opportunity_difference" meth nsf rows = some (run .tpr .difference meth true nsf rows) :=
  named_of_mem (base := "true_positive_rate") (agg := "difference") (.tail _ (.tail _ (.head _))) (by decide +kernel)
    (by decide +kernel) meth nsf rows

theorem equal_opportunity_ratio_def (meth : Method) (nsf : Nat) (rows : List (Row Dat)) :
    named "equal_opportunity_ratio" meth nsf rows = some (run .tpr .ratio meth true nsf rows) :=
  named_of_mem (base := "true_positive_rate") (agg := "ratio") (.tail _ (.tail _ (.tail _ (.head _)))) (by decide +kernel)
    (by decide +kernel) meth nsf rows

/-- demographic parity difference = max − min of the group selection rates computed from the rows -/
theorem dp_difference_eq_spec (nsf : Nat) (rows : List (Row Dat)) (hv : Valid nsf rows) :
    ∃ mn mx, IsGroupMin selRateSpec rows mn ∧ IsGroupMax selRateSpec rows mx ∧
      named "demographic_parity_difference" .between nsf rows = some (.value (fin (mx - mn))) := by
  simpa only [demographic_parity_difference_def, Option.some.injEq] using
    difference_between_spec hv (selrate_finiteOn hv)

theorem dp_difference_overall_eq_spec (nsf : Nat) (rows : List (Row Dat)) (hv : Valid nsf rows) :
    ∃ D, named "demographic_parity_difference" .toOverall nsf rows = some (.value (fin D)) ∧
      (∃ r ∈ rows, D = |selRateSpec (groupOf rows r) - selRateSpec (slice rows)|) ∧
      ∀ r ∈ rows, |selRateSpec (groupOf rows r) - selRateSpec (slice rows)| ≤ D := by
  simpa only [demographic_parity_difference_def, Option.some.injEq] using
    difference_overall_spec hv (selrate_finiteOn hv)

theorem dp_ratio_eq_spec (nsf : Nat) (rows : List (Row Dat)) (hv : Valid nsf rows) :
    ∃ mn mx, IsGroupMin selRateSpec rows mn ∧ IsGroupMax selRateSpec rows mx ∧
      named "demographic_parity_ratio" .between nsf rows = some (.value (XR.div (fin mn) (fin mx))) := by
  simpa only [demographic_parity_ratio_def, Option.some.injEq] using ratio_between_spec hv (selrate_finiteOn hv)

theorem dp_ratio_overall_eq_spec (nsf : Nat) (rows : List (Row Dat)) (hv : Valid nsf rows)
    (ho : selRateSpec (slice rows) ≠ 0) :
    ∃ ρ, named "demographic_parity_ratio" .toOverall nsf rows = some (.value (fin ρ)) ∧
      (∃ r ∈ rows, ρ = subOne (selRateSpec (groupOf rows r) / selRateSpec (slice rows))) ∧
      ∀ r ∈ rows, ρ ≤ subOne (selRateSpec (groupOf rows r) / selRateSpec (slice rows)) := by
  simpa only [demographic_parity_ratio_def, Option.some.injEq] using
    ratio_overall_spec hv (selrate_finiteOn hv) ho

theorem eopp_difference_eq_spec (nsf : Nat) (rows : List (Row Dat)) (hv : Valid nsf rows)
    (hb : BinaryRows rows) :
    ∃ mn mx, IsGroupMin tprSpec rows mn ∧ IsGroupMax tprSpec rows mx ∧
      named "equal_opportunity_difference" .between nsf rows = some (.value (fin (mx - mn))) := by
  simpa only [equal_opportunity_difference_def, Option.some.injEq] using
    difference_between_spec hv (tpr_finiteOn hb)

theorem eopp_ratio_eq_spec (nsf : Nat) (rows : List (Row Dat)) (hv : Valid nsf rows)
    (hb : BinaryRows rows) :
    ∃ mn mx, IsGroupMin tprSpec rows mn ∧ IsGroupMax tprSpec rows mx ∧
      named "equal_opportunity_ratio" .between nsf rows = some (.value (XR.div (fin mn) (fin mx))) := by
  simpa only [equal_opportunity_ratio_def, Option.some.injEq] using ratio_between_spec hv (tpr_finiteOn hb)

theorem eopp_difference_overall_eq_spec (nsf : Nat) (rows : List (Row Dat)) (hv : Valid nsf rows)
    (hb : BinaryRows rows) :
    ∃ D, named "equal_opportunity_difference" .toOverall nsf rows = some (.value (fin D)) ∧
      (∃ r ∈ rows, D = |tprSpec (groupOf rows r) - tprSpec (slice rows)|) ∧
      ∀ r ∈ rows, |tprSpec (groupOf rows r) - tprSpec (slice rows)| ≤ D := by
  simpa only [equal_opportunity_difference_def, Option.some.injEq] using
    difference_overall_spec hv (tpr_finiteOn hb)

theorem eopp_ratio_overall_eq_spec (nsf : Nat) (rows : List (Row Dat)) (hv : Valid nsf rows)
    (hb : BinaryRows rows) (ho : tprSpec (slice rows) ≠ 0) :
    ∃ ρ, named "equal_opportunity_ratio" .toOverall nsf rows = some (.value (fin ρ)) ∧
      (∃ r ∈ rows, ρ = subOne (tprSpec (groupOf rows r) / tprSpec (slice rows))) ∧
      ∀ r ∈ rows, ρ ≤ subOne (tprSpec (groupOf rows r) / tprSpec (slice rows)) := by
  simpa only [equal_opportunity_ratio_def, Option.some.injEq] using ratio_overall_spec hv (tpr_finiteOn hb) ho

/-! ### (4) equalized odds: worst case or mean of the TPR and FPR disparities -/

/-- on valid binary data both single-metric calls return values -/
theorem eodds_def (fname : String) (aggName w : String) (k : AggKind)
    (hfn : FairnessSpec.eodds.find? (fun e => e.1 == fname) = some (fname, aggName, w))
    (hk : aggOfName aggName = some k)
    (meth : Method) (agg : Agg) (nsf : Nat) (rows : List (Row Dat))
    (hv : Valid nsf rows) (hb : BinaryRows rows) :
    ∃ a b, run .tpr k meth true nsf rows = .value a ∧ run .fpr k meth true nsf rows = .value b ∧
      eodds fname meth agg nsf rows =
        (match agg with
         | .worstCase => (pyFold w [a, b]).map Res.value
         | .mean => some (.value (XR.meanSkip [a, b]))) :=
  have ha := run_value hv (tpr_finiteOn hb) k meth
  have hf := run_value hv (fpr_finiteOn hb) k meth
  ⟨_, _, ha, hf, eodds_of_runs fname aggName w k hfn hk ha hf agg⟩

/-! #### Python's `max` / `min` and pandas' `mean` on ANY pair of disparities (NaN, ±inf included) -/

/-- `max(a, b)`: a NaN first argument is returned, a NaN second argument is ignored, otherwise the
    NaN-skipping maximum (first argument on ties) -/
theorem pyFold_max_pair (a b : XR) :
    pyFold "max" [a, b] = some (if a.isNan then nan else if b.isNan then a else maxSkip2 a b) := by
  rw [pyFold_max_two, pyMax2, maxSkip2]
  cases ha : a.isNan
  · cases hb : b.isNan
    · rfl
    · rw [eq_nan_of_isNan hb, lt_nan_right]; rfl
  · rw [eq_nan_of_isNan ha]; rfl

theorem pyFold_min_pair (a b : XR) :
    pyFold "min" [a, b] = some (if a.isNan then nan else if b.isNan then a else minSkip2 a b) := by
  rw [pyFold_min_two, pyMin2, minSkip2]
  cases ha : a.isNan
  · cases hb : b.isNan
    · rfl
    · rw [eq_nan_of_isNan hb]; rfl
  · rw [eq_nan_of_isNan ha, lt_nan_right]; rfl

/-- `Series.mean()` of two values: NaN entries are skipped; all-NaN gives NaN; otherwise the IEEE mean
    (`inf + -inf = NaN`) -/
theorem meanSkip_pair (a b : XR) :
    XR.meanSkip [a, b] =
      if a.isNan then b else if b.isNan then a else XR.div (XR.add a b) (fin 2) := by
  have h0 : ∀ x : XR, XR.add x (fin 0) = x := fun x => by cases x <;> simp [XR.add]
  have h1 : ∀ x : XR, XR.div x (fin 1) = x := fun x => by
    cases x with
    | fin q => simp [XR.div]
    | _ => rfl
  unfold meanSkip
  cases ha : a.isNan <;> cases hb : b.isNan <;> simp [ha, hb, h0, h1]
  exact (eq_nan_of_isNan hb).symm

/-- Python's `max(a, b)` / `min(a, b)` on two finite floats, and the mean -/
theorem pyFold_max_fin (a b : Rat) : pyFold "max" [fin a, fin b] = some (fin (max a b)) := by
  rw [pyFold_max_two, pyMax2, XR.lt]
  by_cases h : a < b
  · simp [h, max_eq_right (le_of_lt h)]
  · simp [h, max_eq_left (not_lt.mp h)]

theorem pyFold_min_fin (a b : Rat) : pyFold "min" [fin a, fin b] = some (fin (min a b)) := by
  rw [pyFold_min_two, pyMin2, XR.lt]
  by_cases h : b < a
  · simp [h, min_eq_right (le_of_lt h)]
  · simp [h, min_eq_left (not_lt.mp h)]

theorem meanSkip_fin (a b : Rat) : XR.meanSkip [fin a, fin b] = fin ((a + b) / 2) := by
  rw [meanSkip_pair]
  simp [isNan, XR.add, XR.div]

/-- an undefined (NaN = 0/0) ratio: Python's `min` keeps a NaN FIRST argument and ignores a NaN
    second argument; pandas' mean skips NaN -/
theorem pyFold_min_nan_left (b : XR) : pyFold "min" [nan, b] = some nan := by
  rw [pyFold_min_pair]; rfl

theorem pyFold_min_nan_right (a : Rat) : pyFold "min" [fin a, nan] = some (fin a) := by
  rw [pyFold_min_pair]; rfl

theorem meanSkip_nan_left (b : Rat) : XR.meanSkip [nan, fin b] = fin b := by
  rw [meanSkip_pair]; rfl

theorem meanSkip_nan_right (a : Rat) : XR.meanSkip [fin a, nan] = fin a := by
  rw [meanSkip_pair]; rfl

/-- on finite disparities: the worst case (max) dominates both components and the mean; the worst case
    of the ratios (min) is dominated by both and by the mean -/
theorem worst_case_bounds (a b : Rat) :
    (∃ M, pyFold "max" [fin a, fin b] = some (fin M) ∧ a ≤ M ∧ b ≤ M ∧
      ∃ μ, XR.meanSkip [fin a, fin b] = fin μ ∧ μ ≤ M) ∧
    (∃ m, pyFold "min" [fin a, fin b] = some (fin m) ∧ m ≤ a ∧ m ≤ b ∧
      ∃ μ, XR.meanSkip [fin a, fin b] = fin μ ∧ m ≤ μ) := by
  refine ⟨⟨max a b, pyFold_max_fin a b, le_max_left _ _, le_max_right _ _, (a + b) / 2, meanSkip_fin a b, ?_⟩,
          ⟨min a b, pyFold_min_fin a b, min_le_left _ _, min_le_right _ _, (a + b) / 2, meanSkip_fin a b, ?_⟩⟩
  · have h1 := le_max_left a b; have h2 := le_max_right a b; linarith
  · have h1 := min_le_left a b; have h2 := min_le_right a b; linarith

/-- equalized odds difference: worst case = the larger, mean = the average of the TPR and FPR
    between-group differences, each being max − min of the directly computed group rates -/
theorem eodds_difference_eq_spec (agg : Agg) (nsf : Nat) (rows : List (Row Dat)) (hv : Valid nsf rows)
    (hb : BinaryRows rows) :
    ∃ tmn tmx fmn fmx, IsGroupMin tprSpec rows tmn ∧ IsGroupMax tprSpec rows tmx ∧
      IsGroupMin fprSpec rows fmn ∧ IsGroupMax fprSpec rows fmx ∧
      eodds "equalized_odds_difference" .between agg nsf rows =
        some (.value (fin (match agg with
          | .worstCase => max (tmx - tmn) (fmx - fmn)
          | .mean => ((tmx - tmn) + (fmx - fmn)) / 2))) := by
  obtain ⟨tmn, tmx, t1, t2, t3⟩ := difference_between_spec hv (tpr_finiteOn hb)
  obtain ⟨fmn, fmx, f1, f2, f3⟩ := difference_between_spec hv (fpr_finiteOn hb)
  refine ⟨tmn, tmx, fmn, fmx, t1, t2, f1, f2, ?_⟩
  rw [eodds_difference_of_runs t3 f3]
  cases agg
  · rw [pyFold_max_fin]; rfl
  · rw [meanSkip_fin]

/-- GENERAL form, any method, any pair of disparities (NaN = undefined ratio and ±inf included):
    with `a` / `b` the TPR / FPR aggregate of the two single-metric frames,
    equalized_odds_difference = Python `max(a, b)` resp. the NaN-skipping mean, and
    equalized_odds_ratio = Python `min(a, b)` resp. the NaN-skipping mean. -/
theorem eodds_general (meth : Method) (nsf : Nat) (rows : List (Row Dat)) (hv : Valid nsf rows)
    (hb : BinaryRows rows) :
    (∃ a b, run .tpr .difference meth true nsf rows = .value a ∧ run .fpr .difference meth true nsf rows = .value b ∧
      eodds "equalized_odds_difference" meth .worstCase nsf rows =
        some (.value (if a.isNan then nan else if b.isNan then a else maxSkip2 a b)) ∧
      eodds "equalized_odds_difference" meth .mean nsf rows =
        some (.value (if a.isNan then b else if b.isNan then a else XR.div (XR.add a b) (fin 2)))) ∧
    (∃ a b, run .tpr .ratio meth true nsf rows = .value a ∧ run .fpr .ratio meth true nsf rows = .value b ∧
      eodds "equalized_odds_ratio" meth .worstCase nsf rows =
        some (.value (if a.isNan then nan else if b.isNan then a else minSkip2 a b)) ∧
      eodds "equalized_odds_ratio" meth .mean nsf rows =
        some (.value (if a.isNan then b else if b.isNan then a else XR.div (XR.add a b) (fin 2)))) := by
  have hf := fun k => run_value hv (tpr_finiteOn hb) k meth
  have hg := fun k => run_value hv (fpr_finiteOn hb) k meth
  refine ⟨⟨_, _, hf _, hg _, ?_, ?_⟩, ⟨_, _, hf _, hg _, ?_, ?_⟩⟩
  · rw [eodds_difference_of_runs (hf _) (hg _), pyFold_max_pair]; rfl
  · rw [eodds_difference_of_runs (hf _) (hg _), meanSkip_pair]
  · rw [eodds_ratio_of_runs (hf _) (hg _), pyFold_min_pair]; rfl
  · rw [eodds_ratio_of_runs (hf _) (hg _), meanSkip_pair]

/-- equalized odds ratio when both ratios are defined (a group with a positive TPR and one with a
    positive FPR exist): worst case = the smaller, mean = the average of min/max ratios -/
theorem eodds_ratio_eq_spec (agg : Agg) (nsf : Nat) (rows : List (Row Dat)) (hv : Valid nsf rows)
    (hb : BinaryRows rows) :
    ∃ tmn tmx fmn fmx, IsGroupMin tprSpec rows tmn ∧ IsGroupMax tprSpec rows tmx ∧
      IsGroupMin fprSpec rows fmn ∧ IsGroupMax fprSpec rows fmx ∧
      (tmx ≠ 0 → fmx ≠ 0 →
        eodds "equalized_odds_ratio" .between agg nsf rows =
          some (.value (fin (match agg with
            | .worstCase => min (tmn / tmx) (fmn / fmx)
            | .mean => (tmn / tmx + fmn / fmx) / 2)))) := by
  obtain ⟨tmn, tmx, t1, t2, t3⟩ := ratio_between_spec hv (tpr_finiteOn hb)
  obtain ⟨fmn, fmx, f1, f2, f3⟩ := ratio_between_spec hv (fpr_finiteOn hb)
  refine ⟨tmn, tmx, fmn, fmx, t1, t2, f1, f2, fun h1 h2 => ?_⟩
  rw [eodds_ratio_of_runs t3 f3, div_fin_fin, div_fin_fin, if_neg h1, if_neg h2]
  cases agg
  · rw [pyFold_min_fin]; rfl
  · rw [meanSkip_fin]

/-- equalized odds difference, `method="to_overall"`: worst case = the larger, mean = the average of the
    TPR and FPR to_overall differences, each the largest |group rate − rate on all rows| -/
theorem eodds_difference_overall_eq_spec (agg : Agg) (nsf : Nat) (rows : List (Row Dat)) (hv : Valid nsf rows)
    (hb : BinaryRows rows) :
    ∃ DT DF,
      ((∃ r ∈ rows, DT = |tprSpec (groupOf rows r) - tprSpec (slice rows)|) ∧
        ∀ r ∈ rows, |tprSpec (groupOf rows r) - tprSpec (slice rows)| ≤ DT) ∧
      ((∃ r ∈ rows, DF = |fprSpec (groupOf rows r) - fprSpec (slice rows)|) ∧
        ∀ r ∈ rows, |fprSpec (groupOf rows r) - fprSpec (slice rows)| ≤ DF) ∧
      eodds "equalized_odds_difference" .toOverall agg nsf rows =
        some (.value (fin (match agg with
          | .worstCase => max DT DF
          | .mean => (DT + DF) / 2))) := by
  obtain ⟨DT, t1, t2, t3⟩ := difference_overall_spec hv (tpr_finiteOn hb)
  obtain ⟨DF, f1, f2, f3⟩ := difference_overall_spec hv (fpr_finiteOn hb)
  refine ⟨DT, DF, ⟨t2, t3⟩, ⟨f2, f3⟩, ?_⟩
  rw [eodds_difference_of_runs t1 f1]
  cases agg
  · rw [pyFold_max_fin]; rfl
  · rw [meanSkip_fin]

/-! ### (5) generated functions and make_derived_metric -/

/-- what the property says each variant is: the MetricFrame method, and whether `method=` reaches it -/
def variantSpec : String → Option (AggKind × Bool)
  | "difference" => some (.difference, true)
  | "ratio" => some (.ratio, true)
  | "group_min" => some (.groupMin, false)
  | "group_max" => some (.groupMax, false)
  | _ => none

/-- `_DerivedMetric.__call__` as a function of the lifted dispatch table -/
theorem derived_eq (m : Metric) (t : String) (meth : Method) (nsf : Nat) (rows : List (Row Dat)) :
    derived m t meth nsf rows =
      ((FairnessSpec.dispatch.find? (fun d => d.1 == t)).bind
        (fun d => (aggOfName d.2.1).map (fun k => (k, d.2.2)))).map
        (fun kb => run m kb.1 meth kb.2 nsf rows) := by
  unfold derived
  cases FairnessSpec.dispatch.find? (fun d => d.1 == t) with
  | none => rfl
  | some d => cases h : aggOfName d.2.1 <;> simp [h]

/-- the lifted dispatch table, read through `aggOfName`, sends every transform string to the MetricFrame method
    `variantSpec` says, and knows no other transform -/
theorem dispatch_variant (t : String) :
    (FairnessSpec.dispatch.find? (fun d => d.1 == t)).bind
      (fun d => (aggOfName d.2.1).map (fun k => (k, d.2.2))) = variantSpec t := by
  unfold variantSpec
  split
  · decide +kernel
  · decide +kernel
  · decide +kernel
  · decide +kernel
  · next h1 h2 h3 h4 =>
    have e : FairnessSpec.dispatch.find? (fun d => d.1 == t) = none := by
      simp only [FairnessSpec.dispatch, List.find?_cons, List.find?_nil,
        beq_eq_false_iff_ne.mpr (Ne.symm h1), beq_eq_false_iff_ne.mpr (Ne.symm h2),
        beq_eq_false_iff_ne.mpr (Ne.symm h3), beq_eq_false_iff_ne.mpr (Ne.symm h4)]
    rw [e]; rfl

theorem derived_variant (m : Metric) (t : String) (meth : Method) (nsf : Nat) (rows : List (Row Dat)) :
    derived m t meth nsf rows = (variantSpec t).map (fun kb => run m kb.1 meth kb.2 nsf rows) := by
  rw [derived_eq, dispatch_variant]

/-- a function created by `make_derived_metric` returns what the equivalent MetricFrame call returns:
    `difference(method=…)`, `ratio(method=…)`, `group_min()`, `group_max()` of the frame of that metric
    (the `method` argument is passed on to difference/ratio only) -/
theorem derived_eq_metricframe (m : Metric) (meth : Method) (nsf : Nat) (rows : List (Row Dat)) :
    derived m "difference" meth nsf rows = some (run m .difference meth true nsf rows) ∧
    derived m "ratio" meth nsf rows = some (run m .ratio meth true nsf rows) ∧
    derived m "group_min" meth nsf rows = some (run m .groupMin meth false nsf rows) ∧
    derived m "group_max" meth nsf rows = some (run m .groupMax meth false nsf rows) := by
  simp only [derived_variant, variantSpec, Option.map_some, and_self]

/-- group_min / group_max do not depend on the `method` argument -/
theorem run_group_method_irrelevant (m : Metric) (meth : Method) (b : Bool) (nsf : Nat) (rows : List (Row Dat)) :
    run m .groupMin meth b nsf rows = run m .groupMin .between true nsf rows ∧
    run m .groupMax meth b nsf rows = run m .groupMax .between true nsf rows :=
  ⟨rfl, rfl⟩

/-! ### argument plumbing of `make_derived_metric` (`Model/Derived.lean` over the generated `DerivedSpec`) -/

/-- The constructor succeeds exactly when the metric is callable, does not itself take a reserved
    transform parameter (`method`), and the transform is one of the four options; it then stores the
    transform and the sample parameter names (`None` ↦ no sample parameters).  Every way it fails is a
    ValueError (non-callable metric, a metric that takes `method`, an unknown transform string) — in
    particular `inspect.signature` (TypeError) is never reached for a non-callable. -/
theorem derived_make_eq (mi : Derived.MetricInfo) (tr : String) (spn : Option (List String)) :
    Derived.make mi tr spn =
      if mi.callable = true ∧ "method" ∉ mi.sigParams ∧ tr ∈ FairnessSpec.transformOptions
      then .ok ⟨tr, spn.getD []⟩ else .error .valueError := by
  obtain ⟨c, hn, sp, aa⟩ := mi
  cases c <;> by_cases hm : "method" ∈ sp <;> by_cases ht : tr ∈ FairnessSpec.transformOptions <;>
    simp [Derived.make, Derived.runChecks, Derived.checkStep, DerivedSpec.initChecks,
      FairnessSpec.parametersForTransforms, hm, ht]

theorem derived_make_ok_iff (mi : Derived.MetricInfo) (tr : String) (spn : Option (List String)) :
    Derived.make mi tr spn = .ok ⟨tr, spn.getD []⟩ ↔
      (mi.callable = true ∧ "method" ∉ mi.sigParams ∧ tr ∈ FairnessSpec.transformOptions) := by
  rw [derived_make_eq]
  split
  · exact iff_of_true rfl ‹_›
  · exact iff_of_false (by rintro ⟨⟩) ‹_›

theorem derived_make_error_is_valueError (mi : Derived.MetricInfo) (tr : String) (spn : Option (List String))
    (e : Derived.Out) (h : Derived.make mi tr spn = .error e) : e = .valueError := by
  rw [derived_make_eq] at h
  split at h
  · cases h
  · injection h with h; exact h.symm

theorem derived_make_fails (mi : Derived.MetricInfo) (tr : String) (spn : Option (List String))
    (h : mi.callable = false ∨ "method" ∈ mi.sigParams ∨ tr ∉ FairnessSpec.transformOptions) :
    Derived.make mi tr spn = .error .valueError := by
  rw [derived_make_eq, if_neg]
  rintro ⟨h1, h2, h3⟩
  rcases h with h | h | h
  · rw [h1] at h; cases h
  · exact h2 h
  · exact h h3

/-- Routing of `**other_params`: a name listed in `sample_param_names` is a sample parameter (even
    `method`); otherwise `method` is a transform parameter; every other name is bound to the metric. -/
theorem derived_route (spn : List String) (k : String) :
    Derived.route spn k =
      if k ∈ spn then "sample" else if k = "method" then "transform" else "bound" := by
  have e1 : Derived.inCollection "sample_param_names" spn k = decide (k ∈ spn) := by
    rw [Derived.inCollection, if_pos rfl, List.contains_eq_mem]
  have e2 : Derived.inCollection "parameters_for_transforms" spn k = decide (k = "method") := by
    rw [Derived.inCollection, if_neg (by decide), if_pos rfl, FairnessSpec.parametersForTransforms,
      List.contains_eq_mem]
    exact decide_eq_decide.mpr List.mem_singleton
  unfold Derived.route
  rw [DerivedSpec.routeChain, List.find?_cons, e1]
  by_cases h1 : k ∈ spn
  · rw [decide_eq_true h1, if_pos h1]
  · rw [decide_eq_false h1, if_neg h1, List.find?_cons, e2]
    by_cases h2 : k = "method"
    · rw [decide_eq_true h2, if_pos h2]
    · rw [decide_eq_false h2, if_neg h2]; rfl

/-- with the default `sample_param_names`, `method` reaches the transform and `sample_weight` is sliced -/
theorem derived_route_default :
    Derived.route DerivedSpec.defaultSampleParamNames "method" = "transform" ∧
    Derived.route DerivedSpec.defaultSampleParamNames "sample_weight" = "sample" ∧
    Derived.route DerivedSpec.defaultSampleParamNames "pos_label" = "bound" := by
  decide +kernel

theorem finish_variant (d : Derived.Made) (meth : Option Derived.KwVal) (nsf : Nat) (rows : List (Row Dat)) :
    Derived.finish d meth nsf rows = (variantSpec d.transform).bind fun kb =>
      if kb.2 then
        match meth with
        | none => some (Derived.ofRes (run .meanpred kb.1 .between true nsf rows))
        | some (.str s) =>
          match Derived.parseMethodStr s with
          | none => some .valueError
          | some m => some (Derived.ofRes (run .meanpred kb.1 m true nsf rows))
        | some _ => none
      else some (Derived.ofRes (run .meanpred kb.1 .between false nsf rows)) := by
  rw [← dispatch_variant]
  unfold Derived.finish
  cases FairnessSpec.dispatch.find? (fun e => e.1 == d.transform) with
  | none => rfl
  | some disp =>
    cases h : aggOfName disp.2.1 <;>
      simp only [h, Option.bind_eq_bind, Option.bind_some, Option.bind_none, Option.map_some, Option.map_none]
    rfl

/-- "returns what the equivalent MetricFrame call returns": after the routing, the call IS the frame
    construction + aggregate of `Fairness.derived` (the model of every generated `<metric>_<transform>`
    function), for every transform, dataset and valid `method=` string; without `method=` it is the
    default `between_groups`. -/
theorem derived_finish_eq (d : Derived.Made) (s : String) (m : Method) (hm : Derived.parseMethodStr s = some m)
    (nsf : Nat) (rows : List (Row Dat)) :
    Derived.finish d (some (.str s)) nsf rows = (derived .meanpred d.transform m nsf rows).map Derived.ofRes ∧
    Derived.finish d none nsf rows = (derived .meanpred d.transform .between nsf rows).map Derived.ofRes := by
  simp only [finish_variant, derived_variant]
  rcases variantSpec d.transform with _ | ⟨k, _ | _⟩
  · exact ⟨rfl, rfl⟩
  · exact ⟨rfl, rfl⟩
  · simp only [Option.bind_some, if_true, hm, Option.map_some, and_self]

/-- an unknown `method=` string makes difference / ratio raise ValueError, while group_min / group_max
    never look at it -/
theorem derived_bad_method (d : Derived.Made) (s : String) (hs : Derived.parseMethodStr s = none)
    (nsf : Nat) (rows : List (Row Dat)) :
    (d.transform = "difference" ∨ d.transform = "ratio" → Derived.finish d (some (.str s)) nsf rows = some .valueError) ∧
    (d.transform = "group_min" ∨ d.transform = "group_max" →
      Derived.finish d (some (.str s)) nsf rows = Derived.finish d none nsf rows) := by
  simp only [finish_variant]
  constructor <;> rintro (h | h) <;>
    simp only [h, variantSpec, hs, Option.bind_some, if_true, Bool.false_eq_true, if_false]

/-- STRICT name rule (`self._metric_fn.__name__` read without fallback — finding F17, DESIGN.md section 5): a
    callable without `__name__` (a `functools.partial` object, a callable instance) passes the constructor
    but every call raises AttributeError, although the equivalent `MetricFrame(metrics=functools.partial(...))`
    call answers. -/
theorem derived_nameless_raises (mi : Derived.MetricInfo) (hn : mi.hasName = false) (d : Derived.Made)
    (kw : List (String × Derived.KwVal)) (ys ps : List Rat) (cols : List (List Level)) :
    Derived.callWith true mi d kw ys ps cols = some .attributeError := by
  unfold Derived.callWith
  rw [hn]; rfl

/-- CURRENT source (name rule lifted into `DerivedSpec.readsName`): whether the metric object has a
    `__name__` makes no difference — a nameless callable gives exactly the result of the same metric as a
    plain function, i.e. the MetricFrame result of `derived_finish_eq`. -/
theorem derived_nameless_ok (mi : Derived.MetricInfo) (d : Derived.Made)
    (kw : List (String × Derived.KwVal)) (ys ps : List Rat) (cols : List (List Level)) :
    Derived.call mi d kw ys ps cols = Derived.call { mi with hasName := true } d kw ys ps cols := rfl

/-! ### the whole `_DerivedMetric.__call__`: routing, then the MetricFrame call -/

/-- For a metric that accepts `sample_weight` (in its signature or through `**kwargs`), created with
    `sample_weight` among the sample parameter names and `method` not among them (the default), the call
    `dm(y_true, y_pred, sensitive_features=cols, sample_weight=w[, method=s])` IS the MetricFrame
    construction on the rows weighted by `w`, followed by the transform's aggregate with `method=s`
    (`Derived.finish`, which `derived_finish_eq` identifies with `Fairness.derived`): the driver op
    `derived.call` evaluates exactly this function. -/
theorem derived_call_eq_finish (mi : Derived.MetricInfo) (d : Derived.Made) (w ys ps : List Rat)
    (cols : List (List Level)) (ms : Option String)
    (hsig : mi.acceptsAny = true ∨ "sample_weight" ∈ mi.sigParams)
    (hspn : "sample_weight" ∈ d.spn) (hmeth : "method" ∉ d.spn) :
    Derived.call mi d (("sample_weight", Derived.KwVal.col w) ::
        (match ms with | none => [] | some s => [("method", Derived.KwVal.str s)])) ys ps cols =
      (MetricPool.mkRows 0 ys ps w (ys.map (fun _ => 0)) cols).bind
        (fun rows => if rows.isEmpty then none
          else Derived.finish d (ms.map Derived.KwVal.str) cols.length rows) := by
  have r1 : Derived.route d.spn "sample_weight" = "sample" := by rw [derived_route, if_pos hspn]
  have r2 : Derived.route d.spn "method" = "transform" := by rw [derived_route, if_neg hmeth, if_pos rfl]
  have hc : mi.acceptsAny = false → "sample_weight" ∉ mi.sigParams → False := by
    intro h1 h2
    rcases hsig with h | h
    · rw [h] at h1; cases h1
    · exact h2 h
  cases ms with
  | none =>
    simp [Derived.call, Derived.callWith, DerivedSpec.readsName, Derived.lookupKw, r1]
    intro h1 h2; exact absurd h2 (fun h2 => hc h1 h2)
  | some s =>
    simp [Derived.call, Derived.callWith, DerivedSpec.readsName, Derived.lookupKw, r1, r2]
    intro h1 h2; exact absurd h2 (fun h2 => hc h1 h2)

-- its hypotheses with the default sample_param_names and the signature of the harness's plain metric
example : "sample_weight" ∈ DerivedSpec.defaultSampleParamNames ∧ "method" ∉ DerivedSpec.defaultSampleParamNames ∧
    "sample_weight" ∈ ["sample_weight", "scale"] := by decide +kernel

theorem generatedNames_nodup : (generatedNames.map (·.1)).Nodup := by decide +kernel

/-- every variant listed in METRICS_SPEC is a transform `make_derived_metric` accepts and
    `_DerivedMetric.__call__` dispatches; the generated names are pairwise distinct -/
theorem metrics_spec_wellformed :
    (∀ e ∈ FairnessSpec.metricsSpec, ∀ v ∈ e.2, v ∈ FairnessSpec.transformOptions) ∧
    (∀ t ∈ FairnessSpec.transformOptions, (FairnessSpec.dispatch.find? (fun d => d.1 == t)).isSome) ∧
    (generatedNames.map (·.1)).Nodup ∧
    FairnessSpec.sampleParamNames = ["sample_weight"] :=
  ⟨by decide +kernel, by decide +kernel, generatedNames_nodup, rfl⟩

theorem generated_of_mem {g : String × String × String} (hg : g ∈ generatedNames) {m : Metric}
    (hm : baseOfName g.2.1 = some m) (meth : Method) (nsf : Nat) (rows : List (Row Dat)) :
    generated g.1 meth nsf rows =
      some ((variantSpec g.2.2).map (fun kb => run m kb.1 meth kb.2 nsf rows)) := by
  unfold generated
  rw [find?_key_of_nodup _ generatedNames_nodup g hg]
  simp only [Option.bind_eq_bind, Option.bind_some, hm, Option.pure_def, derived_variant]

/-- e.g. the generated `selection_rate_difference` IS `make_derived_metric(selection_rate, "difference")`,
    hence equals demographic_parity_difference -/
theorem selection_rate_difference_eq_dp (meth : Method) (nsf : Nat) (rows : List (Row Dat)) :
    generated "selection_rate_difference" meth nsf rows =
      some (named "demographic_parity_difference" meth nsf rows) := by
  rw [demographic_parity_difference_def, generated_of_mem
    (g := ("selection_rate_difference", "selection_rate", "difference")) (m := .selrate)
    (by decide +kernel) (by decide +kernel)]
  rfl

theorem true_positive_rate_ratio_eq_eopp (meth : Method) (nsf : Nat) (rows : List (Row Dat)) :
    generated "true_positive_rate_ratio" meth nsf rows =
      some (named "equal_opportunity_ratio" meth nsf rows) := by
  rw [equal_opportunity_ratio_def, generated_of_mem
    (g := ("true_positive_rate_ratio", "true_positive_rate", "ratio")) (m := .tpr)
    (by decide +kernel) (by decide +kernel)]
  rfl

/-! ### the WHOLE generated family `<metric>_{difference,ratio,group_min,group_max}`, from the lifted table

`generatedNames` is computed from the lifted `METRICS_SPEC`; the theorems below quantify over ALL its
entries whose base metric the model can evaluate (9 of 16 bases, 18 of 25 functions: `generated_bases`),
instead of naming two of them. -/

/-- first-principles definition of the base metrics of the model: the nine that occur in `METRICS_SPEC`
    (`generated_bases`) and `mean_prediction` -/
def specOf : Metric → Option (List Dat → Rat)
  | .selrate => some selRateSpec
  | .tpr => some tprSpec | .fpr => some fprSpec | .tnr => some tnrSpec | .fnr => some fnrSpec
  | .accuracy => some accuracySpec | .zeroOne => some zeroOneSpec
  | .mae => some maeSpec | .mse => some mseSpec
  | .meanpred => some meanPredictionSpec
  | _ => none

/-- on valid binary data every such base metric returns its first-principles value on EVERY non-empty
    slice (each group, single-member groups, the whole data) -/
theorem finiteOn_of_spec {m : Metric} {sp : List Dat → Rat} {nsf : Nat} {rows : List (Row Dat)}
    (hv : Valid nsf rows) (hb : BinaryRows rows) (hs : specOf m = some sp) :
    FiniteOn (eval m) sp rows := by
  cases m <;> simp only [specOf, Option.some.injEq, reduceCtorEq] at hs <;> subst hs
  · exact selrate_finiteOn hv
  · exact tpr_finiteOn hb
  · exact fpr_finiteOn hb
  · exact finiteOn_of_binary hb tnr_eq_spec
  · exact finiteOn_of_binary hb fnr_eq_spec
  · exact finiteOn_of_pos hv meanpred_eq_spec
  · exact finiteOn_of_pos hv accuracy_eq_spec
  · exact finiteOn_of_pos hv zeroOne_eq_spec
  · exact finiteOn_of_pos hv mae_eq_spec
  · exact finiteOn_of_pos hv mse_eq_spec

/-- EVERY generated function whose base metric is in the model is the MetricFrame aggregate its name
    says, of the frame of its base metric: for all datasets, both `method` values -/
theorem generated_family (g : String × String × String) (hg : g ∈ generatedNames) (m : Metric)
    (hm : baseOfName g.2.1 = some m) (meth : Method) (nsf : Nat) (rows : List (Row Dat)) :
    ∃ k b, variantSpec g.2.2 = some (k, b) ∧
      generated g.1 meth nsf rows = some (some (run m k meth b nsf rows)) := by
  -- every variant the lifted `METRICS_SPEC` lists is one `variantSpec` knows (finite table)
  have hvs : ∀ g ∈ generatedNames, (variantSpec g.2.2).isSome = true := by decide +kernel
  obtain ⟨⟨k, b⟩, hkb⟩ := Option.isSome_iff_exists.mp (hvs g hg)
  exact ⟨k, b, hkb, by rw [generated_of_mem hg hm, hkb]; rfl⟩

/-- … and hence returns the value obtained by computing the base metric of each group DIRECTLY FROM THE
    ROWS (`sp`, the first-principles definition) and applying min / max / max−min / min÷max or their
    to_overall variants — the clause of the property for the whole generated family. -/
theorem generated_eq_spec (g : String × String × String) (hg : g ∈ generatedNames) (m : Metric)
    (hm : baseOfName g.2.1 = some m) (sp : List Dat → Rat) (hsp : specOf m = some sp)
    (nsf : Nat) (rows : List (Row Dat)) (hv : Valid nsf rows) (hb : BinaryRows rows) :
    (g.2.2 = "group_min" → ∀ meth, ∃ mn, IsGroupMin sp rows mn ∧
        generated g.1 meth nsf rows = some (some (.value (fin mn)))) ∧
    (g.2.2 = "group_max" → ∀ meth, ∃ mx, IsGroupMax sp rows mx ∧
        generated g.1 meth nsf rows = some (some (.value (fin mx)))) ∧
    (g.2.2 = "difference" →
        (∃ mn mx, IsGroupMin sp rows mn ∧ IsGroupMax sp rows mx ∧
          generated g.1 .between nsf rows = some (some (.value (fin (mx - mn))))) ∧
        (∃ D, generated g.1 .toOverall nsf rows = some (some (.value (fin D))) ∧
          (∃ r ∈ rows, D = |sp (groupOf rows r) - sp (slice rows)|) ∧
          ∀ r ∈ rows, |sp (groupOf rows r) - sp (slice rows)| ≤ D)) ∧
    (g.2.2 = "ratio" →
        (∃ mn mx, IsGroupMin sp rows mn ∧ IsGroupMax sp rows mx ∧
          generated g.1 .between nsf rows = some (some (.value (XR.div (fin mn) (fin mx))))) ∧
        (sp (slice rows) ≠ 0 → ∃ ρ, generated g.1 .toOverall nsf rows = some (some (.value (fin ρ))) ∧
          (∃ r ∈ rows, ρ = subOne (sp (groupOf rows r) / sp (slice rows))) ∧
          ∀ r ∈ rows, ρ ≤ subOne (sp (groupOf rows r) / sp (slice rows)))) := by
  have hf := finiteOn_of_spec hv hb hsp
  have hgen := fun meth => generated_of_mem hg hm meth nsf rows
  refine ⟨fun ht meth => ?_, fun ht meth => ?_, fun ht => ⟨?_, ?_⟩, fun ht => ⟨?_, fun ho => ?_⟩⟩ <;>
    simp only [hgen, ht, variantSpec, Option.map_some, Option.some.injEq]
  -- `group_min()` / `group_max()` are called without `method=`, which they never look at
  · exact group_min_spec hv hf meth
  · exact group_max_spec hv hf meth
  · exact difference_between_spec hv hf
  · exact difference_overall_spec hv hf
  · exact ratio_between_spec hv hf
  · exact ratio_overall_spec hv hf ho

/-- coverage of the lifted `METRICS_SPEC` by the model: 9 base metrics (18 generated functions) are
    evaluated by the model and each has a first-principles definition in `specOf`; the other 7 bases
    (7 functions, all `group_min` / `group_max` of sklearn-only scores) are OUTSIDE the Lean model
    (`generated … = some none`): for them the property is checked only by the correspondence harness
    against sklearn on first-principles slices. -/
theorem generated_bases :
    (FairnessSpec.metricsSpec.filter (fun e => (baseOfName e.1).isSome)).map (·.1) =
      ["true_positive_rate", "true_negative_rate", "false_positive_rate", "false_negative_rate",
       "selection_rate", "accuracy_score", "zero_one_loss", "mean_absolute_error", "mean_squared_error"] ∧
    (FairnessSpec.metricsSpec.filter (fun e => !(baseOfName e.1).isSome)).map (·.1) =
      ["balanced_accuracy_score", "precision_score", "recall_score", "roc_auc_score", "r2_score",
       "f1_score", "log_loss"] ∧
    (∀ e ∈ FairnessSpec.metricsSpec, ∀ m, baseOfName e.1 = some m → (specOf m).isSome = true) ∧
    generatedNames.length = 25 ∧
    (generatedNames.filter (fun g => (baseOfName g.2.1).isSome)).length = 18 := by
  -- one evaluation of the table: the third clause in its decidable form
  have hc : (∀ e ∈ FairnessSpec.metricsSpec, ∀ m, baseOfName e.1 = some m → (specOf m).isSome = true) ↔
      ∀ e ∈ FairnessSpec.metricsSpec,
        (match baseOfName e.1 with | some m => (specOf m).isSome | none => true) = true :=
    forall₂_congr fun e _ => by cases baseOfName e.1 <;> simp
  rw [hc]
  decide +kernel

/-! ### the MetricFrame accessor a fairness function calls is read from the LIFTED result cache

`Fairness.applyAgg` (used by `run`, `named`, `eodds`, `derived`, `generated` and by the driver ops `fair.eval` /
`fair.derived`) is computed WITH `Generated/PopulateSrc.lean` (lifter `populate.py`: the default `errors=` / `method=` of
`MetricFrame.group_min / group_max / difference / ratio`, the cache slot each of them returns, the `(method, errors)` the
loops of `_populate_results` computed that slot with, the `no_control_levels=` flag) and the lifted `_extract_result` of
`Generated/FrameSrc.lean`.  The theorems below say that this is the call every other theorem of this file is about:
`difference(method=m)` / `ratio(method=m)` with errors='coerce', `group_min()` / `group_max()` with errors='raise',
`between_groups` when `method=` is not passed on, and `.iloc[0]` of the one-entry result.  A source edit that changes a
default, the slot an accessor reads, the errors / method value a slot is computed with or the extract flag breaks them. -/

theorem applyAgg_lifted_eq_model {α : Type} (k : AggKind) (meth : Method) (withMethod : Bool) (nsf : Nat)
    (f : List α → Cell) (rows : List (Row α)) :
    applyAgg k meth withMethod (ofFrame 0 nsf f rows) = applyAggModel k meth withMethod (ofFrame 0 nsf f rows) :=
  applyAgg_lifted_eq k meth withMethod _ rfl

/-- `run` (one MetricFrame of a bare callable + one accessor call) in terms of the hard-coded accessor model -/
theorem run_lifted_eq_model (m : Metric) (k : AggKind) (meth : Method) (withMethod : Bool) (nsf : Nat)
    (rows : List (Row Dat)) :
    run m k meth withMethod nsf rows =
      if frameRaised (ofFrame 0 nsf (eval m) rows) then .raised
      else extract (applyAggModel k meth withMethod (ofFrame 0 nsf (eval m) rows)) := by
  unfold run
  simp only [applyAgg_lifted_eq_model]

/-- the accessor call itself: documented defaults, and the scalar (`.iloc[0]`) is what is handed out -/
theorem src_accessor_calls (k : AggKind) (meth : Method) (withMethod : Bool) (t : Tables) (h : t.ncf = 0) :
    applyAggGot k meth withMethod t = .got .entry0 (applyAggModel k meth withMethod t) :=
  applyAggGot_eq k meth withMethod t h

/-! ### Non-vacuity and regression examples -/

/-- three rows, groups a | b b, weights 2 1 3 (the input of defect F1, DESIGN.md section 5:
    a WEIGHTED SINGLE-ROW group) -/
def exF1 : List (Row Dat) :=
  [⟨⟨1, 1, 2, 0⟩, [], ["a"]⟩, ⟨⟨0, 0, 1, 0⟩, [], ["b"]⟩, ⟨⟨1, 0, 3, 0⟩, [], ["b"]⟩]

example : Valid 1 exF1 := ⟨by decide, by decide, by decide, by decide +kernel⟩
example : BinaryRows exF1 := by decide +kernel
example : named "demographic_parity_difference" .between 1 exF1 = some (.value (fin 1)) := by decide +kernel
example : named "demographic_parity_ratio" .between 1 exF1 = some (.value (fin 0)) := by decide +kernel
example : named "demographic_parity_difference" .toOverall 1 exF1 = some (.value (fin (2/3))) := by decide +kernel
example : named "equal_opportunity_difference" .between 1 exF1 = some (.value (fin 1)) := by decide +kernel
example : eodds "equalized_odds_difference" .between .worstCase 1 exF1 = some (.value (fin 1)) := by decide +kernel
example : eodds "equalized_odds_difference" .between .mean 1 exF1 = some (.value (fin (1/2))) := by decide +kernel
-- FPR is 0 in both groups: the FPR ratio is 0/0 = NaN; TPR ratio 0/1 = 0; Python min(0, nan) = 0
example : eodds "equalized_odds_ratio" .between .worstCase 1 exF1 = some (.value (fin 0)) := by decide +kernel
-- a group without positives: TPR := 0 there (empty denominator)
example : eval .tpr [⟨0, 1, 1, 0⟩, ⟨0, 0, 2, 0⟩] = .scalar (fin 0) := by decide +kernel
-- non-binary labels are rejected by the rate metrics (the function raises)
example : named "equal_opportunity_difference" .between 1 [⟨⟨2, 1, 1, 0⟩, [], ["a"]⟩] = some .raised := by
  decide +kernel
example : generated "roc_auc_score_group_min" .between 1 exF1 = some none := by decide +kernel
example : generated "accuracy_score_group_min" .between 1 exF1 = some (some (.value (fin (1/4)))) := by decide +kernel

/-- seven weighted rows, groups a (3 rows) | b (4 rows), both labels in each group -/
def exEO : List (Row Dat) :=
  [⟨⟨1, 1, 1, 0⟩, [], ["a"]⟩, ⟨⟨0, 1, 2, 0⟩, [], ["a"]⟩, ⟨⟨0, 0, 1, 0⟩, [], ["a"]⟩,
   ⟨⟨1, 1, 1, 0⟩, [], ["b"]⟩, ⟨⟨1, 0, 1, 0⟩, [], ["b"]⟩, ⟨⟨0, 1, 1, 0⟩, [], ["b"]⟩, ⟨⟨0, 0, 3, 0⟩, [], ["b"]⟩]

-- ALL hypotheses of `eodds_ratio_eq_spec` incl. the antecedents `tmx ≠ 0`, `fmx ≠ 0` (exF1 has FPR 0 everywhere):
-- TPR a = 1, b = 1/2; FPR a = 2/3, b = 1/4; ratios 1/2 and 3/8
example : Valid 1 exEO ∧ BinaryRows exEO := ⟨⟨by decide, by decide, by decide, by decide +kernel⟩, by decide +kernel⟩
example : named "equal_opportunity_ratio" .between 1 exEO = some (.value (fin (1/2))) := by decide +kernel
example : generated "false_positive_rate_ratio" .between 1 exEO = some (some (.value (fin (3/8)))) := by decide +kernel
example : eodds "equalized_odds_ratio" .between .worstCase 1 exEO = some (.value (fin (3/8))) := by decide +kernel
example : eodds "equalized_odds_ratio" .between .mean 1 exEO = some (.value (fin (7/16))) := by decide +kernel
example : eodds "equalized_odds_difference" .toOverall .mean 1 exEO = some (.value (fin (2/7))) := by decide +kernel
-- `ho` of `dp_ratio_overall_eq_spec` / `ratio_overall_spec`: overall selection rate 1/2 ≠ 0 (groups 3/4 and 1/3)
example : selRateSpec (slice exEO) = 1/2 := by decide +kernel
example : named "demographic_parity_ratio" .toOverall 1 exEO = some (.value (fin (2/3))) := by decide +kernel
-- the excluded branch: overall selection rate 0
example : named "demographic_parity_ratio" .toOverall 1 [⟨⟨0, 0, 1, 0⟩, [], ["a"]⟩, ⟨⟨1, 0, 1, 0⟩, [], ["b"]⟩] = some (.value nan) := by
  decide +kernel
-- hypotheses of `generated_eq_spec` for a group_min / group_max member of the family
example : ("accuracy_score_group_min", "accuracy_score", "group_min") ∈ generatedNames ∧
    baseOfName "accuracy_score" = some .accuracy ∧ (specOf .accuracy).isSome = true := by decide +kernel
example : generated "zero_one_loss_group_max" .between 1 exEO = some (some (.value (fin (1/2)))) := by decide +kernel
example : generated "mean_squared_error_group_max" .toOverall 1 exEO = some (some (.value (fin (1/2)))) := by decide +kernel
example : generated "true_negative_rate_difference" .toOverall 1 exEO = some (some (.value (fin (5/21)))) := by decide +kernel

end C03
