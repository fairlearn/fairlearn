/-
C03X — consistency theorems between the named fairness metrics (C03 ↔ C14 ↔ C02), for every valid dataset
(≥ 1 row, ≥ 1 sensitive column, positive weights, any number of groups):
  * equalized_odds_difference(agg="worst_case") ≥ equal_opportunity_difference (same `method`);
  * demographic_parity_ratio = 1 ⇔ demographic_parity_difference = 0 when some group has a positive selection rate;
  * differences lie in [0,1] and ratios in [0,1] for the rate metrics — whose values lie in [0,1]
    (`condFrac_unit` for TPR/FPR, `selRateSpec_unit` for the selection rate);
  * `accuracy_score_difference` = `zero_one_loss_difference`; equalized_odds_ratio(worst case) is the smaller of the
    TPR and FPR ratios, hence ≤ equal_opportunity_ratio.
-/
import FairModel.Properties.C03

namespace C03
open Fairness Frame Aggregate MetricPool XR

/-! ### (1) equalized odds dominates equal opportunity -/

/-- the difference aggregate of a finite metric is a finite number -/
theorem difference_finite {m : Metric} {g : List Dat → Rat} {nsf : Nat} {rows : List (Row Dat)}
    (hv : Valid nsf rows) (hf : FiniteOn (eval m) g rows) (meth : Method) :
    ∃ D, run m .difference meth true nsf rows = .value (fin D) ∧ 0 ≤ D := by
  cases meth
  · obtain ⟨mn, mx, ⟨_, hmn⟩, ⟨⟨r, hr, e⟩, _⟩, h⟩ := difference_between_spec hv hf
    exact ⟨mx - mn, h, sub_nonneg.mpr (e ▸ hmn r hr)⟩
  · obtain ⟨D, h, ⟨r, _, e⟩, _⟩ := difference_overall_spec hv hf
    exact ⟨D, h, e ▸ abs_nonneg _⟩

/-- **equalized_odds_difference (worst case) ≥ equal_opportunity_difference**, and also ≥ the false-positive-rate
    difference, for either `method` -/
theorem eodds_ge_eopp (meth : Method) (nsf : Nat) (rows : List (Row Dat)) (hv : Valid nsf rows)
    (hb : BinaryRows rows) :
    ∃ A F E, named "equal_opportunity_difference" meth nsf rows = some (.value (fin A)) ∧
      run .fpr .difference meth true nsf rows = .value (fin F) ∧
      eodds "equalized_odds_difference" meth .worstCase nsf rows = some (.value (fin E)) ∧
      A ≤ E ∧ F ≤ E ∧ 0 ≤ A ∧ (E = A ∨ E = F) := by
  obtain ⟨A, hA, hA0⟩ := difference_finite hv (tpr_finiteOn hb) meth
  obtain ⟨F, hF, _⟩ := difference_finite hv (fpr_finiteOn hb) meth
  refine ⟨A, F, max A F, by rw [equal_opportunity_difference_def, hA], hF, ?_, le_max_left _ _, le_max_right _ _,
    hA0, (le_total A F).elim (fun h => Or.inr (max_eq_right h)) (fun h => Or.inl (max_eq_left h))⟩
  rw [eodds_difference_of_runs hA hF, pyFold_max_fin]; rfl

/-! ### (2) ratio = 1 ⇔ difference = 0 -/

theorem groupMin_unique {g : List Dat → Rat} {rows : List (Row Dat)} {a b : Rat}
    (ha : IsGroupMin g rows a) (hb : IsGroupMin g rows b) : a = b := by
  obtain ⟨⟨r1, hr1, e1⟩, h1⟩ := ha
  obtain ⟨⟨r2, hr2, e2⟩, h2⟩ := hb
  apply le_antisymm
  · rw [e2]; exact h1 r2 hr2
  · rw [e1]; exact h2 r1 hr1

theorem groupMax_unique {g : List Dat → Rat} {rows : List (Row Dat)} {a b : Rat}
    (ha : IsGroupMax g rows a) (hb : IsGroupMax g rows b) : a = b := by
  obtain ⟨⟨r1, hr1, e1⟩, h1⟩ := ha
  obtain ⟨⟨r2, hr2, e2⟩, h2⟩ := hb
  apply le_antisymm
  · rw [e1]; exact h2 r1 hr1
  · rw [e2]; exact h1 r2 hr2

/-- for any finite metric with a positive largest group value: between-groups ratio = 1 ⇔ difference = 0 -/
theorem ratio_one_iff_difference_zero {m : Metric} {g : List Dat → Rat} {nsf : Nat} {rows : List (Row Dat)}
    (hv : Valid nsf rows) (hf : FiniteOn (eval m) g rows) (hpos : ∃ r ∈ rows, 0 < g (groupOf rows r)) :
    ∃ ρ D, run m .ratio .between true nsf rows = .value (fin ρ) ∧
      run m .difference .between true nsf rows = .value (fin D) ∧ (ρ = 1 ↔ D = 0) := by
  obtain ⟨mn, mx, h1, h2, h3⟩ := ratio_between_spec hv hf
  obtain ⟨mn', mx', h1', h2', h3'⟩ := difference_between_spec hv hf
  have e1 := groupMin_unique h1 h1'
  have e2 := groupMax_unique h2 h2'
  subst e1; subst e2
  obtain ⟨r, hr, hp⟩ := hpos
  have hmx : 0 < mx := lt_of_lt_of_le hp (h2.2 r hr)
  refine ⟨mn / mx, mx - mn, by rw [h3, div_fin_fin, if_neg (ne_of_gt hmx)], h3', ?_⟩
  rw [div_eq_one_iff_eq (ne_of_gt hmx), sub_eq_zero, eq_comm]

/-- **demographic_parity_ratio = 1 ⇔ demographic_parity_difference = 0** (between groups) as soon as some group has
    a positive selection rate (in particular when all have) -/
theorem dp_ratio_one_iff_difference_zero (nsf : Nat) (rows : List (Row Dat)) (hv : Valid nsf rows)
    (hpos : ∃ r ∈ rows, 0 < selRateSpec (groupOf rows r)) :
    ∃ ρ D, named "demographic_parity_ratio" .between nsf rows = some (.value (fin ρ)) ∧
      named "demographic_parity_difference" .between nsf rows = some (.value (fin D)) ∧ (ρ = 1 ↔ D = 0) := by
  simpa only [demographic_parity_ratio_def, demographic_parity_difference_def, Option.some.injEq] using
    ratio_one_iff_difference_zero hv (selrate_finiteOn hv) hpos

/-- when every selection rate is 0 the ratio is undefined (0/0 = NaN) while the difference is 0: the positivity
    hypothesis cannot be dropped -/
theorem dp_ratio_nan_when_all_zero :
    named "demographic_parity_ratio" .between 1 [⟨⟨1, 0, 1, 0⟩, [], ["a"]⟩, ⟨⟨0, 0, 1, 0⟩, [], ["b"]⟩] = some (.value nan) ∧
    named "demographic_parity_difference" .between 1 [⟨⟨1, 0, 1, 0⟩, [], ["a"]⟩, ⟨⟨0, 0, 1, 0⟩, [], ["b"]⟩]
      = some (.value (fin 0)) := by
  decide +kernel

/-! ### (3) ranges -/

/-- a metric with group values and overall value in [0,1]: the difference (either method) is in [0,1] -/
theorem difference_unit {m : Metric} {g : List Dat → Rat} {nsf : Nat} {rows : List (Row Dat)}
    (hv : Valid nsf rows) (hf : FiniteOn (eval m) g rows)
    (hu : ∀ r ∈ rows, 0 ≤ g (groupOf rows r) ∧ g (groupOf rows r) ≤ 1)
    (ho : 0 ≤ g (slice rows) ∧ g (slice rows) ≤ 1) (meth : Method) :
    ∃ D, run m .difference meth true nsf rows = .value (fin D) ∧ 0 ≤ D ∧ D ≤ 1 := by
  cases meth
  · obtain ⟨mn, mx, ⟨⟨r1, hr1, e1⟩, hmn⟩, ⟨⟨r2, hr2, e2⟩, _⟩, h⟩ := difference_between_spec hv hf
    refine ⟨mx - mn, h, sub_nonneg.mpr (e2 ▸ hmn r2 hr2), ?_⟩
    rw [e1, e2]; exact (sub_le_self _ (hu r1 hr1).1).trans (hu r2 hr2).2
  · obtain ⟨D, h, ⟨r, hr, e⟩, _⟩ := difference_overall_spec hv hf
    refine ⟨D, h, e ▸ abs_nonneg _, ?_⟩
    rw [e]
    exact abs_sub_le_iff.mpr ⟨(sub_le_self _ ho.1).trans (hu r hr).2, (sub_le_self _ (hu r hr).1).trans ho.2⟩

/-- a metric with non-negative group values, one of them positive: the between-groups ratio is in [0,1] -/
theorem ratio_between_unit {m : Metric} {g : List Dat → Rat} {nsf : Nat} {rows : List (Row Dat)}
    (hv : Valid nsf rows) (hf : FiniteOn (eval m) g rows) (hu : ∀ r ∈ rows, 0 ≤ g (groupOf rows r))
    (hpos : ∃ r ∈ rows, 0 < g (groupOf rows r)) :
    ∃ ρ, run m .ratio .between true nsf rows = .value (fin ρ) ∧ 0 ≤ ρ ∧ ρ ≤ 1 := by
  obtain ⟨r, hr, hp⟩ := hpos
  obtain ⟨mn, mx, ⟨⟨r1, hr1, e1⟩, hmn⟩, ⟨⟨r2, hr2, e2⟩, hmx⟩, h⟩ := ratio_between_spec hv hf
  have hmxp : 0 < mx := lt_of_lt_of_le hp (hmx r hr)
  refine ⟨mn / mx, by rw [h, div_fin_fin, if_neg (ne_of_gt hmxp)],
    div_nonneg (e1 ▸ hu r1 hr1) (le_of_lt hmxp), (div_le_one hmxp).mpr (e2 ▸ hmn r2 hr2)⟩

/-- the selection rate of any non-empty slice with positive weights lies in [0,1] -/
theorem selRateSpec_unit (ds : List Dat) (hw : ∀ d ∈ ds, 0 < d.p0) (hne : ds ≠ []) :
    0 ≤ selRateSpec ds ∧ selRateSpec ds ≤ 1 := by
  have hpos := wsum_true_pos hw hne
  have hw' : ∀ d ∈ ds, 0 ≤ d.p0 := fun d hd => le_of_lt (hw d hd)
  have hs := wsum_split (fun _ => true) (fun d => d.pred == 1) ds
  simp only [Bool.true_and] at hs
  have h1 := wsum_nonneg (fun d => d.pred == 1) ds hw'
  have h2 := wsum_nonneg (fun d => !(d.pred == 1)) ds hw'
  unfold selRateSpec
  exact ⟨div_nonneg h1 (le_of_lt hpos), by rw [div_le_one hpos, hs]; exact le_add_of_nonneg_right h2⟩

theorem group_weights {nsf : Nat} {rows : List (Row Dat)} (hv : Valid nsf rows) (r : Row Dat) :
    ∀ d ∈ groupOf rows r, 0 < d.p0 := by
  intro d hd
  obtain ⟨r', hr', rfl⟩ := slice_sub r.key d hd
  exact hv.wpos r' hr'

theorem slice_weights {nsf : Nat} {rows : List (Row Dat)} (hv : Valid nsf rows) :
    ∀ d ∈ slice rows, 0 < d.p0 := by
  intro d hd
  obtain ⟨r', hr', rfl⟩ := List.mem_map.mp hd
  exact hv.wpos r' hr'

/-- **demographic_parity_difference ∈ [0,1] (both methods), demographic_parity_ratio(between) ∈ [0,1]** -/
theorem dp_ranges (nsf : Nat) (rows : List (Row Dat)) (hv : Valid nsf rows) :
    (∃ D, named "demographic_parity_difference" .between nsf rows = some (.value (fin D)) ∧ 0 ≤ D ∧ D ≤ 1) ∧
    (∃ D, named "demographic_parity_difference" .toOverall nsf rows = some (.value (fin D)) ∧ 0 ≤ D ∧ D ≤ 1) ∧
    ((∃ r ∈ rows, 0 < selRateSpec (groupOf rows r)) →
      ∃ ρ, named "demographic_parity_ratio" .between nsf rows = some (.value (fin ρ)) ∧ 0 ≤ ρ ∧ ρ ≤ 1) := by
  have hne : slice rows ≠ [] := by simpa [slice] using hv.ne
  have hu := fun r (hr : r ∈ rows) => selRateSpec_unit _ (group_weights hv r) (groupOf_ne_nil hr)
  have hd := difference_unit hv (selrate_finiteOn hv) hu (selRateSpec_unit _ (slice_weights hv) hne)
  simp only [demographic_parity_ratio_def, demographic_parity_difference_def, Option.some.injEq]
  exact ⟨hd .between, hd .toOverall, ratio_between_unit hv (selrate_finiteOn hv) fun r hr => (hu r hr).1⟩

/-- **equal_opportunity_difference ∈ [0,1], equalized_odds_difference (worst case) ∈ [0,1]**, both methods -/
theorem eopp_eodds_ranges (meth : Method) (nsf : Nat) (rows : List (Row Dat)) (hv : Valid nsf rows)
    (hb : BinaryRows rows) :
    ∃ A E, named "equal_opportunity_difference" meth nsf rows = some (.value (fin A)) ∧
      eodds "equalized_odds_difference" meth .worstCase nsf rows = some (.value (fin E)) ∧
      0 ≤ A ∧ A ≤ E ∧ E ≤ 1 := by
  have hg : ∀ r, ∀ d ∈ groupOf rows r, 0 ≤ d.p0 := fun r d hd => le_of_lt (group_weights hv r d hd)
  have hs : ∀ d ∈ slice rows, 0 ≤ d.p0 := fun d hd => le_of_lt (slice_weights hv d hd)
  obtain ⟨A, hA, hA0, hA1⟩ := difference_unit hv (tpr_finiteOn hb)
    (fun r _ => condFrac_unit 1 1 _ (hg r)) (condFrac_unit 1 1 _ hs) meth
  obtain ⟨F, hF, _, hF1⟩ := difference_unit hv (fpr_finiteOn hb)
    (fun r _ => condFrac_unit 0 1 _ (hg r)) (condFrac_unit 0 1 _ hs) meth
  refine ⟨A, max A F, by rw [equal_opportunity_difference_def, hA], ?_, hA0, le_max_left _ _, max_le hA1 hF1⟩
  rw [eodds_difference_of_runs hA hF, pyFold_max_fin]; rfl

/-! ### non-vacuity -/

example : Valid 1 exF1 ∧ BinaryRows exF1 := ⟨⟨by decide, by decide, by decide, by decide +kernel⟩, by decide +kernel⟩
example : ∃ r ∈ exF1, 0 < selRateSpec (groupOf exF1 r) := ⟨⟨⟨1, 1, 2, 0⟩, [], ["a"]⟩, List.Mem.head _, by decide +kernel⟩
example : named "equal_opportunity_difference" .toOverall 1 exF1 = some (.value (fin (3/5))) := by decide +kernel
example : eodds "equalized_odds_difference" .toOverall .worstCase 1 exF1 = some (.value (fin (3/5))) := by decide +kernel

/-! ### (4) `accuracy_score` and `zero_one_loss` disparities coincide; equalized-odds ratio ≤ equal-opportunity ratio -/

/-- `accuracy_score = 1 − zero_one_loss` on every non-empty slice with positive weights -/
theorem accuracy_eq_one_sub_zeroOne (ds : List Dat) (hw : ∀ d ∈ ds, 0 < d.p0) (hne : ds ≠ []) :
    accuracySpec ds = 1 - zeroOneSpec ds := by
  have hs := wsum_split (fun _ => true) (fun d => d.y == d.pred) ds
  simp only [Bool.true_and] at hs
  rw [accuracySpec, zeroOneSpec, eq_sub_iff_add_eq, ← add_div, ← hs, div_self (ne_of_gt (wsum_true_pos hw hne))]

/-- **`accuracy_score_difference` = `zero_one_loss_difference`** for every valid dataset with 0/1 labels and predictions,
    both `method`s (they are the disparity ErrorRateParity constrains, C06X `erp_difference_le_of_constraint`) -/
theorem accuracy_difference_eq_zero_one_difference (meth : Method) (nsf : Nat) (rows : List (Row Dat))
    (hv : Valid nsf rows) (hb : BinaryRows rows) :
    run .accuracy .difference meth true nsf rows = run .zeroOne .difference meth true nsf rows := by
  have hfa := finiteOn_of_spec hv hb (rfl : specOf .accuracy = some accuracySpec)
  have hfz := finiteOn_of_spec hv hb (rfl : specOf .zeroOne = some zeroOneSpec)
  have hg : ∀ r ∈ rows, accuracySpec (groupOf rows r) = 1 - zeroOneSpec (groupOf rows r) :=
    fun r hr => accuracy_eq_one_sub_zeroOne _ (group_weights hv r) (groupOf_ne_nil hr)
  have ho := accuracy_eq_one_sub_zeroOne _ (slice_weights hv) (by simpa [slice] using hv.ne)
  cases meth
  · -- the smallest accuracy is 1 − the largest loss, and vice versa
    obtain ⟨mna, mxa, hmna, hmxa, ha⟩ := difference_between_spec hv hfa
    obtain ⟨mnz, mxz, ⟨⟨r1, hr1, e1⟩, l1⟩, ⟨⟨r2, hr2, e2⟩, l2⟩, hz⟩ := difference_between_spec hv hfz
    rw [ha, hz,
      groupMin_unique hmna (b := 1 - mxz) ⟨⟨r2, hr2, by rw [hg r2 hr2, e2]⟩, fun r hr => by rw [hg r hr]; exact sub_le_sub_left (l2 r hr) 1⟩,
      groupMax_unique hmxa (b := 1 - mnz) ⟨⟨r1, hr1, by rw [hg r1 hr1, e1]⟩, fun r hr => by rw [hg r hr]; exact sub_le_sub_left (l1 r hr) 1⟩,
      sub_sub_sub_cancel_left]
  · obtain ⟨Da, ha, ⟨ra, hra, ea⟩, hla⟩ := difference_overall_spec hv hfa
    obtain ⟨Dz, hz, ⟨rz, hrz, ez⟩, hlz⟩ := difference_overall_spec hv hfz
    have key : ∀ r ∈ rows, |accuracySpec (groupOf rows r) - accuracySpec (slice rows)|
        = |zeroOneSpec (groupOf rows r) - zeroOneSpec (slice rows)| := fun r hr => by
      rw [hg r hr, ho, sub_sub_sub_cancel_left, abs_sub_comm]
    have e : Da = Dz :=
      le_antisymm (by rw [ea, key ra hra]; exact hlz ra hra) (by rw [ez, ← key rz hrz]; exact hla rz hrz)
    rw [ha, hz, e]

/-- **equalized_odds_ratio (worst case) is the smaller of the TPR and the FPR ratio**, hence at most
    `equal_opportunity_ratio` — the ratio-form companion of `eodds_ge_eopp` (whenever both ratios are finite numbers;
    the NaN cases are `eodds_general` with `pyFold_min_pair`) -/
theorem eodds_ratio_le_eopp (meth : Method) (nsf : Nat) (rows : List (Row Dat)) (hv : Valid nsf rows)
    (hb : BinaryRows rows) (A F : Rat)
    (hA : named "equal_opportunity_ratio" meth nsf rows = some (.value (fin A)))
    (hF : run .fpr .ratio meth true nsf rows = .value (fin F)) :
    eodds "equalized_odds_ratio" meth .worstCase nsf rows = some (.value (fin (min A F))) ∧
    min A F ≤ A ∧ min A F ≤ F := by
  rw [equal_opportunity_ratio_def] at hA
  rw [eodds_ratio_of_runs (Option.some.inj hA) hF, pyFold_min_fin]
  exact ⟨rfl, min_le_left _ _, min_le_right _ _⟩

example : run .accuracy .difference .between true 1 exF1 = run .zeroOne .difference .between true 1 exF1 :=
  accuracy_difference_eq_zero_one_difference .between 1 exF1 ⟨by decide, by decide, by decide, by decide +kernel⟩ (by decide +kernel)
example : run .accuracy .difference .toOverall true 1 exF1 = .value (fin (1/2)) ∧
    run .zeroOne .difference .between true 1 exF1 = .value (fin (3/4)) := by decide +kernel

end C03
