/-
C11 — sample weights mean multiplicity: weight k is k copies of the row.
Property theorems only; helper lemmas live in `Lemmas/Weights.lean`, `Lemmas/FrameWeights.lean`,
`Lemmas/PoolWeights.lean` and `Lemmas/BaseMetricsSrc.lean`.

Every statement is for ALL row lists (no size bound), all group structures, all positive integer
multiplicities (`PosMult`: every k ≥ 1 — with k = 0 the replicated data loses the row's labels and
group, so the statement is genuinely about positive weights) and all scalings c > 0.

CLAUSE → THEOREM TABLE.  Three models carry the clauses: (B) the base-metric model
`Model/BaseMetrics.lean` = ops `w.metric`; (W) the one-feature frame of `Model/Weights.lean` (`byGroup`, `frame`, named
metrics) = ops `w.frame`, `w.named`; (F) the full MetricFrame model `Model/Frame.lean` with the metric pool (any number
of sensitive / control features, re-indexed empty combinations) = op `frame.eval`; "src_" = the translated
_base_metrics.py (`Generated/BaseMetricsSrc.lean`).

 1 "weight k ≡ the row repeated k times with unit weight"
     TPR/FNR/FPR/TNR     (B) weight_is_multiplicity_rate(_tpr/_fnr/_fpr/_tnr), src_weight_is_multiplicity_rate(_ones)
                         (W) weight_is_multiplicity_by_group/_frame   (F) metricframe_rates_weight_is_multiplicity     FULL
     selection_rate      (B) weight_is_multiplicity_selection_rate, src_…   (F) metricframe_two_params_…               FULL
     mean_prediction     (B) weight_is_multiplicity_mean_prediction, src_…  (F) metricframe_two_params_…               FULL
     MetricFrame sample_params (any payload, several parameters on one metric)  (F) metricframe_weight_is_multiplicity,
                         metricframe_two_params_weight_is_multiplicity                                                FULL
     named fairness metrics (W) weight_is_multiplicity_demographic_parity/_equal_opportunity/_equalized_odds,
                         weight_is_multiplicity_difference_ratio                                                       FULL (one
                         sensitive feature; the named metrics accept several columns, which fairlearn merges into one —
                         that merge is C13's subject and is covered here by correspondence only)
 2 "multiplying all weights by a positive constant changes nothing"
     (B) scale_invariant_rate/_selection_rate/_mean_prediction, src_scale_invariant_rate/_selection_rate  (W) scale_invariant(_by_group/
     _frame/_named)  (F) metricframe_scale_invariant (generic), metricframe_pool_scale_invariant (rates + weighted means,
     IEEE quotient)                                                                                                    FULL
 3 "omitting the weights is the same as passing all ones"
     (B) none_eq_ones (the model's `attach`), ones_is_identity_replication; src_none_eq_ones (rates),
     src_none_eq_ones_selection_rate, src_none_eq_ones_mean_prediction (translated source: `np.ones(len(...))`)          FULL
     (F) by the protocol convention p0 = 1 for an omitted / None-valued sample parameter
     (`_construct_annotated_metric_function` skips None values) — correspondence only (variants omitted / None / ones)
 4 "per group inside MetricFrame, including groups that consist of a single weighted row"
     (W) replicate_commutes_with_grouping, weight_is_multiplicity_by_group, single_weighted_row_group,
     single_weighted_row_selection_rate   (F) metricframe_weight_is_multiplicity (cells AND index)                      FULL

TIE: `named_bases_are_lifted`, `eodds_worst_is_lifted`, `subOne_is_lifted` identify the hand-written named-metric
bases / worst-case builtins / `ratio_sub_one` of `Model/Weights.lean` with the text lifted by `fairness_named.py` /
`aggregate.py`.  The min / max choice of `difference` and `ratio` in `Weights.aggregate` is read from `AggregateSpec.diffAgg` etc.
(`src_aggregate_composition` is the closed form on the pinned source); `minL`/`maxL`/`rabs` themselves are hand-written.

TOTALISATION.  Every clause is an equation between the SAME function on two inputs, so a default could only make both
sides equal "by accident" where fairlearn gives two different non-numbers.  Checked: with PosMult and a non-empty input
the total weight is positive on both sides (`total_weight_positive`, `total_weight_positive_P`); the empty input raises on
both sides (`eval` returns `.error .empty` / `.tooMany`, as fairlearn does; for mean_prediction numpy gives NaN, the model's
`meanPred` an error token).  `weight_is_multiplicity_mean_prediction` needs no `PosMult`: a row of weight 0 contributes
nothing to either sum, and if ALL k are 0 both sides are 0/0 (numpy: NaN on both sides; Lean: 0 on both sides —
`mean_prediction_all_zero_is_totalisation`).  Scale invariance at total weight 0 is likewise NaN = NaN in numpy and 0 = 0
here; in the (F) model the quotient is IEEE (`MetricPool.quot`), so there it is NaN = NaN literally.  `minL [] = maxL [] = 0`
in `Weights.aggregate` is unreachable: `frame` fails before on an empty input, and a non-empty input has a group.
-/
import FairModel.Lemmas.Weights
import FairModel.Lemmas.BaseMetricsSrc
import FairModel.Lemmas.PoolWeights
import FairModel.Generated.FairNamed
import FairModel.Generated.AggregateSpec

namespace C11
open BaseMetrics Weights

/-! ### 1. integer weight k ≡ k unit copies, base metrics (public functions, label handling included) -/

theorem weight_is_multiplicity_rate (k : Kind) (rows : List (Row × Nat)) (hk : PosMult rows)
    (pos : Option Int) :
    rate k (weighted rows) pos = rate k (replicate rows) pos :=
  (rate_replicate k rows hk pos).symm

theorem weight_is_multiplicity_tpr (rows : List (Row × Nat)) (hk : PosMult rows) (pos : Option Int) :
    rate .tpr (weighted rows) pos = rate .tpr (replicate rows) pos :=
  weight_is_multiplicity_rate .tpr rows hk pos

theorem weight_is_multiplicity_fnr (rows : List (Row × Nat)) (hk : PosMult rows) (pos : Option Int) :
    rate .fnr (weighted rows) pos = rate .fnr (replicate rows) pos :=
  weight_is_multiplicity_rate .fnr rows hk pos

theorem weight_is_multiplicity_fpr (rows : List (Row × Nat)) (hk : PosMult rows) (pos : Option Int) :
    rate .fpr (weighted rows) pos = rate .fpr (replicate rows) pos :=
  weight_is_multiplicity_rate .fpr rows hk pos

theorem weight_is_multiplicity_tnr (rows : List (Row × Nat)) (hk : PosMult rows) (pos : Option Int) :
    rate .tnr (weighted rows) pos = rate .tnr (replicate rows) pos :=
  weight_is_multiplicity_rate .tnr rows hk pos

theorem weight_is_multiplicity_selection_rate (rows : List (Row × Nat)) (hk : PosMult rows) (pos : Int) :
    selectionRate (weighted rows) pos = selectionRate (replicate rows) pos :=
  (selectionRate_replicate rows hk pos).symm

theorem weight_is_multiplicity_mean_prediction (rows : List (PRow × Nat)) :
    meanPrediction (weightedP rows) = meanPrediction (replicateP rows) :=
  (meanPrediction_replicateP rows).symm

/-- the same for all six metrics at once, on rows that also carry a group key -/
theorem weight_is_multiplicity (m : Metric) (rows : List (WRow × Nat)) (hk : PosMult rows) :
    eval m (wWeighted rows) = eval m (wReplicate rows) :=
  eval_weighted_eq_replicate m rows hk

/-- the divisions are genuine: with at least one row and positive multiplicities the total weight
    is positive (no statement here is true because of Lean's `x / 0 = 0`). -/
theorem total_weight_positive (rows : List (Row × Nat)) (hk : PosMult rows) (hne : rows ≠ []) :
    0 < totalW (weighted rows) ∧ 0 < totalW (replicate rows) := by
  have h := totalW_weighted_pos rows hk hne
  exact ⟨h, by rw [totalW_replicate]; exact h⟩

/-- the quotients of `mean_prediction` are genuine on both sides (positive multiplicities, ≥ 1 row) -/
theorem total_weight_positive_P (rows : List (PRow × Nat)) (hk : PosMult rows) (hne : rows ≠ []) :
    0 < totalP (weightedP rows) ∧ 0 < totalP (replicateP rows) := by
  have h := totalP_weighted_pos rows hk hne
  exact ⟨h, by rw [totalP, psum_replicateP (·.w) (fun _ => 1) (fun _ _ => (one_mul _).symm)]; exact h⟩

/-- TOTALISATION WITNESS: if every multiplicity is 0 both sides of `weight_is_multiplicity_mean_prediction`
    are Lean's `0 / 0 = 0`; numpy gives NaN on both sides (weighted: 0/0, replicated: mean of nothing).
    Outside the property's quantifier (positive weights); with `PosMult` see `total_weight_positive_P`. -/
theorem mean_prediction_all_zero_is_totalisation (rows : List (PRow × Nat)) (h0 : ∀ p ∈ rows, p.2 = 0) :
    meanPrediction (weightedP rows) = 0 ∧ meanPrediction (replicateP rows) = 0 := by
  have h := meanPrediction_zero_total_is_totalisation (weightedP rows) (List.sum_eq_zero fun x hx => by
    obtain ⟨r, hr, rfl⟩ := List.mem_map.mp hx
    obtain ⟨p, hp, rfl⟩ := List.mem_map.mp hr
    exact Nat.cast_eq_zero.mpr (h0 p hp))
  exact ⟨h, by rw [meanPrediction_replicateP]; exact h⟩

/-! ### 2. multiplying all weights by a positive constant changes nothing -/

theorem scale_invariant_rate (k : Kind) (c : Rat) (hc : 0 < c) (rows : List Row) (pos : Option Int) :
    rate k (scale c rows) pos = rate k rows pos :=
  rate_scale k c (ne_of_gt hc) rows pos

theorem scale_invariant_selection_rate (c : Rat) (hc : 0 < c) (rows : List Row) (pos : Int) :
    selectionRate (scale c rows) pos = selectionRate rows pos :=
  selectionRate_scale c (ne_of_gt hc) rows pos

theorem scale_invariant_mean_prediction (c : Rat) (hc : 0 < c) (rows : List PRow) :
    meanPrediction (scaleP c rows) = meanPrediction rows :=
  meanPrediction_scaleP c (ne_of_gt hc) rows

theorem scale_invariant (m : Metric) (c : Rat) (hc : 0 < c) (rows : List WRow) :
    eval m (wScale c rows) = eval m rows :=
  eval_scale m c (ne_of_gt hc) rows

/-! ### 3. omitting the weights is the same as passing all ones -/

theorem none_eq_ones (g yt yp : List Int) (pred : List Rat) :
    attach g yt yp pred none = attach g yt yp pred (some (List.replicate yt.length 1)) := rfl

/-- ... and all-ones weights are the multiplicity-1 case of the replication statement -/
theorem ones_is_identity_replication (rows : List WRow) :
    wReplicate (rows.map (fun x => (x, 1))) = rows.map (fun x => { x with w := 1 }) := by
  induction rows with
  | nil => rfl
  | cons x xs ih =>
    rw [List.map_cons, wReplicate_cons, ih]
    rfl

/-! ### 4. per group inside MetricFrame -/

/-- physical replication commutes with selecting the rows of a group -/
theorem replicate_commutes_with_grouping (key : Int) (rows : List (WRow × Nat)) :
    groupRows key (wReplicate rows) = wReplicate (groupPairs key rows) ∧
    groupRows key (wWeighted rows) = wWeighted (groupPairs key rows) :=
  ⟨groupRows_wReplicate key rows, groupRows_wWeighted key rows⟩

/-- the weights travel with their rows into each group, so the groups (keys) and every per-group
    value agree between weighted and replicated data -/
theorem weight_is_multiplicity_by_group (m : Metric) (rows : List (WRow × Nat)) (hk : PosMult rows) :
    byGroup m (wWeighted rows) = byGroup m (wReplicate rows) :=
  byGroup_weighted_eq_replicate m rows hk

/-- a group consisting of one weighted row: its value is that of k unit copies of the row -/
theorem single_weighted_row_group (m : Metric) (rows : List (WRow × Nat)) (hk : PosMult rows)
    (key : Int) (x : WRow) (k : Nat) (h : groupPairs key rows = [(x, k)]) :
    eval m (groupRows key (wWeighted rows)) = eval m (List.replicate k { x with w := 1 }) := by
  rw [groupRows_wWeighted, eval_weighted_eq_replicate m _ (posMult_groupPairs key rows hk), h]
  simp [wReplicate]

/-- ... and for `selection_rate` that value is the scalar 1 or 0 (defect F1, DESIGN.md section 5, returned a 1-element
    array here, which MetricFrame turned into NaN) -/
theorem single_weighted_row_selection_rate (x : WRow) (k : Nat) (hk : 1 ≤ k) (pos : Int) :
    eval (.sel pos) (wWeighted [(x, k)]) = .ok (if x.yp = pos then 1 else 0) := by
  have hk' : (k : Rat) ≠ 0 := Nat.cast_ne_zero.mpr (Nat.one_le_iff_ne_zero.mp hk)
  by_cases h : x.yp = pos <;>
    simp [eval, wWeighted, selectionRate, WRow.toRow, wsum, totalW, h, hk']

theorem scale_invariant_by_group (m : Metric) (c : Rat) (hc : 0 < c) (rows : List WRow) :
    byGroup m (wScale c rows) = byGroup m rows :=
  byGroup_scale m c (ne_of_gt hc) rows

/-! ### 5. aggregates: overall, group_min/max, difference and ratio (both methods) -/

theorem weight_is_multiplicity_frame (m : Metric) (rows : List (WRow × Nat)) (hk : PosMult rows) :
    frame m (wWeighted rows) = frame m (wReplicate rows) :=
  frame_weighted_eq_replicate m rows hk

theorem scale_invariant_frame (m : Metric) (c : Rat) (hc : 0 < c) (rows : List WRow) :
    frame m (wScale c rows) = frame m rows :=
  frame_scale m c (ne_of_gt hc) rows

/-- spelled out for the two aggregates the property names: `difference` (max − min resp. max
    |v − overall|) and `ratio` (min / max resp. min of the ratios to overall), any method -/
theorem weight_is_multiplicity_difference_ratio (m : Metric) (rows : List (WRow × Nat))
    (hk : PosMult rows) (me : Method) :
    (frame m (wWeighted rows)).map (·.diff me) = (frame m (wReplicate rows)).map (·.diff me) ∧
    (frame m (wWeighted rows)).map (·.ratio me) = (frame m (wReplicate rows)).map (·.ratio me) := by
  rw [frame_weighted_eq_replicate m rows hk]; exact ⟨rfl, rfl⟩

/-! ### 6. the named fairness metrics -/

theorem weight_is_multiplicity_demographic_parity (rows : List (WRow × Nat)) (hk : PosMult rows)
    (me : Method) :
    dpDifference me (wWeighted rows) = dpDifference me (wReplicate rows) ∧
    dpRatio me (wWeighted rows) = dpRatio me (wReplicate rows) := by
  unfold dpDifference dpRatio
  rw [frame_weighted_eq_replicate _ rows hk]; exact ⟨rfl, rfl⟩

theorem weight_is_multiplicity_equal_opportunity (rows : List (WRow × Nat)) (hk : PosMult rows)
    (me : Method) :
    eoppDifference me (wWeighted rows) = eoppDifference me (wReplicate rows) ∧
    eoppRatio me (wWeighted rows) = eoppRatio me (wReplicate rows) := by
  unfold eoppDifference eoppRatio
  rw [frame_weighted_eq_replicate _ rows hk]; exact ⟨rfl, rfl⟩

theorem weight_is_multiplicity_equalized_odds (rows : List (WRow × Nat)) (hk : PosMult rows)
    (me : Method) (ag : Agg) :
    eoDifference me ag (wWeighted rows) = eoDifference me ag (wReplicate rows) ∧
    eoRatio me ag (wWeighted rows) = eoRatio me ag (wReplicate rows) := by
  unfold eoDifference eoRatio
  rw [frame_weighted_eq_replicate tprMetric rows hk, frame_weighted_eq_replicate fprMetric rows hk]
  exact ⟨rfl, rfl⟩

theorem scale_invariant_named (c : Rat) (hc : 0 < c) (rows : List WRow) (me : Method) (ag : Agg) :
    dpDifference me (wScale c rows) = dpDifference me rows ∧
    dpRatio me (wScale c rows) = dpRatio me rows ∧
    eoppDifference me (wScale c rows) = eoppDifference me rows ∧
    eoppRatio me (wScale c rows) = eoppRatio me rows ∧
    eoDifference me ag (wScale c rows) = eoDifference me ag rows ∧
    eoRatio me ag (wScale c rows) = eoRatio me ag rows := by
  have hc' := ne_of_gt hc
  unfold dpDifference dpRatio eoppDifference eoppRatio eoDifference eoRatio
  rw [frame_scale selMetric c hc', frame_scale tprMetric c hc', frame_scale fprMetric c hc']
  exact ⟨rfl, rfl, rfl, rfl, rfl, rfl⟩

/-! ### 7. Tie to the source text: the same statements for the TRANSLATED functions

`Generated/BaseMetricsSrc.lean` (lifter `harness/lifters/base_metrics.py`) is the statement-by-statement
translation of `_base_metrics.py`, including the weight handling: `sample_weight=sample_weight` passed to
`confusion_matrix`, `s_w = np.ones(len(...))`, `if sample_weight is not None: s_w = ...`,
`np.dot(..., s_w) / s_w.sum()`.  Through `BaseMetricsGen.rate_eq_model` and its siblings the metamorphic relations hold for the
translated functions exactly as fairlearn is called: weights `k` passed as `sample_weight` versus the
rows physically replicated and `sample_weight=None`. -/

section Source
open BaseMetricsGen

/-- translated rates: `sample_weight=k` on the rows ≡ the replicated rows with `sample_weight=None` -/
theorem src_weight_is_multiplicity_rate (k : Kind) (rows : List (Row × Nat)) (hk : PosMult rows)
    (pos : Option Int) :
    BaseMetricsGen.rate k ((weighted rows).map (·.yt)) ((weighted rows).map (·.yp))
        (some ((weighted rows).map (·.w))) pos =
      BaseMetricsGen.rate k ((replicate rows).map (·.yt)) ((replicate rows).map (·.yp)) none pos := by
  rw [rate_eq_model, rate_none_eq_model, unitW_replicate]
  exact weight_is_multiplicity_rate k rows hk pos

/-- … and ≡ the replicated rows with explicit unit weights -/
theorem src_weight_is_multiplicity_rate_ones (k : Kind) (rows : List (Row × Nat)) (hk : PosMult rows)
    (pos : Option Int) :
    BaseMetricsGen.rate k ((weighted rows).map (·.yt)) ((weighted rows).map (·.yp))
        (some ((weighted rows).map (·.w))) pos =
      BaseMetricsGen.rate k ((replicate rows).map (·.yt)) ((replicate rows).map (·.yp))
        (some ((replicate rows).map (·.w))) pos := by
  rw [rate_eq_model, rate_eq_model]
  exact weight_is_multiplicity_rate k rows hk pos

theorem src_weight_is_multiplicity_selection_rate (rows : List (Row × Nat)) (hk : PosMult rows) (pos : Int) :
    BaseMetricsSrc.selection_rate ((weighted rows).map (·.yt)) ((weighted rows).map (·.yp)) pos
        (some ((weighted rows).map (·.w))) =
      BaseMetricsSrc.selection_rate ((replicate rows).map (·.yt)) ((replicate rows).map (·.yp)) pos none := by
  rw [selection_rate_eq_model, selection_rate_none_eq_model, unitW_replicate]
  exact weight_is_multiplicity_selection_rate rows hk pos

theorem src_weight_is_multiplicity_mean_prediction (yt yt' : List Rat) (rows : List (PRow × Nat)) :
    BaseMetricsSrc.mean_prediction yt ((weightedP rows).map (·.pred)) (some ((weightedP rows).map (·.w))) =
      BaseMetricsSrc.mean_prediction yt' ((replicateP rows).map (·.pred)) none := by
  rw [mean_prediction_eq_model, mean_prediction_none_eq_model, unitP_replicateP,
    weight_is_multiplicity_mean_prediction]

/-- translated functions: multiplying all weights by c > 0 changes nothing -/
theorem src_scale_invariant_rate (k : Kind) (c : Rat) (hc : 0 < c) (rows : List Row) (pos : Option Int) :
    BaseMetricsGen.rate k (rows.map (·.yt)) (rows.map (·.yp)) (some ((rows.map (·.w)).map (c * ·))) pos =
      BaseMetricsGen.rate k (rows.map (·.yt)) (rows.map (·.yp)) (some (rows.map (·.w))) pos := by
  have h := rate_eq_model k (scale c rows) pos
  obtain ⟨e1, e2, e3⟩ := scale_cols c rows
  rw [e1, e2, e3] at h
  rw [h, rate_eq_model]
  exact scale_invariant_rate k c hc rows pos

theorem src_scale_invariant_selection_rate (c : Rat) (hc : 0 < c) (rows : List Row) (pos : Int) :
    BaseMetricsSrc.selection_rate (rows.map (·.yt)) (rows.map (·.yp)) pos (some ((rows.map (·.w)).map (c * ·))) =
      BaseMetricsSrc.selection_rate (rows.map (·.yt)) (rows.map (·.yp)) pos (some (rows.map (·.w))) := by
  have h := selection_rate_eq_model (scale c rows) pos
  obtain ⟨e1, e2, e3⟩ := scale_cols c rows
  rw [e1, e2, e3] at h
  rw [h, selection_rate_eq_model]
  exact scale_invariant_selection_rate c hc rows pos

/-- translated functions: omitting the weights is passing all ones -/
theorem src_none_eq_ones (k : Kind) (yt yp : List Int) (pos : Option Int) :
    BaseMetricsGen.rate k yt yp none pos = BaseMetricsGen.rate k yt yp (some (NumpySk.ones yt.length)) pos :=
  rate_none_eq_ones k yt yp pos

/-- Clause 3 for the translated `selection_rate` / `mean_prediction`: `sample_weight=None` is
    `np.ones(len(y_pred))` -/
theorem src_none_eq_ones_selection_rate (yt yp : List Int) (pos : Int) :
    BaseMetricsSrc.selection_rate yt yp pos none =
      BaseMetricsSrc.selection_rate yt yp pos (some (NumpySk.ones yp.length)) := by
  simp [BaseMetricsSrc.selection_rate, NumpySk.eqInd]

theorem src_none_eq_ones_mean_prediction (yt yp : List Rat) :
    BaseMetricsSrc.mean_prediction yt yp none =
      BaseMetricsSrc.mean_prediction yt yp (some (NumpySk.ones yp.length)) := by
  simp [BaseMetricsSrc.mean_prediction]

end Source

/-! ### 8. MetricFrame with SEVERAL sample parameters on one metric (full frame model)

`Model/Frame.lean` with an arbitrary payload: replicating a row replicates ALL of its per-sample
parameters.  Any metric that treats the weight as a multiplicity on every slice (`Frame.WeightMult`)
gives the same `by_group` (same index incl. re-indexed empty combinations, same cells) and the same
`overall` (per control stratum) on weighted and on replicated data; any number of sensitive / control
features. -/

section Frame
open Frame

theorem metricframe_weight_is_multiplicity {α β : Type} (nanv : β) (wt : α → Nat → α) (ncf nsf : Nat)
    (f : List α → β) (hf : WeightMult wt f) (rows : List (Row α × Nat)) (hk : ∀ p ∈ rows, 1 ≤ p.2) :
    Frame.byGroup nanv ncf nsf f (weightedRows wt rows) = Frame.byGroup nanv ncf nsf f (replicatedRows wt rows) ∧
    Frame.overall nanv ncf f (weightedRows wt rows) = Frame.overall nanv ncf f (replicatedRows wt rows) :=
  ⟨applyFunctions_weight_mult nanv wt Row.key keyIgnoresDat_key _ f hf rows hk,
   applyFunctions_weight_mult nanv wt Row.ckey keyIgnoresDat_ckey _ f hf rows hk⟩

/-- instances: the weighted-mean pool metrics, and the TWO-parameter metric `a . ids`
    (`p0` = weight-like parameter, `p1` = a second per-sample parameter that is replicated with the row) -/
theorem metricframe_two_params_weight_is_multiplicity (m : MetricPool.Metric)
    (hm : m = .selrate ∨ m = .meanpred ∨ m = .accuracy ∨ m = .meanerr ∨ m = .zeroOne ∨ m = .mae ∨ m = .mse ∨
          m = .fpPar)
    (ncf nsf : Nat) (rows : List (Row MetricPool.Dat × Nat)) (hk : ∀ p ∈ rows, 1 ≤ p.2) :
    Frame.byGroup Cell.nan ncf nsf (MetricPool.eval m) (weightedRows MetricPool.wtDat rows) =
      Frame.byGroup Cell.nan ncf nsf (MetricPool.eval m) (replicatedRows MetricPool.wtDat rows) ∧
    Frame.overall Cell.nan ncf (MetricPool.eval m) (weightedRows MetricPool.wtDat rows) =
      Frame.overall Cell.nan ncf (MetricPool.eval m) (replicatedRows MetricPool.wtDat rows) :=
  metricframe_weight_is_multiplicity Cell.nan MetricPool.wtDat ncf nsf _ (MetricPool.eval_weight_mult m hm) rows hk

end Frame

/-! ### 9. the rates and scale invariance in the full MetricFrame model -/

section FullFrame
open Frame

/-- Clause 1/4 for the four RATES in the full MetricFrame model: any number of sensitive / control
    features, same index (incl. re-indexed empty combinations) and same cells, same `overall` per control
    stratum, on weighted and on replicated data. -/
theorem metricframe_rates_weight_is_multiplicity (m : MetricPool.Metric)
    (hm : m = .tpr ∨ m = .fpr ∨ m = .tnr ∨ m = .fnr)
    (ncf nsf : Nat) (rows : List (Row MetricPool.Dat × Nat)) (hk : ∀ p ∈ rows, 1 ≤ p.2) :
    Frame.byGroup Cell.nan ncf nsf (MetricPool.eval m) (weightedRows MetricPool.wtDat rows) =
      Frame.byGroup Cell.nan ncf nsf (MetricPool.eval m) (replicatedRows MetricPool.wtDat rows) ∧
    Frame.overall Cell.nan ncf (MetricPool.eval m) (weightedRows MetricPool.wtDat rows) =
      Frame.overall Cell.nan ncf (MetricPool.eval m) (replicatedRows MetricPool.wtDat rows) :=
  metricframe_weight_is_multiplicity Cell.nan MetricPool.wtDat ncf nsf _ (MetricPool.eval_weight_mult_rate m hm) rows hk

/-- Clause 2 in the full MetricFrame model, generic: a row-wise change `g` of the payload that the metric
    cannot see on any slice changes neither `by_group` (index and cells) nor `overall`. -/
theorem metricframe_scale_invariant {α β : Type} (nanv : β) (g : α → α) (ncf nsf : Nat) (f : List α → β)
    (hf : ∀ l, f (l.map g) = f l) (rows : List (Row α)) :
    Frame.byGroup nanv ncf nsf f (mapDat g rows) = Frame.byGroup nanv ncf nsf f rows ∧
    Frame.overall nanv ncf f (mapDat g rows) = Frame.overall nanv ncf f rows :=
  ⟨applyFunctions_mapDat nanv Row.key keyIgnoresDat_key _ f g hf rows,
   applyFunctions_mapDat nanv Row.ckey keyIgnoresDat_ckey _ f g hf rows⟩

/-- … instantiated: every weight multiplied by c > 0, for the pool's four rates and its weighted means -/
theorem metricframe_pool_scale_invariant (m : MetricPool.Metric)
    (hm : m = .tpr ∨ m = .fpr ∨ m = .tnr ∨ m = .fnr ∨ m = .selrate ∨ m = .meanpred ∨ m = .accuracy ∨
          m = .meanerr ∨ m = .zeroOne ∨ m = .mae ∨ m = .mse)
    (c : Rat) (hc : 0 < c) (ncf nsf : Nat) (rows : List (Row MetricPool.Dat)) :
    Frame.byGroup Cell.nan ncf nsf (MetricPool.eval m) (mapDat (MetricPool.scDat c) rows) =
      Frame.byGroup Cell.nan ncf nsf (MetricPool.eval m) rows ∧
    Frame.overall Cell.nan ncf (MetricPool.eval m) (mapDat (MetricPool.scDat c) rows) =
      Frame.overall Cell.nan ncf (MetricPool.eval m) rows :=
  metricframe_scale_invariant Cell.nan (MetricPool.scDat c) ncf nsf _ (MetricPool.eval_scale_inv m hm c hc) rows

end FullFrame

/-! ### 10. Tie of the hand-written pieces of `Model/Weights.lean` to LIFTED source text

`Model/Weights.lean` writes out which base metric each named fairness metric disaggregates, the worst-case
builtins of `equalized_odds_*` and `ratio_sub_one` by hand.  The lifters `fairness_named.py` and `aggregate.py`
regenerate the same facts from `_fairness_metrics.py` / `_disaggregated_result.py` on every run; the theorems below
identify the two, so a source edit there breaks a proof of this module instead of going unnoticed. -/

section LiftedTie

/-- the `Weights.Metric` a lifted base-metric name stands for (`pos_label` defaults) -/
def baseMetric : FairNamed.Base → Metric
  | .selrate => .sel 1
  | .tpr => .rate .tpr none
  | .fpr => .rate .fpr none

/-- which metric `demographic_parity_*`, `equal_opportunity_*` and the two columns of `equalized_odds_*`
    disaggregate — as lifted from `_fairness_metrics.py` -/
theorem named_bases_are_lifted :
    selMetric = baseMetric FairNamed.dpBase ∧ tprMetric = baseMetric FairNamed.eoppBase ∧
    tprMetric = baseMetric FairNamed.eoddsFirst ∧ fprMetric = baseMetric FairNamed.eoddsSecond :=
  ⟨rfl, rfl, rfl, rfl⟩

/-- `agg="worst_case"` is Python's `max` for the difference and `min` for the ratio (`eoDifference` uses
    `rmax`, `eoRatio` uses `pyMin`) — as lifted -/
theorem eodds_worst_is_lifted :
    FairNamed.eoddsDiffWorst = .pymax ∧ FairNamed.eoddsRatioWorst = .pymin := ⟨rfl, rfl⟩

/-- the hand-written `subOne` is the lifted `ratio_sub_one` on every float (NaN, ±inf included) -/
theorem subOne_is_lifted (x : XR) : subOne x = AggregateSpec.ratioSubOne x := by
  cases x with
  | nan => rfl
  | ninf => rfl
  | pinf => rfl
  | fin q =>
    unfold subOne AggregateSpec.ratioSubOne
    simp only [XR.lt, XR.div]
    by_cases h : 1 < q
    · have hq : q ≠ 0 := by intro h0; rw [h0] at h; norm_num at h
      simp [h, hq]
    · simp [h]

end LiftedTie

/-! ### the aggregate composition is read from the lifted `AggregateSpec` (bridge) -/

/-- `Weights.aggregate` is defined over `Generated/AggregateSpec.lean` (which extreme `difference` / `ratio` take,
    lifted by `aggregate.py` from `DisaggregatedResult.difference` / `.ratio`); on the pinned source it is the closed
    form all theorems of this file were stated for — a source edit of one of the min / max choices changes the generated
    definitions and breaks this equation (and the driver op `w.frame` follows the new text) -/
theorem src_aggregate_composition (ks : List Int) (vals : List Rat) (ov : Rat) :
    Weights.aggregate ks vals ov =
      { keys := ks, byGroup := vals, overall := ov,
        gmin := Weights.minL vals, gmax := Weights.maxL vals,
        diffBetween := Weights.maxL (vals.map (fun v => Weights.rabs (v - Weights.minL vals))),
        diffOverall := Weights.maxL (vals.map (fun v => Weights.rabs (v - ov))),
        ratioBetween := Weights.xdiv (Weights.minL vals) (Weights.maxL vals),
        ratioOverall := Weights.xminSkip (vals.map (fun v => Weights.subOne (Weights.xdiv v ov))) } := rfl

/-! ### Non-vacuity: concrete inputs meeting the hypotheses, evaluated by the kernel. -/

/-- the F1 regression input: y_true=[1,0,1], y_pred=[1,0,0], groups a,b,b, weights 2,1,3 -/
def f1 : List (WRow × Nat) :=
  [(⟨0, 1, 1, 1, 0⟩, 2), (⟨1, 0, 0, 0, 0⟩, 1), (⟨1, 1, 0, 0, 0⟩, 3)]

example : PosMult f1 := by unfold PosMult f1; decide
example : (wReplicate f1).length = 6 := by decide +kernel
example : groupPairs 0 f1 = [(⟨0, 1, 1, 1, 0⟩, 2)] := by decide +kernel
/-- group `a` is a single weighted row with selection rate 1, group `b` has 0: the demographic
    parity difference of the code-as-repaired is 1 (the defect made fairlearn return 0.0). -/
example : dpDifference .between (wWeighted f1) = .ok 1 := by decide +kernel
example : dpDifference .between (wReplicate f1) = .ok 1 := by decide +kernel
example : byGroup selMetric (wWeighted f1) = [(0, .ok 1), (1, .ok 0)] := by decide +kernel
example : eval (.rate .tpr none) (wWeighted f1) = .ok (2/5) := by decide +kernel
example : eval (.rate .tpr none) (wReplicate f1) = .ok (2/5) := by decide +kernel
example : eval .meanPred (wScale (1/4) (wWeighted f1)) = .ok (1/3) := by decide +kernel
/-- k = 0 is genuinely excluded: the replicated data loses the row (and here the whole group) -/
example : keys (wReplicate [(⟨0, 1, 1, 1, 0⟩, 0), (⟨1, 0, 0, 0, 0⟩, 1)]) ≠
    keys (wWeighted [(⟨0, 1, 1, 1, 0⟩, 0), (⟨1, 0, 0, 0, 0⟩, 1)]) := by decide +kernel

/-- two sample parameters on one metric: `a . ids` with a = weight 2 on the first row -/
def tp : List (Frame.Row MetricPool.Dat × Nat) :=
  [(⟨⟨1, 1, 0, 4⟩, [], ["a"]⟩, 2), (⟨⟨0, 1, 0, 8⟩, [], ["b"]⟩, 1), (⟨⟨1, 0, 0, 16⟩, [], ["a"]⟩, 3)]
example : Frame.byGroup Frame.Cell.nan 0 1 (MetricPool.eval .fpPar) (Frame.weightedRows MetricPool.wtDat tp) =
    [(["a"], .scalar (.fin 56)), (["b"], .scalar (.fin 8))] := by decide +kernel
example : Frame.byGroup Frame.Cell.nan 0 1 (MetricPool.eval .fpPar) (Frame.replicatedRows MetricPool.wtDat tp) =
    [(["a"], .scalar (.fin 56)), (["b"], .scalar (.fin 8))] := by decide +kernel

/-! ### Joint non-vacuity: one concrete input per theorem family meeting ALL hypotheses at once,
on the interesting branch -/
-- weight_is_multiplicity_by_group / _frame / named: ≥ 2 groups, both labels, a single-row group with weight 2
example : PosMult f1 ∧ f1 ≠ [] ∧ keys (wWeighted f1) = [0, 1] ∧
    byGroup tprMetric (wWeighted f1) = byGroup tprMetric (wReplicate f1) ∧
    byGroup tprMetric (wWeighted f1) = [(0, .ok 1), (1, .ok 0)] := by
  unfold PosMult f1; decide +kernel
-- single_weighted_row_group: all hypotheses at once (group 0 of f1 is ONE row with weight 2)
example : PosMult f1 ∧ groupPairs 0 f1 = [(⟨0, 1, 1, 1, 0⟩, 2)] ∧
    eval (.sel 1) (groupRows 0 (wWeighted f1)) = .ok 1 := by unfold PosMult f1; decide +kernel
-- scale_invariant*: c = 3/4 > 0 on weights that are not all equal
example : (0 : Rat) < 3/4 ∧ frame selMetric (wScale (3/4) (wWeighted f1)) = frame selMetric (wWeighted f1) ∧
    (frame selMetric (wWeighted f1)).map (·.diffBetween) = .ok 1 := by decide +kernel
-- base level incl. a non-default encoding with pos_label given
def r37 : List (Row × Nat) := [(⟨7, 7, 0⟩, 2), (⟨7, 3, 0⟩, 1), (⟨3, 7, 0⟩, 3), (⟨3, 3, 0⟩, 1)]
example : PosMult r37 ∧ rate .tpr (weighted r37) (some 7) = .ok (2/3) ∧ rate .tpr (replicate r37) (some 7) = .ok (2/3) ∧
    (replicate r37).length = 7 := by unfold PosMult r37; decide +kernel
-- total_weight_positive_P / weight_is_multiplicity_mean_prediction
def p3 : List (PRow × Nat) := [(⟨1/2, 0⟩, 2), (⟨0, 0⟩, 1), (⟨3/4, 0⟩, 3)]
example : PosMult p3 ∧ p3 ≠ [] ∧ meanPrediction (weightedP p3) = 13/24 ∧ meanPrediction (replicateP p3) = 13/24 := by
  unfold PosMult p3; decide +kernel
-- metricframe_weight_is_multiplicity / _two_params_: the multiplicity hypothesis of `tp`
example : ∀ p ∈ tp, 1 ≤ p.2 := by decide +kernel
/-- full MetricFrame model: one control and two sensitive features, 8 index tuples of which 4 are EMPTY
    combinations (NaN), multiplicities 1..5 -/
def tr : List (Frame.Row MetricPool.Dat × Nat) :=
  [(⟨⟨1, 1, 0, 0⟩, ["s"], ["a", "x"]⟩, 2), (⟨⟨1, 0, 0, 0⟩, ["s"], ["a", "x"]⟩, 1), (⟨⟨0, 1, 0, 0⟩, ["s"], ["a", "y"]⟩, 3),
   (⟨⟨1, 1, 0, 0⟩, ["t"], ["b", "x"]⟩, 1), (⟨⟨0, 0, 0, 0⟩, ["t"], ["b", "x"]⟩, 4), (⟨⟨1, 0, 0, 0⟩, ["s"], ["b", "x"]⟩, 5)]
-- metricframe_rates_weight_is_multiplicity
example : (∀ p ∈ tr, 1 ≤ p.2) ∧
    Frame.byGroup Frame.Cell.nan 1 2 (MetricPool.eval .tpr) (Frame.weightedRows MetricPool.wtDat tr) =
      [(["s", "a", "x"], .scalar (.fin (2/3))), (["s", "a", "y"], .scalar (.fin 0)), (["s", "b", "x"], .scalar (.fin 0)),
       (["s", "b", "y"], .scalar .nan), (["t", "a", "x"], .scalar .nan), (["t", "a", "y"], .scalar .nan),
       (["t", "b", "x"], .scalar (.fin 1)), (["t", "b", "y"], .scalar .nan)] ∧
    Frame.byGroup Frame.Cell.nan 1 2 (MetricPool.eval .tpr) (Frame.replicatedRows MetricPool.wtDat tr) =
      Frame.byGroup Frame.Cell.nan 1 2 (MetricPool.eval .tpr) (Frame.weightedRows MetricPool.wtDat tr) ∧
    Frame.overall Frame.Cell.nan 1 (MetricPool.eval .fpr) (Frame.weightedRows MetricPool.wtDat tr) =
      [(["s"], .scalar (.fin 1)), (["t"], .scalar (.fin 0))] := by decide +kernel
-- metricframe_pool_scale_invariant: c = 3/4
example : (0 : Rat) < 3/4 ∧
    Frame.byGroup Frame.Cell.nan 1 2 (MetricPool.eval .selrate)
        (Frame.mapDat (MetricPool.scDat (3/4)) (Frame.weightedRows MetricPool.wtDat tr)) =
      Frame.byGroup Frame.Cell.nan 1 2 (MetricPool.eval .selrate) (Frame.weightedRows MetricPool.wtDat tr) ∧
    (Frame.byGroup Frame.Cell.nan 1 2 (MetricPool.eval .selrate) (Frame.weightedRows MetricPool.wtDat tr)).lookup
      ["t", "b", "x"] = some (.scalar (.fin (1/5))) := by decide +kernel
-- src_none_eq_ones_*: a weighted call really differs from the unweighted one (the clause is not vacuous)
example : BaseMetricsSrc.selection_rate [1, 0] [1, 0] 1 none = .ok (1/2) ∧
    BaseMetricsSrc.selection_rate [1, 0] [1, 0] 1 (some [3, 1]) = .ok (3/4) ∧
    BaseMetricsSrc.mean_prediction [] [1, 0] none = .ok (1/2) := by decide +kernel

end C11
