/-
C06 — constraint moments measure exactly the documented parity violations.
Property theorems, and `mkConfig_ok` (the inversion of an accepted configuration that the constructor theorems share);
helper lemmas live in `Lemmas/Moments.lean`, `MomentsRates.lean`, `MomentsReduction.lean`, `MomentsMore.lean`, `EventLabels.lean`.

All theorems about `index`, `U`, `gamma` are stated for an arbitrary per-row event assignment
`ev : Row → Option String`; `eventOf k` (documented rule = the code since fix b40710c) and `eventOfAsCoded k` (the code
before that fix, finding F3, kept as a regression witness) are its two instances.

CLAUSE → THEOREM TABLE (property text in properties.jsonl, id C06; composition theorems: C06X.lean)
  (1) "gamma(h) has exactly one '+' and one '-' entry for every (event, group) pair that occurs in the data"
        `index_exact` (entry ⇔ the pair is observed: some row carries this event AND this group — a pair whose event
        occurs and whose group occurs, but never on the same row, has NO entry: the `example` below `index_denominators_pos`),
        `index_nodup`, `index_count` (exactly one of each sign), `index_length`, `gamma_entries` (gamma is indexed by
        `index`), `gamma_exact` (all of it in one statement).  The code builds the index by
        `groupby([event, group_id]).size()` = observed pairs (NOT the Cartesian product its docstring mentions).
  (2) "equal to r*mean_{e,g}(u) − mean_e(u) and r*mean_e(u) − mean_{e,g}(u)"
        `gamma_plus`, `gamma_minus`, `gamma_entry_spec` (every index entry, no side condition).  Zero denominators:
        `index_denominators_pos` — on an index entry P(e) > 0 and P(e,g) > 0, so neither Lean's `x/0 = 0` nor pandas'
        inf/NaN branch is ever taken (an entry with P(e,g) = 0 does not exist in the code either).
  (3) "u is the prediction (the error indicator for error-rate parity)"           `pred_default`, `pred_erp`
  (4) "the events are the label classes the constraint conditions on"              `baseEvent_cases`
  (5) "within each control-feature stratum"                                        `eventOf_some`, `inE_stratum_of_label`-based
        selectors `tpr/fpr_event_selects_in_stratum`, `Moments.eo_inE_stratum`, `Cross.dp_event_selects_in_stratum`
  (6) "rows outside the conditioned label class belong to no event"                `eventOf_none_iff`,
        `index_ignores_no_event_rows`, `no_event_rows_inert`; F3 regression witnesses `asCoded_*`;
        TIE of (5)/(6): `event_rule_lifted` — the rule LIFTED from `_merge_event_and_control_columns` /
        `_combine_event_and_control` incl. the notnull guard (`MomentsSrc.mergeEvent/combineEvent`; what the driver runs)
        equals `eventOf`; `lifted_rule_has_guard`
  (7) "bound() is the configured slack on every entry"                             `bound_const`, `config_cases`,
        `config_ratio_in_range`, `config_slack_nonneg`, `bound_of_config` (`mkConfig` is computed with the constructor
        branches LIFTED from `UtilityParity.__init__`, incl. the negative-slack guard; difference_bound → eps = difference_bound, ratio 1;
        ratio_bound → eps = ratio_bound_slack, ratio = ratio_bound; neither → 1/100 (lifted), ratio 1)
  (8) "BoundedGroupLoss.gamma is the per-group mean clipped loss"                  `bgl_gamma`, `loss_values` (clipping,
        lo ≤ hi), `loss_in_declared_range`, `evalS_eq_eval`, `eval_container_dependent` (F21), `zero_one_loss`,
        `bgl_gamma_in_declared_range`, `bgl_signed_weights_entry`
  (9) "ErrorRate.gamma is the cost-weighted error"                                 `errorRate_gamma` (labels 0/1,
        predictions in [0,1] — needed: the code splits `y − pred` by sign), `errorRate_gamma_hard`
 (10) "for r = 1 the '+' entries coincide with MetricFrame by_group − overall of the matching rate"
        against the INDEPENDENT `BaseMetrics` model (C14/C01): `gamma_plus_eq_selection_rate` (DP, any event incl. a
        stratum), `gamma_plus_eq_rate` / `gamma_plus_eq_rate_on` (TPR, FPR, EO; generic in the stratum), instances
        `tpr_gamma_plus`, `fpr_gamma_plus`, `eo_gamma_plus` (no control), `tpr_/fpr_/eo_gamma_plus_in_stratum`,
        `gamma_plus_eq_error_rate` (ERP); against the MetricFrame model of C03 (`Fairness.named`, frames):
        C06X `dict_of_selector`, `rate_dict`, `*_difference_le_of_constraint`, whose selector hypotheses `hS : ∀ r, …` are
        discharged for the real event rules by `tpr_constraint_bounds_eopp(_in_stratum)`, `fpr_constraint_bounds`,
        `eo_constraint_bounds_eodds`, `eo_constraint_bounds_eodds_in_stratum` (the stratum case for arbitrary integer
        labels rests on `Cross.toString_int_no_comma`; here `eo_gamma_plus_in_stratum` covers binary rows).
  Vectors of the wrong length: `zipWith`/`dot` truncate on BOTH sides of every equation below (so the equations stay
  true but lose their meaning); the driver rejects such lines (`none`), fairlearn raises — theorems that need the
  length say `h.length = rows.length`.
  Quantifier: nothing is bounded — any number of rows, groups, strata; any rational ratio (the constructor admits
  (0,1]: `config_ratio_in_range`); `h` any rational vector of the right length unless a theorem says `Hard`/`Soft`.
-/
import FairModel.Lemmas.Moments
import FairModel.Lemmas.MomentsRates
import FairModel.Lemmas.MomentsMore
import FairModel.Lemmas.EventLabels

namespace C06
open Moments

/-! ### events -/

/-- rows outside the conditioned label class belong to no event — with or without control features -/
theorem eventOf_none_iff (k : Kind) (r : Row) :
    eventOf k r = none ↔ (k = .tpr ∧ r.y ≠ MomentsSrc.tprLabel) ∨ (k = .fpr ∧ r.y ≠ MomentsSrc.fprLabel) := by
  have : eventOf k r = none ↔ baseEvent k r = none := by
    unfold eventOf; cases baseEvent k r <;> cases r.c <;> simp
  rw [this]
  cases k <;> simp [baseEvent]

/-- the event of a row is its base event, formatted into the row's control stratum when there is one -/
theorem eventOf_some (k : Kind) (r : Row) (e : String) (h : baseEvent k r = some e) :
    eventOf k r = some (match r.c with | none => e | some c => MomentsSrc.ctrlFormat c e) := by
  cases hc : r.c <;> simp [eventOf, h, hc]

/-- the base events are the label classes the moment conditions on -/
theorem baseEvent_cases (k : Kind) (r : Row) :
    baseEvent k r = match k with
      | .dp => some MomentsSrc.allEvent
      | .erp => some MomentsSrc.allEvent
      | .eo => some (MomentsSrc.labelEvent r.y)
      | .tpr => if r.y = 1 then some (MomentsSrc.labelEvent 1) else none
      | .fpr => if r.y = 0 then some (MomentsSrc.labelEvent 0) else none := by
  cases k <;> simp [baseEvent, MomentsSrc.tprLabel, MomentsSrc.fprLabel] <;> split <;> simp_all

/-- **the tie of (5)/(6) to the source**: the event rule LIFTED from `_merge_event_and_control_columns` and
    `_combine_event_and_control` (`MomentsSrc.mergeEvent` / `combineEvent`: no control column ⇒ the base event; a NaN /
    None base event or control value ⇒ the base event unchanged — the `pd.notnull` guard of the F3 repair b40710c;
    otherwise `control={0},{1}`), which is what the compiled driver runs in mode `spec`, IS the documented rule
    `eventOf`.  Every theorem below about `eventOf` is therefore a theorem about the text in the tree; reverting the
    guard (or exchanging the format arguments / the `combine` receiver) changes the lifted text and this proof breaks. -/
theorem event_rule_lifted (k : Kind) (r : Row) : eventOfSrc k r = eventOf k r := by
  unfold eventOfSrc eventOf MomentsSrc.mergeEvent MomentsSrc.combineEvent MomentsSrc.txt
  cases baseEvent k r <;> cases r.c <;> simp

theorem event_rule_lifted_fun (k : Kind) : eventOfSrc k = eventOf k := funext (event_rule_lifted k)

/-- the lifted rule keeps a row outside the conditioned label class event-free inside a control stratum (F3 repaired),
    where the un-guarded format call produced the event `control=x,nan` -/
theorem lifted_rule_has_guard :
    eventOfSrc .tpr ⟨0, "b", some "x"⟩ = none ∧ eventOfAsCoded .tpr ⟨0, "b", some "x"⟩ = some "control=x,nan" ∧
    eventOfSrc .tpr ⟨1, "a", some "x"⟩ = some "control=x,label=1" := by
  decide +kernel

/-- without control features, and for the moments that condition on nothing or on every label, the code
    as written agrees with the documented rule -/
theorem asCoded_eq_of_no_control (k : Kind) (r : Row) (h : r.c = none) : eventOfAsCoded k r = eventOf k r := by
  simp only [eventOfAsCoded, eventOf, h]; cases baseEvent k r <;> rfl

theorem asCoded_eq_of_unconditional (k : Kind) (r : Row) (hk : k ≠ .tpr ∧ k ≠ .fpr) :
    eventOfAsCoded k r = eventOf k r := by
  have : ∀ e, baseEvent k r = some e → eventOfAsCoded k r = eventOf k r := fun e h => by
    simp only [eventOfAsCoded, eventOf, h]; cases r.c <;> rfl
  cases k
  exacts [this _ rfl, absurd rfl hk.1, absurd rfl hk.2, this _ rfl, this _ rfl]

/-- F3 (finding on the pinned tree): with control features the code as written gives a row outside the
    conditioned label class the event `control=c,nan`, so it is *not* event-free … -/
theorem asCoded_discrepancy :
    eventOf .tpr ⟨0, "b", some "x"⟩ = none ∧
    eventOfAsCoded .tpr ⟨0, "b", some "x"⟩ = some "control=x,nan" := by
  decide +kernel

def f3Rows : List Row := [⟨1, "a", some "x"⟩, ⟨0, "b", some "x"⟩]

/-- … and the constraint index contains constraints for it (minimal dataset, replayed in corpus/C06) -/
theorem asCoded_index_discrepancy :
    index (eventOf .tpr) f3Rows = [⟨.plus, "control=x,label=1", "a"⟩, ⟨.minus, "control=x,label=1", "a"⟩] ∧
    index (eventOfAsCoded .tpr) f3Rows =
      [⟨.plus, "control=x,label=1", "a"⟩, ⟨.plus, "control=x,nan", "b"⟩,
       ⟨.minus, "control=x,label=1", "a"⟩, ⟨.minus, "control=x,nan", "b"⟩] := by
  decide +kernel

/-! ### index -/

/-- the index has an entry of either sign exactly for the observed (event, group) pairs … -/
theorem index_exact (ev : Ev) (rows : List Row) (k : Key) :
    k ∈ index ev rows ↔ Observed ev rows k.event k.group := by
  obtain ⟨s, e, g⟩ := k
  unfold index
  simp only [List.mem_append, List.mem_map, Key.mk.injEq, Prod.exists]
  rw [← mem_observedPairs]
  cases s <;> simp

/-- … and exactly one of each -/
theorem index_nodup (ev : Ev) (rows : List Row) : (index ev rows).Nodup := by
  unfold index
  have hn := nodup_observedPairs ev rows
  rw [List.nodup_append]
  refine ⟨?_, ?_, ?_⟩
  · exact hn.map (fun a b h => by cases a; cases b; simp_all)
  · exact hn.map (fun a b h => by cases a; cases b; simp_all)
  · intro a ha b hb
    simp only [List.mem_map] at ha hb
    obtain ⟨p, _, rfl⟩ := ha
    obtain ⟨q, _, rfl⟩ := hb
    simp

theorem index_count (ev : Ev) (rows : List Row) (s : Sign) (e g : String) (h : Observed ev rows e g) :
    (index ev rows).count ⟨s, e, g⟩ = 1 :=
  List.count_eq_one_of_mem (index_nodup ev rows) ((index_exact ev rows ⟨s, e, g⟩).mpr h)

theorem index_length (ev : Ev) (rows : List Row) :
    (index ev rows).length = 2 * (observedPairs ev rows).length := by
  rw [index, List.length_append, List.length_map, List.length_map, two_mul]

/-- a row without event contributes to no constraint -/
theorem index_ignores_no_event_rows (ev : Ev) (rows : List Row) (k : Key) (h : k ∈ index ev rows) :
    ∃ r ∈ rows, ev r ≠ none ∧ ev r = some k.event ∧ r.g = k.group := by
  obtain ⟨r, hr, he, hg⟩ := (index_exact ev rows k).mp h
  exact ⟨r, hr, by simp [he], he, hg⟩

/-- on every index entry the denominators of `U` and of the means are non-zero: `n > 0`, `#(e) > 0`, `#(e,g) > 0`,
    `P(e) > 0`, `P(e,g) > 0`.  So no theorem about an index entry is true "because `x / 0 = 0`". -/
theorem index_denominators_pos (ev : Ev) (rows : List Row) (k : Key) (hk : k ∈ index ev rows) :
    0 < rows.length ∧ 0 < countE ev rows k.event ∧ 0 < countEG ev rows k.event k.group ∧
    0 < probE ev rows k.event ∧ 0 < probEG ev rows k.event k.group := by
  have hobs := (index_exact ev rows k).mp hk
  have h1 := rows_pos ev rows _ _ hobs
  have h2 := countE_pos ev rows _ _ hobs
  have h3 := countEG_pos ev rows _ _ hobs
  exact ⟨h1, h2, h3, div_pos (Nat.cast_pos.mpr h2) (Nat.cast_pos.mpr h1), div_pos (Nat.cast_pos.mpr h3) (Nat.cast_pos.mpr h1)⟩

/-- the index is NOT a product index: event `label=1` occurs (row 0), group "b" occurs (row 1), but never together —
    there is no entry for ("label=1", "b") -/
example : index (eventOf .tpr) [⟨1, "a", none⟩, ⟨0, "b", none⟩]
    = [⟨.plus, "label=1", "a"⟩, ⟨.minus, "label=1", "a"⟩] := by decide +kernel
example : index (eventOf .eo) [⟨1, "a", some "x"⟩, ⟨0, "b", some "x"⟩, ⟨1, "b", some "y"⟩]
    = [⟨.plus, "control=x,label=0", "b"⟩, ⟨.plus, "control=x,label=1", "a"⟩, ⟨.plus, "control=y,label=1", "b"⟩,
       ⟨.minus, "control=x,label=0", "b"⟩, ⟨.minus, "control=x,label=1", "a"⟩, ⟨.minus, "control=y,label=1", "b"⟩] := by
  decide +kernel

/-! ### gamma -/

theorem gamma_entries (ev : Ev) (rows : List Row) (ratio : Rat) (ut : Util) (h : List Rat) :
    gamma ev rows ratio ut h = (index ev rows).map (gammaAt ev rows ratio ut h) ∧
    (gamma ev rows ratio ut h).length = (index ev rows).length := by
  simp [gamma]

/-- `+` entry of an observed pair: `r * mean_{e,g}(u) - mean_e(u)`, `u` = utility of the prediction -/
theorem gamma_plus (ev : Ev) (rows : List Row) (ratio : Rat) (ut : Util) (h : List Rat) (e g : String)
    (hobs : Observed ev rows e g) :
    gammaAt ev rows ratio ut h ⟨.plus, e, g⟩
      = ratio * meanOn (inEG ev e g) rows (predOf ut rows h) - meanOn (inE ev e) rows (predOf ut rows h) := by
  have hn : (rows.length : Rat) ≠ 0 := Nat.cast_ne_zero.mpr (rows_pos ev rows e g hobs).ne'
  rw [gammaAt, dot_uPlus, MomentsSrc.gammaOf, neg_div, mul_div_cancel_left₀ _ hn, neg_sub]

/-- `-` entry of an observed pair: `r * mean_e(u) - mean_{e,g}(u)` -/
theorem gamma_minus (ev : Ev) (rows : List Row) (ratio : Rat) (ut : Util) (h : List Rat) (e g : String)
    (hobs : Observed ev rows e g) :
    gammaAt ev rows ratio ut h ⟨.minus, e, g⟩
      = ratio * meanOn (inE ev e) rows (predOf ut rows h) - meanOn (inEG ev e g) rows (predOf ut rows h) := by
  have hn : (rows.length : Rat) ≠ 0 := Nat.cast_ne_zero.mpr (rows_pos ev rows e g hobs).ne'
  rw [gammaAt, dot_uMinus, MomentsSrc.gammaOf, neg_div, mul_div_cancel_left₀ _ hn, neg_sub]

/-- the documented value of EVERY entry of the index, no side condition -/
theorem gamma_entry_spec (ev : Ev) (rows : List Row) (ratio : Rat) (ut : Util) (h : List Rat) (k : Key)
    (hk : k ∈ index ev rows) :
    gammaAt ev rows ratio ut h k = match k.sign with
      | .plus => ratio * meanOn (inEG ev k.event k.group) rows (predOf ut rows h)
                  - meanOn (inE ev k.event) rows (predOf ut rows h)
      | .minus => ratio * meanOn (inE ev k.event) rows (predOf ut rows h)
                  - meanOn (inEG ev k.event k.group) rows (predOf ut rows h) := by
  have hobs := (index_exact ev rows k).mp hk
  obtain ⟨s, e, g⟩ := k
  cases s
  · exact gamma_plus ev rows ratio ut h e g hobs
  · exact gamma_minus ev rows ratio ut h e g hobs

/-- the first sentence of the property in one statement: `gamma(h)` is the list of documented values over an index
    that is duplicate-free and contains a key of either sign exactly for the observed (event, group) pairs -/
theorem gamma_exact (ev : Ev) (rows : List Row) (ratio : Rat) (ut : Util) (h : List Rat) :
    gamma ev rows ratio ut h = (index ev rows).map (fun k => match k.sign with
      | .plus => ratio * meanOn (inEG ev k.event k.group) rows (predOf ut rows h)
                  - meanOn (inE ev k.event) rows (predOf ut rows h)
      | .minus => ratio * meanOn (inE ev k.event) rows (predOf ut rows h)
                  - meanOn (inEG ev k.event k.group) rows (predOf ut rows h)) ∧
    (index ev rows).Nodup ∧
    (∀ s e g, (⟨s, e, g⟩ : Key) ∈ index ev rows ↔ ∃ r ∈ rows, ev r = some e ∧ r.g = g) := by
  refine ⟨?_, index_nodup ev rows, fun s e g => index_exact ev rows ⟨s, e, g⟩⟩
  unfold gamma
  exact List.map_congr_left (fun k hk => gamma_entry_spec ev rows ratio ut h k hk)

/-- `u` is the prediction itself for DP / TPR / FPR / EO … -/
theorem pred_default (rows : List Row) (h : List Rat) (hl : h.length = rows.length) :
    predOf defaultUtil rows h = h := by
  have : (fun (r : Row) (p : Rat) => MomentsSrc.predOf (defaultUtil.ud r) p (defaultUtil.u0 r)) = fun _ p => p := by
    funext r p
    simp only [MomentsSrc.predOf, Util.ud, defaultUtil, MomentsSrc.utilDiff, MomentsSrc.defaultU0, MomentsSrc.defaultU1,
      sub_zero, one_mul, add_zero]
  rw [predOf, this, List.zipWith_comm, zipWith_left_only _ h rows hl.symm, List.map_id']

/-- … and the error `|p - y|` (the 0/1 error indicator for hard predictions) for error-rate parity -/
theorem pred_erp (r : Row) (p : Rat) (hy : r.y = 0 ∨ r.y = 1) (hp : 0 ≤ p ∧ p ≤ 1) :
    MomentsSrc.predOf (erpUtil.ud r) p (erpUtil.u0 r) = |p - (r.y : Rat)| ∧
    (p = 0 ∨ p = 1 → MomentsSrc.predOf (erpUtil.ud r) p (erpUtil.u0 r) = if p = (r.y : Rat) then 0 else 1) := by
  simp only [MomentsSrc.predOf, Util.ud, erpUtil, MomentsSrc.utilDiff, MomentsSrc.erpU0, MomentsSrc.erpU1]
  rcases hy with hy | hy <;> rw [hy]
  · rw [Int.cast_zero, sub_zero p, abs_of_nonneg hp.1]
    exact ⟨by ring, by rintro (rfl | rfl) <;> decide +kernel⟩
  · rw [Int.cast_one, abs_of_nonpos (sub_nonpos.mpr hp.2)]
    exact ⟨by ring, by rintro (rfl | rfl) <;> decide +kernel⟩

/-- changing the predictions on rows that belong to no event changes no entry of gamma -/
theorem no_event_rows_inert (ev : Ev) (rows : List Row) (ratio : Rat) (ut : Util) (h h' : List Rat)
    (hl : h.length = rows.length) (hl' : h'.length = rows.length)
    (hagree : ∀ t ∈ rows.zip (h.zip h'), ev t.1 ≠ none → t.2.1 = t.2.2) :
    gamma ev rows ratio ut h = gamma ev rows ratio ut h' := by
  refine List.map_congr_left fun k _ => ?_
  -- `γ_k` is affine in the predictor with coefficients `ud·U[·,k]`, which vanish on the rows without event
  rw [gammaAt_lin ev rows ratio ut h k hl, gammaAt_lin ev rows ratio ut h' k hl',
    dot_congr_on _ rows h h' hl hl' fun t ht hne => hagree t ht fun hnone => hne ?_]
  rw [uEntry_of_no_event ev rows ratio t.1 k hnone, mul_zero]

/-! ### bound -/

/-- `bound()` is the configured slack on every entry of the index -/
theorem bound_const (ev : Ev) (rows : List Row) (eps : Rat) :
    bound ev rows eps = List.replicate (index ev rows).length eps := by
  simp [bound]

/-- the slack is `difference_bound`, or `ratio_bound_slack` with ratio `ratio_bound ∈ (0,1]`, or the default
    difference bound; a negative slack (fairlearn c80f72a) and anything else is rejected.  `mkConfig` is computed with
    the branches LIFTED from `UtilityParity.__init__` (`parityCtor`, `parityEps`, `slackMustBeNonneg` of
    `Generated/ValidationTables.lean`, `parityRatio` of `Generated/MomentsSrc.lean`): this theorem is the tie of (7) -/
theorem config_cases (d r : Option Rat) (s : Rat) :
    mkConfig d r s = match d, r with
      | none, none => .ok (MomentsSrc.defaultDifferenceBound, 1)
      | some d, none => if d < 0 then .error .negSlack else .ok (d, 1)
      | none, some r => if 0 < r ∧ r ≤ 1 then (if s < 0 then .error .negSlack else .ok (s, r)) else .error .ratioRange
      | some _, some _ => .error .bothBounds := by
  cases d <;> cases r <;>
    simp [mkConfig, Generated.ValidationTables.parityCtor, Generated.ValidationTables.parityEps,
      Generated.ValidationTables.slackMustBeNonneg, MomentsSrc.parityRatio, MomentsSrc.defaultDifferenceBound]

/-- an accepted configuration: which bound was given, the slack stored (never negative) and the ratio stored -/
theorem mkConfig_ok {d r : Option Rat} {s eps ratio : Rat} (h : mkConfig d r s = .ok (eps, ratio)) :
    (d = none ∧ r = none ∧ eps = MomentsSrc.defaultDifferenceBound ∧ ratio = 1) ∨
    (d = some eps ∧ r = none ∧ 0 ≤ eps ∧ ratio = 1) ∨
    (d = none ∧ r = some ratio ∧ eps = s ∧ 0 ≤ s ∧ 0 < ratio ∧ ratio ≤ 1) := by
  rw [config_cases] at h
  rcases d with _ | x <;> rcases r with _ | y <;> dsimp only at h
  · cases h; exact Or.inl ⟨rfl, rfl, rfl, rfl⟩
  · split at h
    · next hx =>
      split at h <;> cases h
      next hs => exact Or.inr (Or.inr ⟨rfl, rfl, rfl, not_lt.mp hs, hx⟩)
    · cases h
  · split at h <;> cases h
    next hx => exact Or.inr (Or.inl ⟨rfl, rfl, not_lt.mp hx, rfl⟩)
  · cases h

theorem config_ratio_in_range (d r : Option Rat) (s eps ratio : Rat) (h : mkConfig d r s = .ok (eps, ratio)) :
    0 < ratio ∧ ratio ≤ 1 := by
  rcases mkConfig_ok h with ⟨-, -, -, rfl⟩ | ⟨-, -, -, rfl⟩ | ⟨-, -, -, -, hr⟩
  exacts [⟨one_pos, le_refl _⟩, ⟨one_pos, le_refl _⟩, hr]

/-- an accepted configuration has a non-negative slack (the guard `if self.eps < 0: raise`, lifted) -/
theorem config_slack_nonneg (d r : Option Rat) (s eps ratio : Rat) (h : mkConfig d r s = .ok (eps, ratio)) : 0 ≤ eps := by
  rcases mkConfig_ok h with ⟨-, -, rfl, -⟩ | ⟨-, -, h0, -⟩ | ⟨-, -, rfl, h0, -⟩
  exacts [div_nonneg zero_le_one (by norm_num), h0, h0]

/-- which slack and which ratio an accepted configuration yields, and that `bound()` repeats that slack -/
theorem bound_of_config (d r : Option Rat) (s eps ratio : Rat) (h : mkConfig d r s = .ok (eps, ratio))
    (ev : Ev) (rows : List Row) :
    bound ev rows eps = List.replicate (index ev rows).length eps ∧
    (∀ x, d = some x → eps = x ∧ ratio = 1 ∧ r = none) ∧
    (∀ x, r = some x → eps = s ∧ ratio = x ∧ d = none ∧ 0 < x ∧ x ≤ 1) ∧
    (d = none → r = none → eps = MomentsSrc.defaultDifferenceBound ∧ ratio = 1) := by
  refine ⟨bound_const ev rows eps, ?_, ?_, ?_⟩ <;>
    rcases mkConfig_ok h with ⟨rfl, rfl, he, hr⟩ | ⟨rfl, rfl, -, hr⟩ | ⟨rfl, rfl, he, -, hx⟩
  · intro x hd; cases hd
  · intro x hd; cases hd; exact ⟨rfl, hr, rfl⟩
  · intro x hd; cases hd
  · intro x hr'; cases hr'
  · intro x hr'; cases hr'
  · intro x hr'; cases hr'; exact ⟨he, rfl, rfl, hx⟩
  · intro _ _; exact ⟨he, hr⟩
  · intro hd; cases hd
  · intro _ hr'; cases hr'

example : mkConfig none (some (4/5)) (1/8) = .ok (1/8, 4/5) ∧ mkConfig (some (1/4)) none 7 = .ok (1/4, 1) ∧
    mkConfig none none 7 = .ok (1/100, 1) ∧ mkConfig none (some 0) 0 = .error .ratioRange ∧
    mkConfig none (some (3/2)) 0 = .error .ratioRange ∧ mkConfig (some (-1/8)) none 0 = .error .negSlack ∧
    mkConfig none (some (1/2)) (-1/8) = .error .negSlack ∧ mkConfig (some 0) none 0 = .ok (0, 1) := by decide +kernel

/-! ### loss moments and the objective -/

/-- BoundedGroupLoss.gamma is the per-group mean of the (clipped) loss … -/
theorem bgl_gamma (l : Loss) (rows : List LRow) (h : List Rat) (g : String) :
    bglGammaAt l rows h g
      = dot (rows.map (fun r => ind (r.g == g))) (lossOf l rows h) / ((rows.filter (fun r => r.g == g)).length : Rat) ∧
    bglGamma l rows h = (bglIndex rows).map (bglGammaAt l rows h) ∧
    (∀ g', g' ∈ bglIndex rows ↔ ∃ r ∈ rows, r.g = g') ∧ (bglIndex rows).Nodup := by
  refine ⟨bglGammaAt_eq l rows h g, rfl, fun g' => ?_, nodup_sortedDistinct _ _⟩
  unfold bglIndex; rw [mem_sortedDistinct]; exact List.mem_map

/-- … where the loss of a row is the square / absolute difference of label and prediction after clipping both
    to `[lo, hi]`; it lies in `[0, (hi-lo)^2]` resp. `[0, hi-lo]` (the documented `min`/`max` of the loss) -/
theorem loss_values (lo hi y p : Rat) (hlh : lo ≤ hi) :
    (Loss.square lo hi).eval y p = (max lo (min y hi) - max lo (min p hi)) ^ 2 ∧
    (Loss.absolute lo hi).eval y p = |max lo (min y hi) - max lo (min p hi)| ∧
    0 ≤ (Loss.square lo hi).eval y p ∧ (Loss.square lo hi).eval y p ≤ (hi - lo) ^ 2 ∧
    0 ≤ (Loss.absolute lo hi).eval y p ∧ (Loss.absolute lo hi).eval y p ≤ hi - lo := by
  have hb := abs_sub_le_of_between (clipR_between y lo hi) (clipR_between p lo hi)
  rw [abs_of_nonneg (sub_nonneg.mpr hlh)] at hb
  simp only [Loss.eval, MomentsSrc.squareLoss, MomentsSrc.absoluteLoss, absR_eq, ← clipR_of_le _ lo hi hlh, sq]
  exact ⟨trivial, trivial, mul_self_nonneg _, hb.2, abs_nonneg _, hb.1⟩

/-- ErrorRate.gamma is the cost-weighted error: for labels in {0,1} and (soft) predictions in [0,1] it is
    `(1/n) Σ (fn·y·(1-h) + fp·(1-y)·h)` … -/
theorem errorRate_gamma (fp fn : Rat) (ys h : List Rat) (hl : h.length = ys.length)
    (hy : Hard ys) (hh : Soft h) :
    errGamma fp fn ys h
      = (List.zipWith (fun y p => fn * y * (1 - p) + fp * (1 - y) * p) ys h).sum / (ys.length : Rat) :=
  errGamma_soft fp fn ys h hy hh

/-- … which for hard predictions is `(fp·#false positives + fn·#false negatives) / n` -/
theorem errorRate_gamma_hard (fp fn : Rat) (ys h : List Rat) (hl : h.length = ys.length)
    (hy : Hard ys) (hh : Hard h) :
    errGamma fp fn ys h
      = (fp * (((ys.zip h).filter (fun t => t.1 == 0 && t.2 == 1)).length : Rat)
         + fn * (((ys.zip h).filter (fun t => t.1 == 1 && t.2 == 0)).length : Rat)) / (ys.length : Rat) := by
  -- for a 0/1 value the indicators of `· == 1` and `· == 0` are the value and its complement
  have h1 : ∀ y : Rat, (y = 0 ∨ y = 1) → ind (y == 1) = y ∧ ind (y == 0) = 1 - y := by
    rintro y (rfl | rfl)
    · exact ⟨by decide, by rw [sub_zero]; decide⟩
    · exact ⟨by decide, by rw [sub_self]; decide⟩
  rw [errGamma_soft fp fn ys h hy hh.soft, length_filter_cast, length_filter_cast, ← List.sum_map_mul_left,
    ← List.sum_map_mul_left, ← List.sum_map_add, ← List.map_uncurry_zip_eq_zipWith]
  refine congrArg (fun l => List.sum l / _) (List.map_congr_left fun t ht => ?_)
  obtain ⟨a1, a0⟩ := h1 t.1 (hy _ (List.of_mem_zip ht).1)
  obtain ⟨b1, b0⟩ := h1 t.2 (hh _ (List.of_mem_zip ht).2)
  rw [← ind_mul, ← ind_mul, a0, a1, b0, b1, Function.uncurry]; ring

/-- `ErrorRate(costs=…)` accepts the costs iff both are non-negative and not both zero (the driver op `mom.err.costs`
    evaluates `costsOk`) -/
theorem costs_ok_iff (fp fn : Rat) : costsOk fp fn = true ↔ 0 ≤ fp ∧ 0 ≤ fn ∧ 0 < fp + fn := by
  simp [costsOk, Generated.ValidationTables.errorRateCtor, and_assoc]

example : costsOk 0 2 = true ∧ costsOk 0 0 = false ∧ costsOk (-1) 2 = false := by decide +kernel

/-! ### ratio 1: the `+` entries are MetricFrame's `by_group - overall` of the matching rate -/

/-- demographic parity, hard predictions: selection rate of the group within the event's rows minus the
    selection rate of all the event's rows (`BaseMetrics.selectionRate`, the model behind C14/C01) -/
theorem gamma_plus_eq_selection_rate (ev : Ev) (rows : List Row) (hp : List Int) (e g : String)
    (hl : hp.length = rows.length) (hobs : Observed ev rows e g) :
    BaseMetrics.selectionRate (toBM (inEG ev e g) rows hp) 1 = .ok
      (meanOn (inEG ev e g) rows (hp.map (fun x => ind (x == 1)))) ∧
    BaseMetrics.selectionRate (toBM (inE ev e) rows hp) 1 = .ok
      (meanOn (inE ev e) rows (hp.map (fun x => ind (x == 1)))) ∧
    gammaAt ev rows 1 defaultUtil (hp.map (fun x => ind (x == 1))) ⟨.plus, e, g⟩
      = meanOn (inEG ev e g) rows (hp.map (fun x => ind (x == 1)))
        - meanOn (inE ev e) rows (hp.map (fun x => ind (x == 1))) := by
  have hne : (rows.filter (inEG ev e g)) ≠ [] :=
    List.ne_nil_of_length_pos (countEG_pos ev rows e g hobs)
  have hne' : (rows.filter (inE ev e)) ≠ [] :=
    List.ne_nil_of_length_pos (countE_pos ev rows e g hobs)
  refine ⟨selectionRate_toBM _ rows hp hl hne, selectionRate_toBM _ rows hp hl hne', ?_⟩
  rw [gamma_plus ev rows 1 defaultUtil _ e g hobs, pred_default rows _ (by simp [hl])]
  ring

/-- true/false-positive-rate parity and equalized odds, hard predictions: when the event `e` selects, among the rows
    PRESENT, those of a stratum `S` with label `c` (c = 1: TPR, c = 0: FPR), the `+` entry is the group's rate minus the
    stratum's rate, both computed by `BaseMetrics` on the *whole* stratum (all labels) -/
theorem gamma_plus_eq_rate_on (ev : Ev) (rows : List Row) (hp : List Int) (e g : String) (S : Row → Bool) (c : Int)
    (hl : hp.length = rows.length) (hobs : Observed ev rows e g) (hh : ∀ x ∈ hp, x = 0 ∨ x = 1)
    (hS : ∀ r ∈ rows, inE ev e r = (S r && r.y == c)) :
    gammaAt ev rows 1 defaultUtil (hp.map (fun x => ind (x == 1))) ⟨.plus, e, g⟩
      = condRate c (toBM (fun r => S r && r.g == g) rows hp) - condRate c (toBM S rows hp) := by
  rw [gamma_plus ev rows 1 defaultUtil _ e g hobs, pred_default rows _ (by simp [hl])]
  have h1 : ∀ r ∈ rows, inEG ev e g r = ((S r && r.g == g) && r.y == c) := by
    intro r hr; rw [inEG_eq, hS r hr, Bool.and_right_comm]
  have hne : (rows.filter (fun r => (S r && r.g == g) && r.y == c)) ≠ [] := by
    rw [← List.filter_congr h1]; exact List.ne_nil_of_length_pos (countEG_pos ev rows e g hobs)
  have hne' : (rows.filter (fun r => S r && r.y == c)) ≠ [] := by
    rw [← List.filter_congr hS]; exact List.ne_nil_of_length_pos (countE_pos ev rows e g hobs)
  rw [meanOn_congr _ _ rows _ h1, meanOn_congr _ _ rows _ hS,
    condRate_toBM _ rows hp c hl hh hne, condRate_toBM _ rows hp c hl hh hne']
  ring

theorem gamma_plus_eq_rate (ev : Ev) (rows : List Row) (hp : List Int) (e g : String) (S : Row → Bool) (c : Int)
    (hl : hp.length = rows.length) (hobs : Observed ev rows e g) (hh : ∀ x ∈ hp, x = 0 ∨ x = 1)
    (hS : ∀ r, inE ev e r = (S r && r.y == c)) :
    gammaAt ev rows 1 defaultUtil (hp.map (fun x => ind (x == 1))) ⟨.plus, e, g⟩
      = condRate c (toBM (fun r => S r && r.g == g) rows hp) - condRate c (toBM S rows hp) :=
  gamma_plus_eq_rate_on ev rows hp e g S c hl hobs hh (fun r _ => hS r)

theorem condRate_is_base_rate (bm : List BaseMetrics.Row) :
    condRate 1 bm = BaseMetrics.tprOf bm 0 1 ∧ condRate 0 bm = BaseMetrics.fprOf bm 0 1 := ⟨rfl, rfl⟩

/-- within a control stratum: the TPR event `control=c0,label=1` selects exactly the rows of stratum `c0` with
    label 1, the FPR event `control=c0,label=0` those with label 0 (so `gamma_plus_eq_rate` applies with
    `S := fun r => r.c == some c0`, i.e. to MetricFrame's (control, group) cell minus its control-level overall) -/
theorem tpr_event_selects_in_stratum (r : Row) (c0 : String) :
    inE (eventOf .tpr) (MomentsSrc.ctrlFormat c0 (MomentsSrc.labelEvent 1)) r = ((r.c == some c0) && (r.y == 1)) :=
  inE_stratum_of_label .tpr 1 _ c0 r (baseEvent_cases .tpr r)

theorem fpr_event_selects_in_stratum (r : Row) (c0 : String) :
    inE (eventOf .fpr) (MomentsSrc.ctrlFormat c0 (MomentsSrc.labelEvent 0)) r = ((r.c == some c0) && (r.y == 0)) :=
  inE_stratum_of_label .fpr 0 _ c0 r (baseEvent_cases .fpr r)

/-- TPR parity WITHOUT control features: `+` entry of group g = TPR of g − overall TPR (`BaseMetrics.tprOf`) -/
theorem tpr_gamma_plus (rows : List Row) (hp : List Int) (g : String)
    (hl : hp.length = rows.length) (hh : ∀ x ∈ hp, x = 0 ∨ x = 1) (hc : ∀ r ∈ rows, r.c = none)
    (hobs : Observed (eventOf .tpr) rows (MomentsSrc.labelEvent 1) g) :
    gammaAt (eventOf .tpr) rows 1 defaultUtil (hp.map (fun x => ind (x == 1))) ⟨.plus, MomentsSrc.labelEvent 1, g⟩
      = BaseMetrics.tprOf (toBM (fun r => true && r.g == g) rows hp) 0 1
        - BaseMetrics.tprOf (toBM (fun _ => true) rows hp) 0 1 :=
  gamma_plus_eq_rate_on (eventOf .tpr) rows hp _ g (fun _ => true) 1 hl hobs hh
    (fun r hr => by rw [tpr_inE_nocontrol, hc r hr]; rfl)

/-- FPR parity WITHOUT control features -/
theorem fpr_gamma_plus (rows : List Row) (hp : List Int) (g : String)
    (hl : hp.length = rows.length) (hh : ∀ x ∈ hp, x = 0 ∨ x = 1) (hc : ∀ r ∈ rows, r.c = none)
    (hobs : Observed (eventOf .fpr) rows (MomentsSrc.labelEvent 0) g) :
    gammaAt (eventOf .fpr) rows 1 defaultUtil (hp.map (fun x => ind (x == 1))) ⟨.plus, MomentsSrc.labelEvent 0, g⟩
      = BaseMetrics.fprOf (toBM (fun r => true && r.g == g) rows hp) 0 1
        - BaseMetrics.fprOf (toBM (fun _ => true) rows hp) 0 1 :=
  gamma_plus_eq_rate_on (eventOf .fpr) rows hp _ g (fun _ => true) 0 hl hobs hh
    (fun r hr => by rw [fpr_inE_nocontrol, hc r hr]; rfl)

/-- TPR parity with control features, ratio 1, hard predictions: the `+` entry of (stratum c0, group g) is the
    group's true-positive rate within the stratum minus the stratum's true-positive rate -/
theorem tpr_gamma_plus_in_stratum (rows : List Row) (hp : List Int) (c0 g : String)
    (hl : hp.length = rows.length) (hh : ∀ x ∈ hp, x = 0 ∨ x = 1)
    (hobs : Observed (eventOf .tpr) rows (MomentsSrc.ctrlFormat c0 (MomentsSrc.labelEvent 1)) g) :
    gammaAt (eventOf .tpr) rows 1 defaultUtil (hp.map (fun x => ind (x == 1)))
        ⟨.plus, MomentsSrc.ctrlFormat c0 (MomentsSrc.labelEvent 1), g⟩
      = BaseMetrics.tprOf (toBM (fun r => (r.c == some c0) && r.g == g) rows hp) 0 1
        - BaseMetrics.tprOf (toBM (fun r => r.c == some c0) rows hp) 0 1 :=
  gamma_plus_eq_rate (eventOf .tpr) rows hp _ g (fun r => r.c == some c0) 1 hl hobs hh
    (fun r => tpr_event_selects_in_stratum r c0)

/-- FPR parity WITH control features: `+` entry of (stratum c0, group g) = FPR of g within the stratum − the
    stratum's FPR -/
theorem fpr_gamma_plus_in_stratum (rows : List Row) (hp : List Int) (c0 g : String)
    (hl : hp.length = rows.length) (hh : ∀ x ∈ hp, x = 0 ∨ x = 1)
    (hobs : Observed (eventOf .fpr) rows (MomentsSrc.ctrlFormat c0 (MomentsSrc.labelEvent 0)) g) :
    gammaAt (eventOf .fpr) rows 1 defaultUtil (hp.map (fun x => ind (x == 1)))
        ⟨.plus, MomentsSrc.ctrlFormat c0 (MomentsSrc.labelEvent 0), g⟩
      = BaseMetrics.fprOf (toBM (fun r => (r.c == some c0) && r.g == g) rows hp) 0 1
        - BaseMetrics.fprOf (toBM (fun r => r.c == some c0) rows hp) 0 1 :=
  gamma_plus_eq_rate (eventOf .fpr) rows hp _ g (fun r => r.c == some c0) 0 hl hobs hh
    (fun r => fpr_event_selects_in_stratum r c0)

/-- EqualizedOdds WITHOUT control features, both events (`lab = 1`: TPR, `lab = 0`: FPR); no assumption on the labels
    (a row with another label belongs to neither event).  `lab` is a digit because the rows' labels are arbitrary and
    `label=<y>` is shown injective against one-digit labels only (`labelEvent_inj_digit`); within a stratum, below,
    labels and `lab` are binary instead -/
theorem eo_gamma_plus (rows : List Row) (hp : List Int) (g : String) (lab : Nat) (hlab : lab < 10)
    (hl : hp.length = rows.length) (hh : ∀ x ∈ hp, x = 0 ∨ x = 1) (hc : ∀ r ∈ rows, r.c = none)
    (hobs : Observed (eventOf .eo) rows (MomentsSrc.labelEvent (lab : Int)) g) :
    gammaAt (eventOf .eo) rows 1 defaultUtil (hp.map (fun x => ind (x == 1)))
        ⟨.plus, MomentsSrc.labelEvent (lab : Int), g⟩
      = condRate (lab : Int) (toBM (fun r => true && r.g == g) rows hp)
        - condRate (lab : Int) (toBM (fun _ => true) rows hp) :=
  gamma_plus_eq_rate_on (eventOf .eo) rows hp _ g (fun _ => true) (lab : Int) hl hobs hh
    (fun r hr => by rw [eo_inE_nocontrol_digit r lab hlab, hc r hr]; rfl)

/-- EqualizedOdds WITH control features (binary labels): the `+` entry of (stratum c0, label lab, group g) is the
    group's rate within the stratum minus the stratum's rate — TPR for `lab = 1`, FPR for `lab = 0`
    (`condRate_is_base_rate`) -/
theorem eo_gamma_plus_in_stratum (rows : List Row) (hp : List Int) (c0 g : String) (lab : Int)
    (hlab : lab = 0 ∨ lab = 1) (hl : hp.length = rows.length) (hh : ∀ x ∈ hp, x = 0 ∨ x = 1)
    (hy : ∀ r ∈ rows, r.y = 0 ∨ r.y = 1)
    (hobs : Observed (eventOf .eo) rows (MomentsSrc.ctrlFormat c0 (MomentsSrc.labelEvent lab)) g) :
    gammaAt (eventOf .eo) rows 1 defaultUtil (hp.map (fun x => ind (x == 1)))
        ⟨.plus, MomentsSrc.ctrlFormat c0 (MomentsSrc.labelEvent lab), g⟩
      = condRate lab (toBM (fun r => (r.c == some c0) && r.g == g) rows hp)
        - condRate lab (toBM (fun r => r.c == some c0) rows hp) :=
  gamma_plus_eq_rate_on (eventOf .eo) rows hp _ g (fun r => r.c == some c0) lab hl hobs hh
    (fun r hr => eo_inE_stratum r c0 lab (hy r hr) hlab)

/-- error-rate parity, ratio 1, hard predictions: the `+` entry is the group's misclassification rate within
    the event's rows minus the misclassification rate of all the event's rows -/
theorem gamma_plus_eq_error_rate (ev : Ev) (rows : List Row) (hp : List Int) (e g : String)
    (hl : hp.length = rows.length) (hobs : Observed ev rows e g)
    (hy : ∀ r ∈ rows, r.y = 0 ∨ r.y = 1) (hh : ∀ x ∈ hp, x = 0 ∨ x = 1) :
    gammaAt ev rows 1 erpUtil (hp.map (fun x => ind (x == 1))) ⟨.plus, e, g⟩
      = errRateBM (toBM (inEG ev e g) rows hp) - errRateBM (toBM (inE ev e) rows hp) := by
  rw [gamma_plus ev rows 1 erpUtil _ e g hobs, errRate_toBM _ rows hp hl hy hh, errRate_toBM _ rows hp hl hy hh]
  ring

/-! ### sums over the groups of one event -/

/-- the `+` entries of an event, weighted by `P(group | event)`, sum to `(r − 1)·mean_event(u)` — for `r = 1` they
    are a vector with zero weighted sum (`groupsOf` = the groups observed with the event, i.e. exactly the groups
    that have an index entry for it, `mem_groupsOf`) … -/
theorem gamma_plus_weighted_sum (ev : Ev) (rows : List Row) (ratio : Rat) (ut : Util) (h : List Rat) (e g0 : String)
    (hobs : Observed ev rows e g0) :
    ((groupsOf ev rows e).map (fun g =>
        (probEG ev rows e g / probE ev rows e) * gammaAt ev rows ratio ut h ⟨.plus, e, g⟩)).sum
      = (ratio - 1) * meanOn (inE ev e) rows (predOf ut rows h) := by
  rw [List.map_congr_left fun g hg => by
      rw [gamma_plus ev rows ratio ut h e g ((mem_groupsOf ev rows e g).mp hg), sub_eq_add_neg, ← neg_one_mul],
    sum_groups_affine ev rows e g0 _ hobs]
  ring

/-- … and so do the `−` entries (`Σ_g P(g|e)·(r·mean_e − mean_{e,g}) = (r − 1)·mean_e`) -/
theorem gamma_minus_weighted_sum (ev : Ev) (rows : List Row) (ratio : Rat) (ut : Util) (h : List Rat) (e g0 : String)
    (hobs : Observed ev rows e g0) :
    ((groupsOf ev rows e).map (fun g =>
        (probEG ev rows e g / probE ev rows e) * gammaAt ev rows ratio ut h ⟨.minus, e, g⟩)).sum
      = (ratio - 1) * meanOn (inE ev e) rows (predOf ut rows h) := by
  rw [List.map_congr_left fun g hg => by
      rw [gamma_minus ev rows ratio ut h e g ((mem_groupsOf ev rows e g).mp hg), sub_eq_add_neg, ← neg_one_mul,
        add_comm],
    sum_groups_affine ev rows e g0 _ hobs]
  ring

/-- the groups summed over are exactly those with an index entry for the event, each once -/
theorem groupsOf_spec (ev : Ev) (rows : List Row) (e g : String) :
    (g ∈ groupsOf ev rows e ↔ (⟨.plus, e, g⟩ : Key) ∈ index ev rows) ∧ (groupsOf ev rows e).Nodup := by
  refine ⟨?_, nodup_groupsOf ev rows e⟩
  rw [mem_groupsOf, index_exact]

/-! ### gamma is affine in the predictor -/

/-- `γ(a·h + (1−a)·h') = a·γ(h) + (1−a)·γ(h')`, every entry, any rational `a` -/
theorem gamma_affine (ev : Ev) (rows : List Row) (ratio : Rat) (ut : Util) (a : Rat) (h h' : List Rat) (k : Key)
    (hl : h.length = rows.length) (hl' : h'.length = rows.length) :
    gammaAt ev rows ratio ut (vadd (h.map (fun x => a * x)) (h'.map (fun x => (1 - a) * x))) k
      = a * gammaAt ev rows ratio ut h k + (1 - a) * gammaAt ev rows ratio ut h' k := by
  rw [gammaAt_lin ev rows ratio ut _ k (by simp [vadd, hl, hl']), gammaAt_lin ev rows ratio ut h k hl,
    gammaAt_lin ev rows ratio ut h' k hl', dot_vadd_right _ _ _ (by simp [hl, hl']), dot_smul_right, dot_smul_right]
  ring

/-- the randomised predictor: for predictors `hs` with ANY weights `ws` summing to 1, gamma of the pointwise
    mixture `Σ_j w_j·h_j` is the `ws`-mixture of the gammas (this is what makes `gamma(Q)` of
    ExponentiatedGradient's `Q` the `weights_`-mixture of the stored per-predictor gammas) -/
theorem gamma_mixture (ev : Ev) (rows : List Row) (ratio : Rat) (ut : Util) (ws : List Rat) (hs : List (List Rat))
    (hlen : ws.length = hs.length) (hall : ∀ h ∈ hs, h.length = rows.length) (hsum : ws.sum = 1) :
    gamma ev rows ratio ut (mix rows.length ws hs)
      = (index ev rows).map (fun k => dot ws (hs.map (fun h => gammaAt ev rows ratio ut h k))) := by
  refine List.map_congr_left fun k _ => ?_
  rw [gammaAt_lin ev rows ratio ut _ k (mix_length _ ws hs hall), dot_mix _ _ ws hs hlen hall,
    List.map_congr_left (fun h hh => gammaAt_lin ev rows ratio ut h k (hall h hh)),
    dot_map_add_right, dot_const_right ws hs _ hlen, hsum, dot_map_smul_right, one_mul]

/-- the mixture is the pointwise weighted sum: two predictors -/
example : mix 3 [1/4, 3/4] [[1, 0, 1], [0, 0, 1]] = [1/4, 0, 1] := by decide +kernel

/-! ### constant predictors -/

/-- for DP / TPR / FPR / EO (utility = the prediction) a constant predictor `c` has `(r − 1)·c` in every entry of an
    observed pair, `+` and `−` alike (0 for a difference bound) -/
theorem gamma_constant_predictor (ev : Ev) (rows : List Row) (ratio c : Rat) (s : Sign) (e g : String)
    (hobs : Observed ev rows e g) :
    gammaAt ev rows ratio defaultUtil (List.replicate rows.length c) ⟨s, e, g⟩ = (ratio - 1) * c := by
  have h1 : (rows.filter (inEG ev e g)).length ≠ 0 := (countEG_pos ev rows e g hobs).ne'
  have h2 : (rows.filter (inE ev e)).length ≠ 0 := (countE_pos ev rows e g hobs).ne'
  cases s
  · rw [gamma_plus ev rows ratio defaultUtil _ e g hobs, pred_default rows _ (List.length_replicate ..),
      meanOn_const _ rows c h1, meanOn_const _ rows c h2]; ring
  · rw [gamma_minus ev rows ratio defaultUtil _ e g hobs, pred_default rows _ (List.length_replicate ..),
      meanOn_const _ rows c h1, meanOn_const _ rows c h2]; ring

/-! ### the regression losses: declared range, 0/1 loss, group means within the range, multiplier lookup -/

/-- what the code guarantees about the clipped losses, for ALL `min_val`, `max_val`, labels and predictions, on numpy
    arrays (`eval`) and on pandas Series (`evalS`, the call made by `gamma`) alike: the value lies between the loss
    object's own `min` and `max` attributes (as lifted: 0 and `(max_val − min_val)²` resp. `|max_val − min_val|`).
    For `max_val < min_val` numpy clips both arguments to `max_val` (`clipR_of_gt`: loss 0) and pandas clips into
    `[max_val, min_val]`. -/
theorem loss_in_declared_range (l : Loss) (y p : Rat) :
    l.declMin ≤ l.eval y p ∧ l.eval y p ≤ l.declMax ∧ l.declMin ≤ l.evalS y p ∧ l.evalS y p ≤ l.declMax := by
  cases l with
  | square lo hi =>
    exact ⟨mul_self_nonneg _, (abs_sub_le_of_between (clipR_between y lo hi) (clipR_between p lo hi)).2,
      mul_self_nonneg _, (abs_sub_le_of_between (clipS_between y lo hi) (clipS_between p lo hi)).2⟩
  | absolute lo hi =>
    simp only [Loss.eval, Loss.evalS, Loss.declMin, Loss.declMax, MomentsSrc.absoluteLoss, MomentsSrc.absoluteLossS,
      LossRange.absoluteMin, LossRange.absoluteMax, absR_eq, lr_absR_eq]
    exact ⟨abs_nonneg _, (abs_sub_le_of_between (clipR_between y lo hi) (clipR_between p lo hi)).1,
      abs_nonneg _, (abs_sub_le_of_between (clipS_between y lo hi) (clipS_between p lo hi)).1⟩

/-- for `min_val ≤ max_val` the two container paths agree (so `loss_values` describes `gamma`'s losses too) … -/
theorem evalS_eq_eval (l : Loss) (y p : Rat) (h : match l with | .square lo hi => lo ≤ hi | .absolute lo hi => lo ≤ hi) :
    l.evalS y p = l.eval y p := by
  cases l with
  | square lo hi =>
    simp only [Loss.eval, Loss.evalS, MomentsSrc.squareLoss, MomentsSrc.squareLossS, clipS_of_le _ lo hi h]
  | absolute lo hi =>
    simp only [Loss.eval, Loss.evalS, MomentsSrc.absoluteLoss, MomentsSrc.absoluteLossS, clipS_of_le _ lo hi h]

/-- … but for `max_val < min_val` (accepted by the constructors) the value of `loss.eval` depends on the container
    type: 0 on numpy arrays, 1 on pandas Series for label 0 and prediction 1 under `SquareLoss(1, 0)`
    (finding F21, replayed in corpus/C06) -/
theorem eval_container_dependent :
    (Loss.square 1 0).eval 0 1 = 0 ∧ (Loss.square 1 0).evalS 0 1 = 1 ∧
    (Loss.absolute 1 0).eval 0 1 = 0 ∧ (Loss.absolute 1 0).evalS 0 1 = 1 := by
  decide +kernel

/-- `ZeroOneLoss` (= `AbsoluteLoss(0, 1)`, constructor arguments lifted): for a 0/1 label and a prediction in [0,1]
    it is `|y − p|` on either container, i.e. the 0/1 loss on hard predictions -/
theorem zero_one_loss (y p : Rat) (hy : y = 0 ∨ y = 1) (hp : 0 ≤ p ∧ p ≤ 1) :
    (Loss.absolute LossRange.zeroOneLo LossRange.zeroOneHi).eval y p = |y - p| ∧
    (Loss.absolute LossRange.zeroOneLo LossRange.zeroOneHi).evalS y p = |y - p| ∧
    (p = 0 ∨ p = 1 → (Loss.absolute LossRange.zeroOneLo LossRange.zeroOneHi).eval y p = if y = p then 0 else 1) := by
  have hc : ∀ x : Rat, 0 ≤ x → x ≤ 1 → MomentsSrc.clipR x 0 1 = x := fun x h0 h1 => by
    rw [clipR_eq, max_eq_left h0, min_eq_right h1]
  have hyc : MomentsSrc.clipR y 0 1 = y := by rcases hy with rfl | rfl <;> exact hc _ (by norm_num) (by norm_num)
  have hS := evalS_eq_eval (.absolute LossRange.zeroOneLo LossRange.zeroOneHi) y p
    (by simp [LossRange.zeroOneLo, LossRange.zeroOneHi])
  rw [hS]
  simp only [Loss.eval, MomentsSrc.absoluteLoss, absR_eq, LossRange.zeroOneLo, LossRange.zeroOneHi, hyc,
    hc p hp.1 hp.2, true_and]
  rintro (rfl | rfl) <;> rcases hy with rfl | rfl <;> decide +kernel

/-- every entry of `BoundedGroupLoss.gamma` (the plain, unweighted mean of the loss over exactly the group's rows,
    `bgl_gamma`) lies in the loss's declared `[min, max]` -/
theorem bgl_gamma_in_declared_range (l : Loss) (rows : List LRow) (h : List Rat) (g : String)
    (hl : h.length = rows.length) (hg : ∃ r ∈ rows, r.g = g) :
    l.declMin ≤ bglGammaAt l rows h g ∧ bglGammaAt l rows h g ≤ l.declMax := by
  have hcnt : 0 < (rows.filter (fun r => r.g == g)).length := by
    obtain ⟨r, hr, hrg⟩ := hg
    exact List.length_pos_of_mem (List.mem_filter.mpr ⟨hr, by simp [hrg]⟩)
  have hc : (0 : Rat) < ((rows.filter (fun r => r.g == g)).length : Rat) := Nat.cast_pos.mpr hcnt
  have hv : ∀ x ∈ lossOf l rows h, l.declMin ≤ x ∧ x ≤ l.declMax := by
    intro x hx
    rw [lossOf, ← List.map_uncurry_zip_eq_zipWith] at hx
    obtain ⟨t, _, rfl⟩ := List.mem_map.mp hx
    exact (loss_in_declared_range l _ _).2.2
  obtain ⟨b1, b2⟩ := dot_mem_bounds (rows.map (fun r : LRow => ind (r.g == g))) (lossOf l rows h) l.declMin l.declMax
    (by rw [lossOf, List.length_zipWith, hl, Nat.min_self, List.length_map])
    (fun x hx => by obtain ⟨r, _, rfl⟩ := List.mem_map.mp hx; exact ind_nonneg _) hv
  rw [← length_filter_cast] at b1 b2
  rw [(bgl_gamma l rows h g).1]
  constructor
  · rw [le_div_iff₀ hc]; exact b1
  · rw [div_le_iff₀ hc]; exact b2

/-- `signed_weights(λ)` of a loss moment: row `i` gets `λ_{g_i} / P(g_i)`, where `λ_{g}` is the multiplier at the
    position of `g` in the (sorted, duplicate-free) index -/
theorem bgl_signed_weights_entry (rows : List LRow) (lam : List Rat) (hlen : lam.length = (bglIndex rows).length)
    (i : Nat) (hi : i < (bglIndex rows).length) :
    bglSignedWeights rows (some lam)
      = rows.map (fun r => lookup (bglIndex rows) lam r.g / probG rows r.g) ∧
    lookup (bglIndex rows) lam ((bglIndex rows)[i]) = lam[i]'(by rw [hlen]; exact hi) := by
  exact ⟨by simp [bglSignedWeights, MomentsSrc.bglAdjust],
    lookup_getElem (bglIndex rows) (nodup_sortedDistinct _ _) lam hlen i hi⟩

/-! ### non-vacuity: concrete inputs meeting the hypotheses, evaluated by the kernel -/

def ex1 : List Row :=
  [⟨1, "a", some "x"⟩, ⟨0, "b", some "x"⟩, ⟨1, "a", some "y"⟩, ⟨0, "b", some "y"⟩, ⟨1, "b", some "x"⟩, ⟨1, "a", some "y"⟩]
def h1 : List Rat := [1, 0, 1/2, 1, 0, 1]

example : Observed (eventOf .tpr) ex1 "control=x,label=1" "b" := ⟨⟨1, "b", some "x"⟩, by decide +kernel⟩
example : (index (eventOf .tpr) ex1).length = 6 := by decide +kernel
example : gamma (eventOf .tpr) ex1 (1/2) defaultUtil h1 = [0, -1/2, -3/8, -3/4, 1/4, -3/8] := by decide +kernel
example : gamma (eventOf .erp) ex1 1 erpUtil h1 = [-1/3, 1/6, -1/4, 1/2, 1/3, -1/6, 1/4, -1/2] := by decide +kernel
example : meanOn (inEG (eventOf .tpr) "control=x,label=1" "b") ex1 h1 = 0 := by decide +kernel
example : mkConfig none (some (1/2)) (1/8) = .ok (1/8, 1/2) := by decide +kernel
example : mkConfig (some (1/4)) (some (1/2)) 0 = .error .bothBounds := by decide +kernel
example : bglGamma (.square 0 1) [⟨1, "a"⟩, ⟨0, "b"⟩, ⟨1, "b"⟩] [1/2, 2, 1] = [1/4, 1/2] := by decide +kernel
example : errGamma 2 3 [1, 0, 1, 0] [0, 1, 1, 0] = 5/4 := by decide +kernel
example : (∀ r ∈ ex1, r.y = 0 ∨ r.y = 1) := by decide +kernel
example : Observed (eventOf .tpr) ex1 (MomentsSrc.ctrlFormat "y" (MomentsSrc.labelEvent 1)) "a" :=
  ⟨⟨1, "a", some "y"⟩, by decide +kernel⟩

example : groupsOf (eventOf .tpr) ex1 "control=x,label=1" = ["a", "b"] := by decide +kernel
example : ((groupsOf (eventOf .eo) ex1 "control=x,label=1").map (fun g =>
    (probEG (eventOf .eo) ex1 "control=x,label=1" g / probE (eventOf .eo) ex1 "control=x,label=1")
      * gammaAt (eventOf .eo) ex1 (1/2) defaultUtil h1 ⟨.plus, "control=x,label=1", g⟩)).sum
    = (1/2 - 1) * meanOn (inE (eventOf .eo) "control=x,label=1") ex1 h1 := by decide +kernel
example : gammaAt (eventOf .eo) ex1 (1/2) defaultUtil (List.replicate 6 (1/4)) ⟨.minus, "control=x,label=1", "b"⟩
    = (1/2 - 1) * (1/4) := by decide +kernel
example : (Loss.square 1 0).declMax = 1 ∧ (Loss.absolute 2 (-1)).declMax = 3 := by constructor <;> decide +kernel
example : bglGamma (.square 1 0) [⟨0, "a"⟩, ⟨1, "b"⟩] [1, 1/2] = [1, 1/4] := by decide +kernel
example : lookup (bglIndex [⟨1, "b"⟩, ⟨0, "a"⟩, ⟨1, "b"⟩]) [5, 7] "b" = 7 := by decide +kernel


/-! non-vacuity of the rate theorems: `ex1` with hard predictions `hp1` meets every hypothesis, the groups' rates
    differ (TPR of "a" in stratum x is 1, of "b" 0, of the stratum 1/2), and both sides evaluate to the same number -/
def hp1 : List Int := [1, 0, 1, 1, 0, 1]
example : hp1.length = ex1.length ∧ (∀ x ∈ hp1, x = 0 ∨ x = 1) ∧ (∀ r ∈ ex1, r.y = 0 ∨ r.y = 1) := by decide +kernel
example : gammaAt (eventOf .tpr) ex1 1 defaultUtil (hp1.map (fun x => ind (x == 1))) ⟨.plus, "control=x,label=1", "a"⟩ = 1/2 ∧
    BaseMetrics.tprOf (toBM (fun r => (r.c == some "x") && r.g == "a") ex1 hp1) 0 1 = 1 ∧
    BaseMetrics.tprOf (toBM (fun r => r.c == some "x") ex1 hp1) 0 1 = 1/2 := by decide +kernel
example : gammaAt (eventOf .eo) ex1 1 defaultUtil (hp1.map (fun x => ind (x == 1))) ⟨.plus, "control=y,label=0", "b"⟩
    = condRate 0 (toBM (fun r => (r.c == some "y") && r.g == "b") ex1 hp1)
      - condRate 0 (toBM (fun r => r.c == some "y") ex1 hp1) :=
  eo_gamma_plus_in_stratum ex1 hp1 "y" "b" 0 (Or.inl rfl) (by decide) (by decide +kernel) (by decide +kernel)
    ⟨⟨0, "b", some "y"⟩, by decide +kernel⟩
def ex2 : List Row := [⟨1, "a", none⟩, ⟨0, "a", none⟩, ⟨1, "b", none⟩, ⟨0, "b", none⟩, ⟨1, "b", none⟩, ⟨0, "a", none⟩]
def hp2 : List Int := [1, 1, 0, 0, 1, 0]
example : gammaAt (eventOf .eo) ex2 1 defaultUtil (hp2.map (fun x => ind (x == 1))) ⟨.plus, "label=0", "a"⟩ = 1/6 ∧
    BaseMetrics.fprOf (toBM (fun r => true && r.g == "a") ex2 hp2) 0 1 = 1/2 ∧
    BaseMetrics.fprOf (toBM (fun _ => true) ex2 hp2) 0 1 = 1/3 := by decide +kernel
example : gammaAt (eventOf .eo) ex2 1 defaultUtil (hp2.map (fun x => ind (x == 1))) ⟨.plus, MomentsSrc.labelEvent ((1 : Nat) : Int), "b"⟩
    = condRate ((1 : Nat) : Int) (toBM (fun r => true && r.g == "b") ex2 hp2) - condRate ((1 : Nat) : Int) (toBM (fun _ => true) ex2 hp2) :=
  eo_gamma_plus ex2 hp2 "b" 1 (by decide) (by decide) (by decide +kernel) (by decide +kernel)
    ⟨⟨1, "b", none⟩, by decide +kernel⟩
-- error-rate parity and selection rate: hypotheses met, non-degenerate values
example : gammaAt (eventOf .erp) ex2 1 erpUtil (hp2.map (fun x => ind (x == 1))) ⟨.plus, "all", "a"⟩
    = errRateBM (toBM (inEG (eventOf .erp) "all" "a") ex2 hp2) - errRateBM (toBM (inE (eventOf .erp) "all") ex2 hp2) ∧
    errRateBM (toBM (inEG (eventOf .erp) "all" "a") ex2 hp2) = 1/3 ∧
    errRateBM (toBM (inE (eventOf .erp) "all") ex2 hp2) = 1/3 + 0 := by decide +kernel
example : BaseMetrics.selectionRate (toBM (inEG (eventOf .dp) "all" "b") ex2 hp2) 1 = .ok (1/3) ∧
    BaseMetrics.selectionRate (toBM (inE (eventOf .dp) "all") ex2 hp2) 1 = .ok (1/2) ∧
    gammaAt (eventOf .dp) ex2 1 defaultUtil (hp2.map (fun x => ind (x == 1))) ⟨.plus, "all", "b"⟩ = 1/3 - 1/2 := by
  decide +kernel
-- `no_event_rows_inert`: TPR parity, predictions changed on the label-0 rows only
example : gamma (eventOf .tpr) ex1 (1/2) defaultUtil [1, 0, 1/2, 1, 0, 1] = gamma (eventOf .tpr) ex1 (1/2) defaultUtil [1, 1, 1/2, 0, 0, 1] := by
  decide +kernel
-- `errorRate_gamma` / `_hard`: labels 0/1, soft resp. hard predictions
example : Hard [1, 0, 1, 0] ∧ Soft [1/2, 1/4, 1, 0] ∧ errGamma 2 3 [1, 0, 1, 0] [1/2, 1/4, 1, 0] = (3 * (1/2) + 2 * (1/4)) / 4 := by
  refine ⟨?_, ?_, by decide +kernel⟩
  · show ∀ x ∈ ([1, 0, 1, 0] : List Rat), x = 0 ∨ x = 1
    decide +kernel
  · show ∀ x ∈ ([1/2, 1/4, 1, 0] : List Rat), 0 ≤ x ∧ x ≤ 1
    decide +kernel
-- `bgl_gamma_in_declared_range`, `loss_values`: ordered bounds, clipping active on label and prediction
example : (Loss.square (1/4) (3/4)).eval 1 0 = 1/4 ∧ (Loss.absolute (-1) 1).evalS 2 (-3) = 2 := by decide +kernel

end C06
