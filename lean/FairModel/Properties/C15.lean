/-
C15 — CorrelationRemover output is uncorrelated with every sensitive column.
Helper lemmas live in `Lemmas/CorrRemover.lean`, `Lemmas/CorrLstsq.lean`, `Lemmas/CorrLifted.lean`.

Notation: `X` training matrix (list of rows), `ids` the sensitive column positions (in the order of
`sensitive_feature_ids`, after `lookup_`), `m` the number of columns, `S = sens ids X`,
`Z = nonSens ids m X`, `β = beta_` (a parameter: any matrix satisfying the normal equations).

CLAUSE → THEOREM TABLE (property text of properties.jsonl, clause by clause)
  1 "fit_transform with alpha = 1 returns the non-sensitive columns minus their least-squares projection on the
     per-column-centred sensitive columns"
        transform_one_eq_residual (output = Z − (S − mean)·β), lstsq_minimises (that residual is THE least-squares one),
        output_independent_of_solution (well defined although β is not unique), lifted_mean_per_column, lifted_center,
        src_model_eq
  2 "so every output column has zero sample covariance with every sensitive column of the training data"
        uncorrelated, covNum_eq_normal_residual (quantitative), src_uncorrelated,
        uncorrelated_two_rows (with n ≥ 2 the divisor n−1 is non-zero, so `cov = 0` is not a 0/0 artefact)
  3 "for any number of sensitive columns given by position or by name"
        all theorems quantify over `ids : List Nat` of any length; src_ids_by_position_or_name, lifted_split
  4 "the sensitive columns themselves are dropped and the remaining columns keep their order"
        drops_sensitive_keeps_order, src_drops_sensitive_keeps_order, lifted_split
  5 "for general alpha the output is alpha*residual + (1-alpha)*original"
        alpha_blend, transform_entry, alpha_zero, cov_alpha, src_alpha_blend, lifted_out_entry
  6 "transform applies to new data the same affine map (training means and coefficients) learned in fit"
        transform_new_data, transform_affine, transform_entry, lifted_transform_uses_training_statistics,
        src_transform_new_data
  NOT PROVED (trusted, stated in `trusted` of the check): that `numpy.linalg.lstsq` RETURNS a solution of the normal
  equations for every matrix (existence of a least-squares solution).  `uncorrelated`, `cov_alpha`, `lstsq_minimises`
  are conditional on `isLstsq … = true`; the driver evaluates that hypothesis exactly on every fitted `beta_`
  (relation C15.isLstsq), and the examples at the end of this file show it is met by non-degenerate inputs
  (two sensitive columns in non-increasing id order, correlation present, non-constant output) and by rank-deficient ones.

TOTALISATION NOTES
  * `cov a b = covNum a b / (n − 1)`: for n = 1 Lean gives x/0 = 0 whatever the output is, numpy gives NaN
    (`np.cov([2.],[1.])` → nan; `CorrelationRemover(sensitive_feature_ids=[0]).fit_transform([[1.,2.]])` → [[2.]]).
    The `cov = 0` conjunct of `uncorrelated` is therefore only meaningful for n ≥ 2 (the property's quantifier):
    `cov_eq_zero_iff`, `uncorrelated_two_rows`, `cov_single_row_is_totalisation` below.  The `covNum = 0` conjunct is
    division-free apart from the column means and carries the content for every n ≥ 1.
  * `ent`, `pick` use `getD _ 0`: an id ≥ m reads a zero column in the model where the real code raises
    ("Columns … not found", covered by C20); the driver refuses such ids (`okIds`), ragged matrices (`wellShaped`) and a
    `beta` of the wrong shape (`okBeta`) with `bad-op`.  The theorems hold for those inputs too, but say nothing about the code.
  * `vsub` is `zipWith`: a stored mean of the wrong length would truncate; `transform_entry` / `transform_affine` carry
    `p.mean.length = p.ids.length`, and `fitMean` has that length by construction (a `vec` of `ids.length` means: `length_vec`).
  * `colMean` divides by the number of rows: X = [] gives mean 0 (real code: validate_data raises); driver refuses X = [].
-/
import FairModel.Lemmas.CorrRemover
import FairModel.Lemmas.CorrLifted
import FairModel.Lemmas.CorrLstsq

namespace C15
open CorrRemover Finset

/-- the fitted parameters for `alpha` (mean = the per-column means learned from `X`) -/
def fitted (ids : List Nat) (m : Nat) (X β : Mat) (α : Rat) : Params :=
  ⟨ids, m, fitMean ids X, β, α⟩

/-- `fit_transform` with alpha = 1 returns exactly the residual `Z − (S − mean)·β` -/
theorem transform_one_eq_residual (ids : List Nat) (m : Nat) (mean : List Rat) (β X : Mat) :
    transform ⟨ids, m, mean, β, 1⟩ X
      = residual (center (sens ids X) mean) (nonSens ids m X) β := by
  unfold transform residual center sens nonSens
  rw [List.map_map, List.zipWith_map, List.zipWith_self]
  apply List.map_congr_left
  intro x _
  simp only [transformRow, Function.comp]
  exact blend_one _ _ (length_residRow _ _ _)

/-- Quantitative form, for ANY coefficient matrix β: the covariance numerator of output column `j`
    with sensitive column `k` equals entry `(k,j)` of the normal-equation residual
    `(S − mean)ᵀ·(Z − (S − mean)·β)`.  Hence the covariance vanishes exactly as far as `lstsq`
    solved its problem. -/
theorem covNum_eq_normal_residual (ids : List Nat) (m : Nat) (X β : Mat) (j k : Nat)
    (hk : k < ids.length) :
    covNum (colOf (transform (fitted ids m X β 1) X) j) (colOf (sens ids X) k)
      = normalResid (center (sens ids X) (fitMean ids X))
          (residual (center (sens ids X) (fitMean ids X)) (nonSens ids m X) β) k j := by
  unfold fitted
  rw [transform_one_eq_residual]
  apply covNum_col_eq_normalResid _ _ _ _ _ hk
  · intro i hi
    rw [length_sens] at hi
    rw [sens, getD_map _ X [] [] i hi, length_pick]
  · simp [residual, center, sens, nonSens]

/-- MAIN CLAUSE.  If `beta_` satisfies the normal equations of the per-column-centred sensitive
    block, every output column (alpha = 1) has zero sample covariance with every sensitive column
    of the training data — for any number of rows, sensitive columns and kept columns, any
    (collinear, duplicated, constant) sensitive columns. -/
theorem uncorrelated (ids : List Nat) (m : Nat) (X β : Mat)
    (hfit : isLstsq (center (sens ids X) (fitMean ids X)) (nonSens ids m X) β
              ids.length (nonSensIdx ids m).length = true)
    (j k : Nat) (hj : j < (nonSensIdx ids m).length) (hk : k < ids.length) :
    covNum (colOf (transform (fitted ids m X β 1) X) j) (colOf (sens ids X) k) = 0
    ∧ cov (colOf (transform (fitted ids m X β 1) X) j) (colOf (sens ids X) k) = 0 := by
  have h0 := covNum_eq_normal_residual ids m X β j k hk
  rw [(isLstsq_iff _ _ _ _ _).mp hfit k hk j hj] at h0
  exact ⟨h0, by unfold cov; rw [h0]; simp⟩

/-- with at least two rows the divisor `n − 1` of the sample covariance is non-zero, so `cov = 0` says
    exactly `covNum = 0` (no x/0 = 0 artefact) -/
theorem cov_eq_zero_iff (a b : List Rat) (h : 2 ≤ a.length) : cov a b = 0 ↔ covNum a b = 0 := by
  rw [cov, div_eq_zero_iff, or_iff_left (natCast_sub_one_ne_zero h)]

/-- … whereas for ONE row `cov` is 0 for ANY two columns: pure totalisation (numpy returns NaN there);
    this is why the property's quantifier, the generator and `uncorrelated_two_rows` ask for n ≥ 2 -/
theorem cov_single_row_is_totalisation (a b : List Rat) (h : a.length = 1) : cov a b = 0 := by
  unfold cov; rw [h]; simp

/-- MAIN CLAUSE with the property's guard n ≥ 2 made explicit: the covariance is a genuine quotient
    (divisor ≠ 0) and it is zero. -/
theorem uncorrelated_two_rows (ids : List Nat) (m : Nat) (X β : Mat) (hn : 2 ≤ X.length)
    (hfit : isLstsq (center (sens ids X) (fitMean ids X)) (nonSens ids m X) β
              ids.length (nonSensIdx ids m).length = true)
    (j k : Nat) (hj : j < (nonSensIdx ids m).length) (hk : k < ids.length) :
    (((colOf (transform (fitted ids m X β 1) X) j).length : Rat) - 1 ≠ 0) ∧
    cov (colOf (transform (fitted ids m X β 1) X) j) (colOf (sens ids X) k) = 0 := by
  refine ⟨?_, (uncorrelated ids m X β hfit j k hj hk).2⟩
  rw [length_colOf, transform, List.length_map]
  exact natCast_sub_one_ne_zero hn

/-- entry-wise alpha blend: output = alpha * residual + (1 - alpha) * original -/
theorem alpha_blend (p : Params) (x : List Rat) (j : Nat) (hj : j < (nonSensIdx p.ids p.m).length) :
    (transformRow p x).getD j 0
      = p.alpha * (transformRow { p with alpha := 1 } x).getD j 0
        + (1 - p.alpha) * (pick (nonSensIdx p.ids p.m) x).getD j 0 := by
  rw [getD_transformRow p x j hj, transformRow, blend_one _ _ (length_residRow _ _ _)]

/-- closed form of one output entry: `z_j − alpha · Σ_k (s_k − mean_k) β_kj` -/
theorem transform_entry (p : Params) (x : List Rat) (j : Nat)
    (hj : j < (nonSensIdx p.ids p.m).length) (hm : p.mean.length = p.ids.length) :
    (transformRow p x).getD j 0
      = x.getD ((nonSensIdx p.ids p.m).getD j 0) 0
        - p.alpha * ∑ k ∈ range p.ids.length,
            (x.getD (p.ids.getD k 0) 0 - p.mean.getD k 0) * ent p.beta k j := by
  rw [getD_transformRow p x j hj, getD_residRow _ _ _ _ (by rw [length_pick]; exact hj), getD_pick _ _ _ hj]
  have hlen : (vsub (pick p.ids x) p.mean).length = p.ids.length := by
    rw [length_vsub, length_pick, hm, Nat.min_self]
  rw [hlen]
  have e : ∀ k ∈ range p.ids.length,
      (vsub (pick p.ids x) p.mean).getD k 0 * ent p.beta k j
        = (x.getD (p.ids.getD k 0) 0 - p.mean.getD k 0) * ent p.beta k j := by
    intro k hk
    have hk' : k < p.ids.length := Finset.mem_range.mp hk
    unfold vsub
    rw [getD_zipWith _ _ _ _ (by rw [length_pick]; exact hk') (by rw [hm]; exact hk'),
      getD_pick _ _ _ hk']
  rw [Finset.sum_congr rfl e]
  ring

/-- alpha = 0 returns the kept columns untouched -/
theorem alpha_zero (ids : List Nat) (m : Nat) (mean : List Rat) (β X : Mat) :
    transform ⟨ids, m, mean, β, 0⟩ X = nonSens ids m X := by
  unfold transform nonSens
  apply List.map_congr_left
  intro x _
  exact blend_zero _ _ (length_residRow _ _ _)

/-- general alpha: under the normal equations the output keeps exactly the fraction `1 − alpha`
    of the original covariance with every sensitive column -/
theorem cov_alpha (ids : List Nat) (m : Nat) (X β : Mat) (α : Rat)
    (hfit : isLstsq (center (sens ids X) (fitMean ids X)) (nonSens ids m X) β
              ids.length (nonSensIdx ids m).length = true)
    (j k : Nat) (hj : j < (nonSensIdx ids m).length) (hk : k < ids.length) :
    covNum (colOf (transform (fitted ids m X β α) X) j) (colOf (sens ids X) k)
      = (1 - α) * covNum (colOf (nonSens ids m X) j) (colOf (sens ids X) k) := by
  have h1 := (uncorrelated ids m X β hfit j k hj hk).1
  have hb := covNum_blend (colOf (transform (fitted ids m X β α) X) j)
    (colOf (transform (fitted ids m X β 1) X) j) (colOf (nonSens ids m X) j)
    (colOf (sens ids X) k) α
    (by simp [length_colOf, transform, sens]) (by simp [length_colOf, transform, sens])
    (by simp [length_colOf, nonSens, sens])
    (by
      intro i hi
      rw [length_colOf, length_sens] at hi
      rw [getD_colOf _ _ _ (by simpa [transform] using hi),
        getD_colOf _ _ _ (by simpa [transform] using hi),
        getD_colOf _ _ _ (by simpa [nonSens] using hi)]
      unfold transform nonSens
      rw [ent_map _ _ _ _ hi, ent_map _ _ _ _ hi, ent_map _ _ _ _ hi]
      exact alpha_blend (fitted ids m X β α) (X.getD i []) j hj)
  rw [hb, h1]; ring

/-- shape of the least-squares problem `fit` poses on a training matrix `X` -/
theorem fit_problem_shaped (ids : List Nat) (m : Nat) (X : Mat) :
    Shaped (center (sens ids X) (fitMean ids X)) (nonSens ids m X) ids.length (nonSensIdx ids m).length := by
  have hl : (center (sens ids X) (fitMean ids X)).length = X.length := by
    rw [center, sens, List.length_map, List.length_map]
  refine ⟨by rw [hl, nonSens, List.length_map], fun i hi => ?_⟩
  rw [hl] at hi
  constructor
  · rw [center, sens, List.map_map, getD_map _ X [] [] i hi, Function.comp, length_vsub, length_pick, fitMean,
      colMeans, length_vec, Nat.min_self]
  · rw [nonSens, getD_map _ X [] [] i hi, length_pick]

/-- "minus their least-squares projection": a β satisfying the normal equations minimises the
    squared error of every kept column against the centred sensitive block, over ALL coefficient
    vectors `w` (so the residual the output consists of is the least-squares residual). -/
theorem lstsq_minimises (ids : List Nat) (m : Nat) (X β : Mat)
    (hfit : isLstsq (center (sens ids X) (fitMean ids X)) (nonSens ids m X) β
              ids.length (nonSensIdx ids m).length = true)
    (j : Nat) (hj : j < (nonSensIdx ids m).length) (w : Nat → Rat) :
    ∑ i ∈ range X.length, (ent (transform (fitted ids m X β 1) X) i j) ^ 2
      ≤ ∑ i ∈ range X.length,
          (ent (nonSens ids m X) i j
            - ∑ k ∈ range ids.length, ent (center (sens ids X) (fitMean ids X)) i k * w k) ^ 2 := by
  have hs := fit_problem_shaped ids m X
  have hl : (center (sens ids X) (fitMean ids X)).length = X.length := by simp [center, sens]
  have hmin := normalEq_minimises _ _ _ _ _ ((isLstsq_iff_normalEq _ _ β _ _ hs).mp hfit j hj) w
  rw [hl] at hmin
  refine le_of_eq_of_le (Finset.sum_congr rfl fun i hi => ?_) hmin
  have hi' : i < (center (sens ids X) (fitMean ids X)).length := hl ▸ Finset.mem_range.mp hi
  rw [fitted, transform_one_eq_residual,
    ent_residual _ _ β _ i j hi' hs.1 (hs.2 i hi').1 (by rw [(hs.2 i hi').2]; exact hj)]

/-- `transform` works row by row with the stored parameters only: on new data it applies the map
    learned in `fit` (training means and coefficients), nothing is re-estimated -/
theorem transform_new_data (p : Params) (Xnew Ynew : Mat) :
    transform p Xnew = Xnew.map (transformRow p)
    ∧ transform p (Xnew ++ Ynew) = transform p Xnew ++ transform p Ynew := by
  simp [transform]

/-- the learned map is AFFINE: it commutes with affine combinations of rows -/
theorem transform_affine (p : Params) (t : Rat) (x y : List Rat) (hxy : x.length = y.length)
    (hm : p.mean.length = p.ids.length) :
    transformRow p (lerp t x y) = lerp t (transformRow p x) (transformRow p y) := by
  apply ext_getD
  · simp [lerp, length_transformRow]
  · intro j hj
    rw [length_transformRow] at hj
    rw [getD_lerp _ _ _ (by simp [length_transformRow]),
      transform_entry p _ j hj hm, transform_entry p x j hj hm, transform_entry p y j hj hm]
    simp only [getD_lerp t x y hxy]
    have e : ∀ k ∈ range p.ids.length,
        (t * x.getD (p.ids.getD k 0) 0 + (1 - t) * y.getD (p.ids.getD k 0) 0 - p.mean.getD k 0)
            * ent p.beta k j
          = t * ((x.getD (p.ids.getD k 0) 0 - p.mean.getD k 0) * ent p.beta k j)
            + (1 - t) * ((y.getD (p.ids.getD k 0) 0 - p.mean.getD k 0) * ent p.beta k j) := by
      intro k _; ring
    rw [Finset.sum_congr rfl e, Finset.sum_add_distrib, ← Finset.mul_sum, ← Finset.mul_sum]
    ring

/-- the kept column positions are exactly the non-sensitive ones, in increasing order; the output
    has one column per kept position and one row per input row -/
theorem drops_sensitive_keeps_order (p : Params) (X : Mat) :
    (∀ c, c ∈ nonSensIdx p.ids p.m ↔ c < p.m ∧ c ∉ p.ids)
    ∧ (nonSensIdx p.ids p.m).Pairwise (· < ·)
    ∧ (transform p X).length = X.length
    ∧ (∀ r ∈ transform p X, r.length = (nonSensIdx p.ids p.m).length) := by
  refine ⟨?_, ?_, ?_, ?_⟩
  · intro c; simp [nonSensIdx]
  · exact List.Pairwise.filter _ List.pairwise_lt_range
  · simp [transform]
  · intro r hr
    simp only [transform, List.mem_map] at hr
    obtain ⟨x, _, rfl⟩ := hr
    exact length_transformRow p x

/-! ### is the output well defined when `beta_` is not? (finding F10: rank-deficient `lstsq`)

`numpy.linalg.lstsq` returns SOME solution of the normal equations; on collinear / duplicated / constant sensitive
columns there are many.  The theorems below show that the property's output does not depend on which one:
every solution gives the same residual, hence the same `fit_transform` output (and zero covariance, by `uncorrelated`).
The coefficients themselves are unique exactly when the centred sensitive columns are linearly independent, i.e. when
their Gram matrix is nonsingular.  F10 (covariance −0.0625 with `beta_ ≈ 4.9e14`) therefore is a pure floating-point
artefact: the returned `beta_` does not solve the normal equations to working precision. -/

/-- ANY two coefficient matrices satisfying the normal equations (unique or not) give the same
    residual `Z − Sc·β`, entry by entry. -/
theorem residual_unique (Sc Z β₁ β₂ : Mat) (ms mz : Nat) (hs : Shaped Sc Z ms mz)
    (h₁ : isLstsq Sc Z β₁ ms mz = true) (h₂ : isLstsq Sc Z β₂ ms mz = true) :
    ∀ i, i < Sc.length → ∀ j, j < mz → ent (residual Sc Z β₁) i j = ent (residual Sc Z β₂) i j := by
  intro i hi j hj
  have n1 := (isLstsq_iff_normalEq Sc Z β₁ ms mz hs).mp h₁ j hj
  have n2 := (isLstsq_iff_normalEq Sc Z β₂ ms mz hs).mp h₂ j hj
  have hf := normalEq_fitted_unique _ _ _ _ _ _ n1 n2 i hi
  have hjz : j < (Z.getD i []).length := by rw [(hs.2 i hi).2]; exact hj
  rw [ent_residual Sc Z β₁ ms i j hi hs.1 (hs.2 i hi).1 hjz, ent_residual Sc Z β₂ ms i j hi hs.1 (hs.2 i hi).1 hjz, hf]

/-- the `fit_transform` output (alpha = 1) is the same for EVERY least-squares solution `beta_` -/
theorem output_independent_of_solution (ids : List Nat) (m : Nat) (X β₁ β₂ : Mat)
    (h₁ : isLstsq (center (sens ids X) (fitMean ids X)) (nonSens ids m X) β₁ ids.length (nonSensIdx ids m).length = true)
    (h₂ : isLstsq (center (sens ids X) (fitMean ids X)) (nonSens ids m X) β₂ ids.length (nonSensIdx ids m).length = true) :
    transform (fitted ids m X β₁ 1) X = transform (fitted ids m X β₂ 1) X := by
  have hs := fit_problem_shaped ids m X
  unfold fitted
  rw [transform_one_eq_residual, transform_one_eq_residual]
  set Sc := center (sens ids X) (fitMean ids X) with hSc
  set Z := nonSens ids m X with hZ
  have hlen : ∀ β : Mat, (residual Sc Z β).length = Sc.length := fun β => by
    rw [residual, List.length_zipWith, hs.1, Nat.min_self]
  have hrow : ∀ (β : Mat) i, i < Sc.length → ((residual Sc Z β).getD i []).length = (nonSensIdx ids m).length :=
    fun β i hi => by rw [getD_residual Sc Z β i hi (hs.1 ▸ hi), length_residRow, (hs.2 i hi).2]
  apply mat_ext
  · rw [hlen, hlen]
  · intro i hi
    rw [hlen] at hi
    rw [hrow β₁ i hi, hrow β₂ i hi]
  · intro i hi j hj
    rw [hlen] at hi
    rw [hrow β₁ i hi] at hj
    exact residual_unique Sc Z β₁ β₂ _ _ hs h₁ h₂ i hi j hj

/-- the Gram matrix of the centred sensitive columns is nonsingular ⇔ these columns are linearly independent -/
theorem gram_nonsingular_iff_independent (Sc : Mat) (ms : Nat) :
    GramNonsingular (ent Sc) Sc.length ms ↔ ColumnsIndependent (ent Sc) Sc.length ms :=
  forall_congr' (fun d => by rw [gram_ker_iff])

/-- given one solution `β₀` and at least one target column, the solution of the normal
    equations is unique (entry-wise) exactly when the centred sensitive columns are linearly independent — equivalently
    when their Gram matrix is nonsingular. -/
theorem normal_equations_unique_iff (Sc Z β₀ : Mat) (ms mz : Nat) (hs : Shaped Sc Z ms mz) (hmz : 0 < mz)
    (h₀ : isLstsq Sc Z β₀ ms mz = true) :
    (∀ β, isLstsq Sc Z β ms mz = true → ∀ q, q < ms → ∀ j, j < mz → ent β q j = ent β₀ q j)
      ↔ GramNonsingular (ent Sc) Sc.length ms := by
  rw [gram_nonsingular_iff_independent]
  have n0 := (isLstsq_iff_normalEq Sc Z β₀ ms mz hs).mp h₀
  constructor
  · intro hu
    -- perturb column 0 of β₀ by a kernel vector d
    rw [← normalEq_unique_iff (ent Sc) (fun i => ent Z i 0) Sc.length ms (fun q => ent β₀ q 0) (n0 0 hmz)]
    intro w hw q hq
    let β := matOf ms mz (fun q j => if j = 0 then w q else ent β₀ q j)
    have hβ : isLstsq Sc Z β ms mz = true := by
      rw [isLstsq_iff_normalEq Sc Z β ms mz hs]
      intro j hj
      by_cases hj0 : j = 0
      · subst hj0
        exact normalEq_congr hw (fun q hq => by rw [ent_matOf _ _ _ _ _ hq hmz, if_pos rfl])
      · exact normalEq_congr (n0 j hj) (fun q hq => by rw [ent_matOf _ _ _ _ _ hq hj, if_neg hj0])
    have := hu β hβ q hq 0 hmz
    rwa [ent_matOf _ _ _ _ _ hq hmz, if_pos rfl] at this
  · intro hind β hβ q hq j hj
    have nb := (isLstsq_iff_normalEq Sc Z β ms mz hs).mp hβ j hj
    exact (normalEq_unique_iff (ent Sc) (fun i => ent Z i j) Sc.length ms (fun q => ent β₀ q j) (n0 j hj)).mpr hind
      (fun q => ent β q j) nb q hq

/-! ### the tie to the source: definitions LIFTED from `_correlation_remover.py`
(`Generated/CorrRemoverSrc.lean`, rewritten from /repo on every run by harness/lifters/corr_remover.py; `CorrL.*` is the
model re-built from them).  The clauses of the property are re-proved for the lifted text, so an edit of the centring,
of the lstsq operands, of the blend expression, of the column selection or of what `transform` re-uses re-checks them,
breaks them, or is refused by the lifter.
The lifter prints each expression as it stands in the source, so `lifted_center` and `lifted_out_entry` try `rfl` (the
current text) and then `ring` (a source rewritten into an equal expression keeps them true; one that computes something
else breaks them); the two linter options silence the report about the alternative that is not reached. -/

section Lifted
open CorrL
set_option linter.unusedTactic false
set_option linter.unreachableTactic false

/-- `self.sensitive_mean_ = X_sensitive.mean(axis=0)`: one mean PER sensitive column -/
theorem lifted_mean_per_column : CorrRemoverSrc.fitMeanKind = .perColumn := by decide

/-- `X_s_center = X_sensitive - self.sensitive_mean_` (this operand order), in `fit` (first operand of lstsq) and in
    `transform` -/
theorem lifted_center : CorrRemoverSrc.fitCenter = (fun s m => s - m) ∧
    CorrRemoverSrc.transformCenter = (fun s m => s - m) := by
  constructor
  · first
    | rfl
    | (funext s m; simp only [CorrRemoverSrc.fitCenter]; ring)
  · first
    | rfl
    | (funext s m; simp only [CorrRemoverSrc.transformCenter]; ring)

/-- `np.linalg.lstsq(X_s_center, X_use, rcond=None)`: the solve is NOT truncated by an explicit cut-off.  This is the
    assumption under which the model takes `beta_` to satisfy the normal equations (`CorrL.lstsqAssumed`); with any explicit
    numeric `rcond` in the source the lifter emits `some q`, this theorem fails, and with it `src_model_eq` and every
    `src_*` clause (an `rcond` that is not a literal is refused by the lifter). -/
theorem lifted_lstsq_untruncated : CorrRemoverSrc.lstsqRcond = none := by decide

/-- what the model assumes of `lstsq` AT THE LIFTED `rcond`: exactly the normal equations of the operands the source passes -/
theorem src_lstsq_assumption (ids : List Nat) (m : Nat) (X β : Mat) :
    isLstsqSrc ids m X β = isLstsq (lstsqA ids X) (useSrc ids m X) β ids.length (keptIdx ids m).length := by
  unfold isLstsqSrc
  rw [lifted_lstsq_untruncated, lstsqAssumed_none]

/-- necessity of `lifted_lstsq_untruncated`: under an explicit cut-off the model's assumption is vacuous, and a `β` that
    violates the normal equations (here β = 0 on a perfectly correlated pair of columns) passes -/
theorem truncated_lstsq_assumes_nothing (q : Rat) :
    lstsqAssumed (some q) [[-1], [1]] [[-1], [1]] [[0]] 1 1 = true ∧
    lstsqAssumed none [[-1], [1]] [[-1], [1]] [[0]] 1 1 = false ∧
    lstsqAssumed none [[-1], [1]] [[-1], [1]] [[1]] 1 1 = true := by
  exact ⟨rfl, by decide +kernel⟩

/-- `transform` centres with the STORED training mean (and multiplies with the stored `beta_`): nothing is re-estimated -/
theorem lifted_transform_uses_training_statistics : CorrRemoverSrc.transformMean = .stored := by decide

/-- `alpha * (X_use - X_s_center.dot(beta_)) + (1 - alpha) * X_use`, entry-wise -/
theorem lifted_out_entry : CorrRemoverSrc.outEntry = (fun a u pr => a * (u - pr) + (1 - a) * u) := by
  first
  | rfl
  | (funext a u pr; simp only [CorrRemoverSrc.outEntry]; ring)

/-- `_split_X`: sensitive positions in the order of `sensitive_feature_ids`; the others = `range(m)` minus those, in
    ORIGINAL (increasing) order -/
theorem lifted_split (ids : List Nat) (m : Nat) : sensIdx ids = ids ∧ keptIdx ids m = nonSensIdx ids m := by
  have h1 : sensIdx ids = ids := by
    simp [sensIdx, CorrRemoverSrc.sensitiveIdx]
  refine ⟨h1, ?_⟩
  unfold keptIdx
  rw [h1]
  simp [CorrRemoverSrc.nonSensitiveIdx, nonSensIdx]

/-- sensitive columns "given by position or by name": through the lifted `_create_lookup` tables, positions resolve to
    themselves (ndarray) and the names of a DataFrame with distinct column names resolve to their positions, in the
    order of `sensitive_feature_ids` -/
theorem src_ids_by_position_or_name (cols : List Nat) (hn : cols.Nodup) (m : Nat) (ids : List Nat) :
    ((∀ i ∈ ids, i < m) → CorrRemoverSrc.sensitiveIdx (CorrRemoverSrc.lookupArray m) ids = ids) ∧
    (∀ (h : ∀ i ∈ ids, i < cols.length),
      CorrRemoverSrc.sensitiveIdx (CorrRemoverSrc.lookupDataFrame cols) (ids.attach.map (fun i => cols[i.1]'(h i.1 i.2))) = ids) := by
  constructor
  · intro h
    simp only [CorrRemoverSrc.sensitiveIdx]
    conv_rhs => rw [← List.map_id ids]
    apply List.map_congr_left
    intro i hi
    exact CorrRemoverSrc.lookupArray_eq m i (h i hi)
  · intro h
    simp only [CorrRemoverSrc.sensitiveIdx, List.map_map]
    conv_rhs => rw [← List.attach_map_subtype_val ids]
    apply List.map_congr_left
    intro i _
    exact CorrRemoverSrc.lookupDataFrame_eq cols hn i.1 (h i.1 i.2)

/-- the model re-built from the lifted text is the model the theorems above are about -/
theorem src_model_eq (p : Params) (X : Mat) (ids : List Nat) (m : Nat) (β : Mat) :
    transformSrc p X = transform p X ∧ fitMeanSrc ids X = fitMean ids X ∧
    isLstsqSrc ids m X β = isLstsq (center (sens ids X) (fitMean ids X)) (nonSens ids m X) β ids.length
      (nonSensIdx ids m).length :=
  ⟨transformSrc_eq p X lifted_transform_uses_training_statistics lifted_center.2 lifted_out_entry
      (lifted_split p.ids p.m).1 (lifted_split p.ids p.m).2,
   fitMeanSrc_eq ids X lifted_mean_per_column (lifted_split ids m).1,
   isLstsqSrc_eq ids m X β lifted_mean_per_column lifted_center.1 (lifted_split ids m).1 (lifted_split ids m).2
     lifted_lstsq_untruncated⟩

/-- MAIN CLAUSE for the lifted text: if `beta_` solves the least-squares problem `lstsq` is CALLED with in the source
    (operands as lifted), the alpha = 1 output of the lifted `transform` with the mean the lifted `fit` stores has zero
    sample covariance with every sensitive column of the training data. -/
theorem src_uncorrelated (ids : List Nat) (m : Nat) (X β : Mat) (hfit : isLstsqSrc ids m X β = true)
    (j k : Nat) (hj : j < (keptIdx ids m).length) (hk : k < ids.length) :
    covNum (colOf (transformSrc ⟨ids, m, fitMeanSrc ids X, β, 1⟩ X) j) (colOf (sensSrc ids X) k) = 0 ∧
    cov (colOf (transformSrc ⟨ids, m, fitMeanSrc ids X, β, 1⟩ X) j) (colOf (sensSrc ids X) k) = 0 := by
  have e := src_model_eq ⟨ids, m, fitMeanSrc ids X, β, 1⟩ X ids m β
  rw [e.2.2] at hfit
  rw [(lifted_split ids m).2] at hj
  have hs : sensSrc ids X = sens ids X := by unfold sensSrc sens; rw [(lifted_split ids m).1]
  rw [e.1, e.2.1, hs]
  exact uncorrelated ids m X β hfit j k hj hk

/-- alpha blend for the lifted `transform`: output = alpha * (alpha-1 output) + (1 - alpha) * original -/
theorem src_alpha_blend (p : Params) (X : Mat) (i j : Nat) (hi : i < X.length)
    (hj : j < (keptIdx p.ids p.m).length) :
    ent (transformSrc p X) i j = p.alpha * ent (transformSrc { p with alpha := 1 } X) i j
      + (1 - p.alpha) * ent (useSrc p.ids p.m X) i j := by
  rw [(src_model_eq p X p.ids p.m []).1, (src_model_eq { p with alpha := 1 } X p.ids p.m []).1]
  rw [(lifted_split p.ids p.m).2] at hj
  unfold transform useSrc
  rw [ent_map _ _ _ _ hi, ent_map _ _ _ _ hi, ent_map _ _ _ _ hi, (lifted_split p.ids p.m).2]
  exact alpha_blend p (X.getD i []) j hj

/-- the lifted `transform` works row by row with the STORED mean and coefficients: new data get the map learned in fit -/
theorem src_transform_new_data (p : Params) (Xnew Ynew : Mat) :
    transformSrc p Xnew = Xnew.map (transformRow p) ∧
    transformSrc p (Xnew ++ Ynew) = transformSrc p Xnew ++ transformSrc p Ynew := by
  rw [(src_model_eq p Xnew p.ids p.m []).1, (src_model_eq p (Xnew ++ Ynew) p.ids p.m []).1,
    (src_model_eq p Ynew p.ids p.m []).1]
  exact transform_new_data p Xnew Ynew

/-- the lifted `_split_X`: kept positions = the non-sensitive ones in increasing order; one output column per kept
    position, one output row per input row -/
theorem src_drops_sensitive_keeps_order (p : Params) (X : Mat) :
    (∀ c, c ∈ keptIdx p.ids p.m ↔ c < p.m ∧ c ∉ p.ids)
    ∧ (keptIdx p.ids p.m).Pairwise (· < ·)
    ∧ (transformSrc p X).length = X.length
    ∧ (∀ r ∈ transformSrc p X, r.length = (keptIdx p.ids p.m).length) := by
  rw [(src_model_eq p X p.ids p.m []).1, (lifted_split p.ids p.m).2]
  exact drops_sensitive_keeps_order p X

end Lifted

/-! ### Regression witness for F2 (grand mean instead of per-column means)

With `sensitive_mean_ = X_sensitive.mean()` (one scalar for all columns) the normal equations
hold for the mis-centred block but the output is NOT uncorrelated: on
`X = [[0,0,0],[0,1,0],[1,1,1]]`, sensitive columns 0 and 1, β = [[1/2],[1/2]]. -/
def f2X : Mat := [[0, 0, 0], [0, 1, 0], [1, 1, 1]]
def f2β : Mat := [[1/2], [1/2]]

theorem grand_mean_breaks_uncorrelated :
    isLstsq (center (sens [0, 1] f2X) (grandMeans (sens [0, 1] f2X) 2)) (nonSens [0, 1] 3 f2X) f2β 2 1 = true
    ∧ covNum (colOf (transform ⟨[0, 1], 3, grandMeans (sens [0, 1] f2X) 2, f2β, 1⟩ f2X) 0)
        (colOf (sens [0, 1] f2X) 0) = 1/6 := by
  decide +kernel

/-! ### Non-vacuity: concrete inputs meeting the hypotheses -/

/-- the same data, per-column centring: β = [[1],[0]] solves the normal equations -/
def okβ : Mat := [[1], [0]]
example : fitMean [0, 1] f2X = [1/3, 2/3] := by decide +kernel
example : isLstsq (center (sens [0, 1] f2X) (fitMean [0, 1] f2X)) (nonSens [0, 1] 3 f2X) okβ 2 1 = true := by
  decide +kernel
example : transform (fitted [0, 1] 3 f2X okβ 1) f2X = [[1/3], [1/3], [1/3]] := by decide +kernel
example : transform (fitted [0, 1] 3 f2X okβ (1/2)) f2X = [[1/6], [1/6], [2/3]] := by decide +kernel
/-- collinear (duplicated) sensitive columns: two different β both satisfy the hypothesis -/
def dupX : Mat := [[0, 0, 1], [1, 1, 3], [2, 2, 2]]
example : isLstsq (center (sens [0, 1] dupX) (fitMean [0, 1] dupX)) (nonSens [0, 1] 3 dupX) [[1/2], [0]] 2 1 = true
    ∧ isLstsq (center (sens [0, 1] dupX) (fitMean [0, 1] dupX)) (nonSens [0, 1] 3 dupX) [[1/4], [1/4]] 2 1 = true := by
  decide +kernel
/-- ... and the duplicated columns are NOT independent: d = (1, -1) is in the kernel of the centred block, so by
    `normal_equations_unique_iff` the coefficients cannot be unique (the two solutions above) -/
example : ∀ i, i < 3 → lin (ent (center (sens [0, 1] dupX) (fitMean [0, 1] dupX))) 2 (fun q => if q = 0 then 1 else -1) i = 0 := by
  decide +kernel
/-- ids given in non-increasing order: the kept columns still come out in their original order -/
example : nonSensIdx [3, 0] 5 = [1, 2, 4] := by decide +kernel
/-- the two different solutions for the duplicated columns give the same output (instance of `output_independent_of_solution`) -/
example : transform (fitted [0, 1] 3 dupX [[1/2], [0]] 1) dupX = transform (fitted [0, 1] 3 dupX [[1/4], [1/4]] 1) dupX := by
  decide +kernel
example : CorrL.keptIdx [3, 0] 5 = [1, 2, 4] := by decide +kernel
example : CorrRemoverSrc.sensitiveIdx (CorrRemoverSrc.lookupDataFrame [7, 5, 9]) [9, 7] = [2, 0] := by decide +kernel
example : CorrL.isLstsqSrc [0, 1] 3 f2X okβ = true := by decide +kernel
example : CorrL.transformSrc ⟨[0, 1], 3, CorrL.fitMeanSrc [0, 1] f2X, okβ, 1/2⟩ f2X = [[1/6], [1/6], [2/3]] := by decide +kernel

/-! ### a NON-DEGENERATE witness for all hypotheses of `uncorrelated`, `uncorrelated_two_rows`, `cov_alpha`,
`lstsq_minimises` at once: 4 rows, ids given in non-increasing order [2, 0], two kept columns, the input IS correlated
with the sensitive columns (covariance numerators 1, −2, −1, −2), the output columns are not constant. -/
def r2X : Mat := [[1, 2, 0, 1], [2, 1, 1, 3], [0, 4, 1, 2], [3, 3, 2, 0]]
def r2β : Mat := [[3/2, -1/6], [-1, -1/3]]
example : 2 ≤ r2X.length ∧
    isLstsq (center (sens [2, 0] r2X) (fitMean [2, 0] r2X)) (nonSens [2, 0] 4 r2X) r2β
      ([2, 0] : List Nat).length (nonSensIdx [2, 0] 4).length = true ∧
    (nonSensIdx [2, 0] 4).length = 2 ∧ ([2, 0] : List Nat).length = 2 ∧ fitMean [2, 0] r2X = [1, 3/2] := by
  decide +kernel
/-- the input is correlated with both sensitive columns … -/
example : covNum (colOf (nonSens [2, 0] 4 r2X) 0) (colOf (sens [2, 0] r2X) 0) = 1 ∧
    covNum (colOf (nonSens [2, 0] 4 r2X) 0) (colOf (sens [2, 0] r2X) 1) = -2 ∧
    covNum (colOf (nonSens [2, 0] 4 r2X) 1) (colOf (sens [2, 0] r2X) 0) = -1 := by decide +kernel
/-- … the alpha = 1 output is not constant and is uncorrelated; alpha = 1/2 keeps exactly half (`cov_alpha`) -/
example : transform (fitted [2, 0] 4 r2X r2β 1) r2X = [[3, 2/3], [3/2, 19/6], [5/2, 3/2], [3, 2/3]] ∧
    covNum (colOf (transform (fitted [2, 0] 4 r2X r2β 1) r2X) 0) (colOf (sens [2, 0] r2X) 0) = 0 ∧
    covNum (colOf (transform (fitted [2, 0] 4 r2X r2β 1) r2X) 1) (colOf (sens [2, 0] r2X) 1) = 0 ∧
    transform (fitted [2, 0] 4 r2X r2β (1/2)) r2X = [[5/2, 5/6], [5/4, 37/12], [13/4, 7/4], [3, 1/3]] ∧
    covNum (colOf (transform (fitted [2, 0] 4 r2X r2β (1/2)) r2X) 0) (colOf (sens [2, 0] r2X) 0) = 1/2 := by
  decide +kernel
/-- `transform_entry` / `transform_affine` hypothesis `mean.length = ids.length` holds for every fitted state -/
example : (fitted [2, 0] 4 r2X r2β 1).mean.length = (fitted [2, 0] 4 r2X r2β 1).ids.length := by decide +kernel
/-- `cov_eq_zero_iff` is not vacuous and its guard is needed: two rows, non-zero covariance -/
example : cov [0, 1] [0, 2] = 1 ∧ covNum [0, 1] [0, 2] = 1 ∧ cov [5] [7] = 0 := by decide +kernel

end C15
