/-
C01 — MetricFrame disaggregation is exact: each cell is the metric on that subgroup.
Property theorems only.  Helper lemmas: `Lemmas/Frame.lean` (the model `Model/Frame.lean`), `Lemmas/FrameSrc.lean`
(the translation `Generated/FrameSrc.lean` over the pandas primitives of `Model/FramePrims.lean`),
`Lemmas/FrameMulti.lean` (`Model/FrameMulti.lean`: a dict of metrics), `Lemmas/FeatureNames.lean`
(`Model/FeatureNames.lean`, `Generated/FeatureNamesSrc.lean`).

Sections (1)–(6) and the translation section are stated for an ARBITRARY metric `f : List α → β` (this is the
quantifier "all metric callables ... with or without per-sample parameters": the per-sample parameters are part
of the row payload `α`, so they are sliced with the rows by construction), an arbitrary list of rows, and
arbitrary numbers `ncf`, `nsf` of control / sensitive columns.  The section on a dict of metrics is about
`FrameMulti.MetricSpec`s over one shared table `all_data`; the section on feature names is about containers.

A missing feature value (`None` / NaN) is the distinguished level `FramePrims.naLevel`; every theorem about the
translated `create` with grouping columns and about a dict of metrics carries the hypothesis `NoMissing rows`
(the generators never produce a missing value), under which the `dropna` flag of `groupby` is irrelevant
(`src_groupby_dropna`, `src_groupby_drops_missing`, `src_groupby_dropna_irrelevant`).

CLAUSE → THEOREM TABLE ("src_" = the same statement for the function text lifted from /repo; `src_byGroup_eq_model`,
`src_overall_eq_model`, `src_init_*_eq_model`, `src_base_data_eq_model`, `src_positional_in_base` tie the lifted
text to the model)

| clause of properties.jsonl C01                                   | theorem(s)                                              | strength |
|------------------------------------------------------------------|---------------------------------------------------------|----------|
| every entry of by_group = the metric on exactly the rows         | `byGroup_eq_table` (whole table, one equation),         | full     |
|   carrying that combination of feature values                    | `src_byGroup_eq_table` (same for the lifted text),      |          |
|                                                                  | `byGroup_cell`, `byGroup_nonempty`, `src_byGroup_cell`, |          |
|                                                                  | `byGroup_partition`, `stratum_partition`,               |          |
|                                                                  | `src_byGroup_partition`                                 |          |
| … with the per-sample parameters sliced the same way             | generic `f`: by construction (payload); dict of metrics | full     |
|                                                                  | with DIFFERENT params per metric, one shared `all_data`:|          |
|                                                                  | `multi_byGroup_exact`, `multi_overall_exact` (no getD   |          |
|                                                                  | default: `sliceAt`), `multi_metric_own_params`,         |          |
|                                                                  | `multi_column_eq_single`,                               |          |
|                                                                  | `multi_overall_column_eq_single`, `single_eq_model`;    |          |
|                                                                  | the shared table: `column_name_fresh`, `multi_columns_ok`|         |
| overall = the metric on all rows                                 | `overall_eq`, `src_overall_eq`, `multi_overall_exact`   | full     |
| … on the rows of each control-feature combination                | `overall_eq_table`, `src_overall_eq_table`,             | full     |
|                                                                  | `overall_control_cell/_index`,                          |          |
|                                                                  | `src_overall_control_cell`, `byGroup_stratum_in_overall`|          |
| by_group index is EXACTLY the set of observed values (1 feature) | `byGroup_index_single_eq` (1 feature, as a list),       | full     |
|                                                                  | `byGroup_index_eq_product` (list equality, order incl.),|          |
|   / the Cartesian product of the observed values (several)       | `byGroup_levels_spec` (each factor = sorted distinct    |          |
|                                                                  | values of that column over ALL rows, not per stratum),  |          |
|                                                                  | `byGroup_index` (iff), `_single`, `_nodup`, `_sorted`,  |          |
|                                                                  | `byGroup_index_cross`, `byGroup_index_length`,          |          |
|                                                                  | `src_byGroup_index`, `src_byGroup_index_nodup_sorted`   |          |
| a combination that contains no rows is reported as NaN           | `byGroup_empty` (present in the index WITH value NaN),  | full     |
|                                                                  | `src_byGroup_empty`,                                    |          |
|   rather than dropped or filled                                  | `byGroup_empty_only_nan` (no other value under that     |          |
|                                                                  | key), `byGroup_nonempty` (NaN placeholder ONLY there),  |          |
|                                                                  | `driver_nan_distinct` (the drivers' NaN is no number)   |          |
| quantifier: any length ≥ 1                                       | no theorem needs `rows ≠ []`; `byGroup_nil`/`overall_nil`| n = 0 is |
|                                                                  | say what the model does at n = 0 (empty by_group,       | outside; |
|                                                                  | overall = f []): real MetricFrame does the same for     | driver   |
|                                                                  | Series/dict features and raises IndexError for a list   | rejects  |
| quantifier: single-member groups, empty intersections, n = 1     | non-vacuity examples at the end of the file             |          |
| feature normalisation (names of the index levels)                | `names_*` (correspondence-level clause: the property    | corr.    |
|                                                                  | text only names `sensitive_levels`/`control_levels` as  | only     |
|                                                                  | observables)                                            |          |
| result types of the accessors                                    | `accessor_types` (not a clause of the property)         | extra    |

TOTALISATION: `sliceDF` / `ownKwargs` read `column.getD j 0`.  On the rows the constructor builds
(`mkRows`, row numbers `< n`) and with one value per row in every column (`ParamsFull`, `yt.length = n`) the default
is never taken: `multi_byGroup_exact` is stated with `sliceAt` (positions outside the column are dropped, no
default).  With a too short column the model PADS WITH 0 where real MetricFrame raises ValueError
(`short_param_padded_artifact`); the driver op `fm.eval` does not check this — the harness never sends such a line.
-/
import FairModel.Lemmas.Frame
import FairModel.Lemmas.FrameSrc
import FairModel.Lemmas.FrameMulti
import FairModel.Lemmas.FeatureNames

namespace C01
open Frame

variable {α β : Type}

/-- the index of a result table -/
def keys (t : List (Key × β)) : List Key := t.map (·.1)

/-- the observed values of grouping column `j` -/
def Observed (kf : Row α → Key) (rows : List (Row α)) (j : Nat) (a : Level) : Prop :=
  ∃ r ∈ rows, (kf r).getD j "" = a

/-- all index tuples produced by `kf` have length `n` -/
def KeyLen (kf : Row α → Key) (n : Nat) (rows : List (Row α)) : Prop := ∀ r ∈ rows, (kf r).length = n

theorem keyLen_key {ncf nsf : Nat} {rows : List (Row α)} (h : WF ncf nsf rows) :
    KeyLen Row.key (ncf + nsf) rows := by
  intro r hr; simp [Row.key, (h r hr).1, (h r hr).2]

theorem keyLen_ckey {ncf nsf : Nat} {rows : List (Row α)} (h : WF ncf nsf rows) :
    KeyLen Row.ckey ncf rows := by
  intro r hr; simp [Row.ckey, (h r hr).1]

/-! ### (1) every cell is the metric on exactly the rows carrying that tuple, else NaN -/

/-- The first two sentences of the property as one equation: `by_group` is, entry by entry and in this order, the
    Cartesian product of the sorted distinct values of each grouping column (control columns first; each
    taken over ALL rows) paired with the metric on exactly the rows carrying that tuple — NaN when there is no
    such row.  Nothing else is in the table, nothing is missing; also for a single grouping column. -/
theorem byGroup_eq_table (nanv : β) (ncf nsf : Nat) (hn : 0 < ncf + nsf) (f : List α → β)
    (rows : List (Row α)) (hwf : WF ncf nsf rows) :
    byGroup nanv ncf nsf f rows =
      (product (levels Row.key (ncf + nsf) rows)).map (fun k =>
        (k, if rows.filter (fun r => r.cf ++ r.sf == k) = [] then nanv
            else f ((rows.filter (fun r => r.cf ++ r.sf == k)).map (·.dat)))) :=
  applyFunctions_eq_table nanv Row.key (ncf + nsf) hn f rows (keyLen_key hwf)

/-- `_apply_functions` with at least one grouping column: the entry at `k` is `f` evaluated on
    exactly the rows whose tuple is `k` (with their own per-sample parameters), or NaN if there is
    no such row. -/
theorem applyFunctions_cell (nanv : β) (kf : Row α → Key) (n : Nat) (hn : 0 < n) (f : List α → β)
    (rows : List (Row α)) (k : Key) (v : β) (h : (k, v) ∈ applyFunctions nanv kf n f rows) :
    v = if rowsOf kf k rows = [] then nanv else f (slice (rowsOf kf k rows)) :=
  ((mem_applyFunctions nanv kf hn f rows).mp h).2

/-- `MetricFrame.by_group`: every entry equals the metric on exactly the rows carrying that
    combination of (control ++ sensitive) feature values; a combination without rows is NaN. -/
theorem byGroup_cell (nanv : β) (ncf nsf : Nat) (hn : 0 < ncf + nsf) (f : List α → β)
    (rows : List (Row α)) (k : Key) (v : β) (h : (k, v) ∈ byGroup nanv ncf nsf f rows) :
    v = if rows.filter (fun r => r.cf ++ r.sf == k) = [] then nanv
        else f ((rows.filter (fun r => r.cf ++ r.sf == k)).map (·.dat)) :=
  applyFunctions_cell nanv Row.key (ncf + nsf) hn f rows k v h

/-! ### (2) the index: duplicate free, sorted, = observed values / their Cartesian product -/

/-- the index as a LIST (order and multiplicity included): exactly the product of the per-column levels; for one
    feature this is the list of observed values (as 1-tuples) -/
theorem byGroup_index_eq_product (nanv : β) (ncf nsf : Nat) (hn : 0 < ncf + nsf) (f : List α → β)
    (rows : List (Row α)) (hwf : WF ncf nsf rows) :
    keys (byGroup nanv ncf nsf f rows) = product (levels Row.key (ncf + nsf) rows) := by
  rw [keys, byGroup, map_fst_applyFunctions nanv Row.key hn, tableIndex_eq_product Row.key hn rows (keyLen_key hwf)]

/-- each factor of that product: the strictly increasing, duplicate-free list of the values column `j` takes on
    ANY row of the data (not per control stratum) -/
theorem byGroup_levels_spec (ncf nsf : Nat) (rows : List (Row α)) (j : Nat) (hj : j < ncf + nsf) :
    ((levels Row.key (ncf + nsf) rows).getD j []).Pairwise (· < ·) ∧
    ((levels Row.key (ncf + nsf) rows).getD j []).Nodup ∧
    ∀ a, a ∈ (levels Row.key (ncf + nsf) rows).getD j [] ↔ ∃ r ∈ rows, (r.cf ++ r.sf).getD j "" = a := by
  refine ⟨?_, ?_, fun a => mem_levels Row.key _ rows j hj a⟩
  · rw [levels_getD Row.key hj]; exact pairwise_uniq level_trans level_tri _
  · rw [levels_getD Row.key hj]; exact nodup_uniq _

/-- the number of index entries is the product of the numbers of observed values -/
theorem byGroup_index_length (nanv : β) (ncf nsf : Nat) (hn : 0 < ncf + nsf) (f : List α → β)
    (rows : List (Row α)) (hwf : WF ncf nsf rows) :
    (keys (byGroup nanv ncf nsf f rows)).length =
      ((levels Row.key (ncf + nsf) rows).map List.length).prod := by
  rw [byGroup_index_eq_product nanv ncf nsf hn f rows hwf, product_length]

/-- one sensitive feature, no control feature, as a LIST: the index is the sorted list of the distinct observed
    values (as 1-tuples) — "exactly the set of observed values" -/
theorem byGroup_index_single_eq (nanv : β) (f : List α → β) (rows : List (Row α)) (hwf : WF 0 1 rows) :
    keys (byGroup nanv 0 1 f rows) = (uniq (rows.map (fun r => (r.cf ++ r.sf).getD 0 ""))).map (fun a => [a]) := by
  rw [byGroup_index_eq_product nanv 0 1 Nat.one_pos f rows hwf]
  show product [uniq (col 0 (rows.map Row.key))] = _
  rw [product_single, col, List.map_map]
  rfl

/-- the index is exactly the Cartesian product of the observed values of each grouping column
    (for a single column: exactly the observed values) -/
theorem applyFunctions_keys_mem (nanv : β) (kf : Row α → Key) (n : Nat) (hn : 0 < n)
    (f : List α → β) (rows : List (Row α)) (hlen : KeyLen kf n rows) (k : Key) :
    k ∈ keys (applyFunctions nanv kf n f rows) ↔
      k.length = n ∧ ∀ j, j < n → Observed kf rows j (k.getD j "") := by
  rw [keys, map_fst_applyFunctions nanv kf hn, tableIndex_eq_product kf hn rows hlen, mem_product, forall2_iff_getD, levels_length]
  exact and_congr_right fun _ => forall₂_congr fun j hj => mem_levels kf n rows j hj _

/-- `by_group` index with any number of feature columns: the Cartesian product of the observed
    values of each column, control columns first -/
theorem byGroup_index (nanv : β) (ncf nsf : Nat) (hn : 0 < ncf + nsf) (f : List α → β)
    (rows : List (Row α)) (hwf : WF ncf nsf rows) (k : Key) :
    k ∈ keys (byGroup nanv ncf nsf f rows) ↔
      k.length = ncf + nsf ∧ ∀ j, j < ncf + nsf → ∃ r ∈ rows, (r.cf ++ r.sf).getD j "" = k.getD j "" :=
  applyFunctions_keys_mem nanv Row.key _ hn f rows (keyLen_key hwf) k

/-- one sensitive feature, no control feature: the index is exactly the set of observed values -/
theorem byGroup_index_single (nanv : β) (f : List α → β) (rows : List (Row α)) (hwf : WF 0 1 rows)
    (a : Level) : [a] ∈ keys (byGroup nanv 0 1 f rows) ↔ ∃ r ∈ rows, r.sf = [a] := by
  rw [keys, byGroup, map_fst_applyFunctions nanv Row.key Nat.one_pos]
  show [a] ∈ uniq (rows.map Row.key) ↔ _
  rw [mem_uniq, List.mem_map]
  refine exists_congr fun r => and_congr_right fun hr => ?_
  rw [Row.key, List.eq_nil_of_length_eq_zero (hwf r hr).1, List.nil_append]

/-- the product is NOT taken per stratum: the control values of any row combined with the sensitive values of
    any OTHER row are an index entry (NaN if no row carries that combination: `byGroup_empty`) -/
theorem byGroup_index_cross (nanv : β) (ncf nsf : Nat) (hn : 0 < ncf + nsf) (f : List α → β)
    (rows : List (Row α)) (hwf : WF ncf nsf rows) (r1 r2 : Row α) (h1 : r1 ∈ rows) (h2 : r2 ∈ rows) :
    r1.cf ++ r2.sf ∈ keys (byGroup nanv ncf nsf f rows) := by
  rw [byGroup_index nanv ncf nsf hn f rows hwf]
  refine ⟨by rw [List.length_append, (hwf r1 h1).1, (hwf r2 h2).2], fun j _ => ?_⟩
  rw [getD_append_of_length (hwf r1 h1).1]
  split
  · next hj => exact ⟨r1, h1, by rw [getD_append_of_length (hwf r1 h1).1, if_pos hj]⟩
  · next hj => exact ⟨r2, h2, by rw [getD_append_of_length (hwf r2 h2).1, if_neg hj]⟩

/-- the index is strictly increasing (levels by code point, tuples lexicographically) -/
theorem applyFunctions_keys_sorted (nanv : β) (kf : Row α → Key) (n : Nat) (f : List α → β)
    (rows : List (Row α)) : (keys (applyFunctions nanv kf n f rows)).Pairwise (· < ·) := by
  rcases n.eq_zero_or_pos with rfl | hn
  · exact List.pairwise_singleton _ _
  · rw [keys, map_fst_applyFunctions nanv kf hn]
    exact pairwise_tableIndex kf n rows

theorem byGroup_index_sorted (nanv : β) (ncf nsf : Nat) (f : List α → β) (rows : List (Row α)) :
    (keys (byGroup nanv ncf nsf f rows)).Pairwise (· < ·) :=
  applyFunctions_keys_sorted nanv Row.key _ f rows

theorem applyFunctions_keys_nodup (nanv : β) (kf : Row α → Key) (n : Nat) (f : List α → β)
    (rows : List (Row α)) : (keys (applyFunctions nanv kf n f rows)).Nodup :=
  (applyFunctions_keys_sorted nanv kf n f rows).imp fun {a b} (h : a < b) (he : a = b) => key_irrefl b (he ▸ h)

theorem byGroup_index_nodup (nanv : β) (ncf nsf : Nat) (f : List α → β) (rows : List (Row α)) :
    (keys (byGroup nanv ncf nsf f rows)).Nodup :=
  applyFunctions_keys_nodup nanv Row.key _ f rows

/-! ### (3) a combination that contains no rows is reported as NaN, not dropped or filled -/

theorem byGroup_empty (nanv : β) (ncf nsf : Nat) (hn : 0 < ncf + nsf) (f : List α → β)
    (rows : List (Row α)) (hwf : WF ncf nsf rows) (k : Key)
    (hlen : k.length = ncf + nsf)
    (hobs : ∀ j, j < ncf + nsf → ∃ r ∈ rows, (r.cf ++ r.sf).getD j "" = k.getD j "")
    (hempty : ∀ r ∈ rows, r.cf ++ r.sf ≠ k) :
    (k, nanv) ∈ byGroup nanv ncf nsf f rows := by
  have hk := (byGroup_index nanv ncf nsf hn f rows hwf k).mpr ⟨hlen, hobs⟩
  rw [keys, byGroup, map_fst_applyFunctions nanv Row.key hn] at hk
  exact (mem_applyFunctions nanv Row.key hn f rows).mpr ⟨hk, (if_pos (List.filter_eq_nil_iff.mpr fun r hr hb => hempty r hr (eq_of_beq hb))).symm⟩

/-- second half of "reported as NaN rather than dropped or FILLED": under the key of an empty combination there
    is no value other than NaN (together with `byGroup_empty`: present, and `byGroup_index_nodup`: once) -/
theorem byGroup_empty_only_nan (nanv : β) (ncf nsf : Nat) (hn : 0 < ncf + nsf) (f : List α → β)
    (rows : List (Row α)) (k : Key) (hempty : ∀ r ∈ rows, r.cf ++ r.sf ≠ k) (v : β)
    (h : (k, v) ∈ byGroup nanv ncf nsf f rows) : v = nanv :=
  (byGroup_cell nanv ncf nsf hn f rows k v h).trans
    (if_pos (List.filter_eq_nil_iff.mpr fun r hr hb => hempty r hr (eq_of_beq hb)))

/-- conversely a NaN *placeholder* only ever stands for an empty combination: if rows exist, the
    entry is the metric value (which may of course itself be NaN if the metric says so) -/
theorem byGroup_nonempty (nanv : β) (ncf nsf : Nat) (hn : 0 < ncf + nsf) (f : List α → β)
    (rows : List (Row α)) (k : Key) (v : β) (h : (k, v) ∈ byGroup nanv ncf nsf f rows)
    (r : Row α) (hr : r ∈ rows) (hk : r.cf ++ r.sf = k) :
    v = f ((rows.filter (fun r => r.cf ++ r.sf == k)).map (·.dat)) :=
  (byGroup_cell nanv ncf nsf hn f rows k v h).trans (if_neg (List.ne_nil_of_mem (mem_rowsOf.mpr ⟨hr, hk⟩)))

/-- the NaN the drivers fill in (`Cell.nan`) differs from every number a metric can return, in particular from 0:
    "reported as NaN rather than … filled" is not blurred by the choice of `nanv` -/
theorem driver_nan_distinct (q : Rat) : Cell.nan ≠ Cell.ofRat q := by
  intro h; cases h

/-! ### (4) overall -/

/-- without control features `overall` is the metric on all rows -/
theorem overall_eq (nanv : β) (f : List α → β) (rows : List (Row α)) :
    overall nanv 0 f rows = [([], f (rows.map (·.dat)))] := rfl

/-- `overall` with control features, whole table: the product of the observed values of each control column,
    each entry the metric on exactly the rows of that control combination (NaN if there is none) -/
theorem overall_eq_table (nanv : β) (ncf nsf : Nat) (hn : 0 < ncf) (f : List α → β)
    (rows : List (Row α)) (hwf : WF ncf nsf rows) :
    overall nanv ncf f rows =
      (product (levels Row.ckey ncf rows)).map (fun c =>
        (c, if rows.filter (fun r => r.cf == c) = [] then nanv
            else f ((rows.filter (fun r => r.cf == c)).map (·.dat)))) :=
  applyFunctions_eq_table nanv Row.ckey ncf hn f rows (keyLen_ckey hwf)

/-- with control features: one entry per control combination, the metric on exactly its rows -/
theorem overall_control_cell (nanv : β) (ncf : Nat) (hn : 0 < ncf) (f : List α → β)
    (rows : List (Row α)) (c : Key) (v : β) (h : (c, v) ∈ overall nanv ncf f rows) :
    v = if rows.filter (fun r => r.cf == c) = [] then nanv
        else f ((rows.filter (fun r => r.cf == c)).map (·.dat)) :=
  applyFunctions_cell nanv Row.ckey ncf hn f rows c v h

theorem overall_control_index (nanv : β) (ncf nsf : Nat) (hn : 0 < ncf) (f : List α → β)
    (rows : List (Row α)) (hwf : WF ncf nsf rows) (c : Key) :
    c ∈ keys (overall nanv ncf f rows) ↔
      c.length = ncf ∧ ∀ j, j < ncf → ∃ r ∈ rows, r.cf.getD j "" = c.getD j "" :=
  applyFunctions_keys_mem nanv Row.ckey _ hn f rows (keyLen_ckey hwf) c

/-- the control part of every `by_group` tuple is an `overall` tuple (same strata on both sides) -/
theorem byGroup_stratum_in_overall (nanv : β) (ncf nsf : Nat) (hc : 0 < ncf) (f : List α → β)
    (rows : List (Row α)) (hwf : WF ncf nsf rows) (k : Key)
    (hk : k ∈ keys (byGroup nanv ncf nsf f rows)) :
    k.take ncf ∈ keys (overall nanv ncf f rows) := by
  rw [byGroup_index nanv ncf nsf (Nat.add_pos_left hc nsf) f rows hwf] at hk
  rw [overall_control_index nanv ncf nsf hc f rows hwf]
  refine ⟨by rw [List.length_take, hk.1, Nat.min_eq_left (Nat.le_add_right ncf nsf)], fun j hj => ?_⟩
  obtain ⟨r, hr, he⟩ := hk.2 j (Nat.lt_add_right nsf hj)
  refine ⟨r, hr, ?_⟩
  rw [getD_append_of_length (hwf r hr).1, if_pos hj] at he
  rw [he, List.getD_eq_getElem?_getD, List.getD_eq_getElem?_getD, List.getElem?_take_of_lt hj]

/-! ### (5) the non-empty cells partition the rows -/

/-- Taking, for every index tuple, the rows it stands for gives back all rows, each exactly once
    (a permutation): no row is lost, duplicated or assigned to two cells. -/
theorem byGroup_partition (nanv : β) (ncf nsf : Nat) (hn : 0 < ncf + nsf) (f : List α → β)
    (rows : List (Row α)) (hwf : WF ncf nsf rows) :
    ((keys (byGroup nanv ncf nsf f rows)).flatMap (fun k => rowsOf Row.key k rows)).Perm rows := by
  apply partition_perm Row.key rows _ (byGroup_index_nodup nanv ncf nsf f rows)
  intro r hr
  rw [byGroup_index nanv ncf nsf hn f rows hwf]
  have := keyLen_key hwf r hr
  exact ⟨this, fun j _ => ⟨r, hr, rfl⟩⟩

/-- the same within the strata: the rows of the cells of one control combination are exactly the
    rows `overall` evaluates for that combination -/
theorem stratum_partition (nanv : β) (ncf nsf : Nat) (hn : 0 < ncf + nsf) (f : List α → β)
    (rows : List (Row α)) (hwf : WF ncf nsf rows) (c : Key) :
    (((keys (byGroup nanv ncf nsf f rows)).filter (fun k => k.take ncf == c)).flatMap
        (fun k => rowsOf Row.key k rows)).Perm (rowsOf Row.ckey c rows) := by
  refine .trans (.of_eq ?_) ((byGroup_partition nanv ncf nsf hn f rows hwf).filter (fun r => r.cf == c))
  rw [List.filter_flatMap, flatMap_filter_ite]
  refine List.flatMap_congr fun k _ => ?_
  -- the rows of a cell all carry the control part of its tuple
  have hcf : ∀ r ∈ rowsOf Row.key k rows, (r.cf == c) = (k.take ncf == c) := fun r hr => by
    obtain ⟨hr', rfl⟩ := mem_rowsOf.mp hr
    rw [Row.key, ← (hwf r hr').1, List.take_left]
  split
  · next hk => exact (List.filter_eq_self.mpr fun r hr => (hcf r hr).trans hk).symm
  · next hk => exact (List.filter_eq_nil_iff.mpr fun r hr => (hcf r hr) ▸ hk).symm

/-! ### (6) no rows -/

/-- n = 0 (outside the quantifier "any length >= 1"): the model's `by_group` is empty.  Real MetricFrame: the same
    for Series / DataFrame / dict features, IndexError for a list (`features[0]`).  The drivers reject n = 0. -/
theorem byGroup_nil (nanv : β) (ncf nsf : Nat) (hn : 0 < ncf + nsf) (f : List α → β) :
    byGroup nanv ncf nsf f ([] : List (Row α)) = [] := by
  refine List.eq_nil_iff_forall_not_mem.mpr fun ⟨k, v⟩ hkv => ?_
  obtain ⟨r, hr, _⟩ := ((byGroup_index nanv ncf nsf hn f [] (fun _ h => nomatch h) k).mp
    (List.mem_map.mpr ⟨_, hkv, rfl⟩)).2 0 hn
  cases hr

/-- n = 0: `overall` without control features is the metric on the empty slice (real `count` gives 0,
    `selection_rate` raises) — no default value is invented -/
theorem overall_nil (nanv : β) (f : List α → β) :
    overall nanv 0 f ([] : List (Row α)) = [([], f [])] := rfl

/-! ### Tie to the source text (`Generated/FrameSrc.lean`)

`harness/lifters/frame.py` translates, on every run, the bodies of `DisaggregatedResult._apply_functions`
and `DisaggregatedResult.create` (which columns are grouped on, in which order: control features first,
then sensitive features; when the result is re-indexed and to what; `overall` per control stratum),
`apply_to_dataframe`, `AnnotatedMetricFunction.__call__` and the loop of
`MetricFrame._construct_annotated_metric_function` into Lean over the pandas primitives of
`Model/FramePrims.lean`.  `src_*_eq_model` identify the translation with `Frame.byGroup` / `overall`
for the column names `MetricFrame.__init__` passes, and the clauses of the property are restated for
the translated functions. -/

section Source
open FramePrims FrameSrc

theorem src_byGroup_eq_model (nanv : β) (ncf nsf : Nat) (f : List α → β) (rows : List (Row α))
    (hwf : WF ncf nsf rows) (hna : NoMissing rows) :
    create_by_group nanv rows f (sfNames nsf) (cfNames ncf) = byGroup nanv ncf nsf f rows := by
  rw [create_by_group, cfNames_getD, apply_functions_eq_model _ _ _ _ fun r hr =>
    keyHasNa_names ncf nsf r (hwf r hr).1 (hwf r hr).2 (hna r hr)]
  rw [applyFunctions_congr_key nanv _ f fun r hr => colVal_names ncf nsf r (hwf r hr).1 (hwf r hr).2]
  simp only [sfNames, List.length_append, List.length_map, List.length_range]
  rfl

theorem src_overall_eq_model (nanv : β) (ncf nsf : Nat) (f : List α → β) (rows : List (Row α))
    (hwf : WF ncf nsf rows) (hna : NoMissing rows) :
    create_overall nanv rows f (sfNames nsf) (cfNames ncf) = overall nanv ncf f rows := by
  unfold create_overall cfNames
  split
  · next h => subst h; exact (overall_eq nanv f rows).symm
  · rw [apply_functions_eq_model _ _ _ _ fun r hr => by
        rw [colVal_cnames ncf r (hwf r hr).1, keyHasNa, List.contains_eq_mem, decide_eq_false_iff_not]
        exact (hna r hr).1,
      applyFunctions_congr_key nanv _ f fun r hr => colVal_cnames ncf r (hwf r hr).1, List.length_map, List.length_range]
    rfl

/-- the whole-table equation for the function text lifted from /repo (`DisaggregatedResult.create(...).by_group`) -/
theorem src_byGroup_eq_table (nanv : β) (ncf nsf : Nat) (hn : 0 < ncf + nsf) (f : List α → β)
    (rows : List (Row α)) (hwf : WF ncf nsf rows) (hna : NoMissing rows) :
    FrameSrc.create_by_group nanv rows f (sfNames nsf) (cfNames ncf) =
      (product (levels Row.key (ncf + nsf) rows)).map (fun k =>
        (k, if rows.filter (fun r => r.cf ++ r.sf == k) = [] then nanv
            else f ((rows.filter (fun r => r.cf ++ r.sf == k)).map (·.dat)))) := by
  rw [src_byGroup_eq_model nanv ncf nsf f rows hwf hna]
  exact byGroup_eq_table nanv ncf nsf hn f rows hwf

/-- … and for `create(...).overall` with control features -/
theorem src_overall_eq_table (nanv : β) (ncf nsf : Nat) (hn : 0 < ncf) (f : List α → β)
    (rows : List (Row α)) (hwf : WF ncf nsf rows) (hna : NoMissing rows) :
    FrameSrc.create_overall nanv rows f (sfNames nsf) (cfNames ncf) =
      (product (levels Row.ckey ncf rows)).map (fun c =>
        (c, if rows.filter (fun r => r.cf == c) = [] then nanv
            else f ((rows.filter (fun r => r.cf == c)).map (·.dat)))) := by
  rw [src_overall_eq_model nanv ncf nsf f rows hwf hna]
  exact overall_eq_table nanv ncf nsf hn f rows hwf

/-- the call site in `MetricFrame.__init__` (lifted: `DisaggregatedResult.create(data=all_data,
    annotated_functions=annotated_funcs, sensitive_feature_names=self._sf_names, control_feature_names=self._cf_names)`
    with the name lists of the stored feature columns) is the model's `byGroup` / `overall` -/
theorem src_init_byGroup_eq_model (nanv : β) (ncf nsf : Nat) (f : List α → β) (rows : List (Row α))
    (hwf : WF ncf nsf rows) (hna : NoMissing rows) :
    init_by_group nanv rows f nsf ncf = byGroup nanv ncf nsf f rows :=
  src_byGroup_eq_model nanv ncf nsf f rows hwf hna

theorem src_init_overall_eq_model (nanv : β) (ncf nsf : Nat) (f : List α → β) (rows : List (Row α))
    (hwf : WF ncf nsf rows) (hna : NoMissing rows) :
    init_overall nanv rows f nsf ncf = overall nanv ncf f rows :=
  src_overall_eq_model nanv ncf nsf f rows hwf hna

/-- the lifted keyword of `data.groupby(grouping_names, ...)`: pandas' default `dropna=True` (a source edit to
    `dropna=False` changes the generated `groupby_dropna` and breaks this theorem) -/
theorem src_groupby_dropna : groupby_dropna = true := by decide

/-- what the lifted flag does: the groupby result is that of the rows WITHOUT a missing key component — a row with a
    missing feature value is in no group of `by_group` (while `np.unique` over the whole column still lists the missing
    level in a multi-feature index: observation of DESIGN section 5) -/
theorem src_groupby_drops_missing (rows : List (Row α)) (names : List Col) (f : List α → β) :
    groupbyApplyNa groupby_dropna rows names f =
      groupbyApply (rows.filter (fun r => !keyHasNa (names.map (colVal r)))) names f := by
  rw [src_groupby_dropna]; rfl

/-- … and inside the quantifier (no missing feature value) the flag is irrelevant, whatever its value: every theorem of
    this file about `create_by_group` / `create_overall` with grouping columns carries exactly this hypothesis -/
theorem src_groupby_dropna_irrelevant (dropna : Bool) (ncf nsf : Nat) (rows : List (Row α)) (f : List α → β)
    (hwf : WF ncf nsf rows) (hna : NoMissing rows) :
    groupbyApplyNa dropna rows ((List.range ncf).map Col.cf ++ sfNames nsf) f =
      groupbyApply rows ((List.range ncf).map Col.cf ++ sfNames nsf) f :=
  groupbyApplyNa_noMissing dropna rows _ f
    (fun r hr => keyHasNa_names ncf nsf r (hwf r hr).1 (hwf r hr).2 (hna r hr))

/-- the lifted base frame `pd.DataFrame.from_dict({"y_true": list(y_t), "y_pred": list(y_p)})` is the model's `baseData`
    (a renamed / exchanged key changes the generated text and breaks this theorem) … -/
theorem src_base_data_eq_model (yt yp : List Rat) : init_base_data yt yp = FrameMulti.baseData yt yp := rfl

/-- … and the columns the lifted `positional_argument_names=` reads exist in it, in the order (y_true, y_pred) -/
theorem src_positional_in_base (yt yp : List Rat) :
    positional_argument_names = columns (init_base_data yt yp) := by
  simp [positional_argument_names, columns, init_base_data]

/-- translated `create(...).by_group`: every entry is the metric on exactly the rows of that tuple -/
theorem src_byGroup_cell (nanv : β) (ncf nsf : Nat) (hn : 0 < ncf + nsf) (f : List α → β)
    (rows : List (Row α)) (hwf : WF ncf nsf rows) (hna : NoMissing rows) (k : Key) (v : β)
    (h : (k, v) ∈ create_by_group nanv rows f (sfNames nsf) (cfNames ncf)) :
    v = if rows.filter (fun r => r.cf ++ r.sf == k) = [] then nanv
        else f ((rows.filter (fun r => r.cf ++ r.sf == k)).map (·.dat)) := by
  rw [src_byGroup_eq_model nanv ncf nsf f rows hwf hna] at h
  exact byGroup_cell nanv ncf nsf hn f rows k v h

/-- translated `create(...).by_group`: the index is the Cartesian product of the observed values,
    control columns first -/
theorem src_byGroup_index (nanv : β) (ncf nsf : Nat) (hn : 0 < ncf + nsf) (f : List α → β)
    (rows : List (Row α)) (hwf : WF ncf nsf rows) (hna : NoMissing rows) (k : Key) :
    k ∈ keys (create_by_group nanv rows f (sfNames nsf) (cfNames ncf)) ↔
      k.length = ncf + nsf ∧ ∀ j, j < ncf + nsf → ∃ r ∈ rows, (r.cf ++ r.sf).getD j "" = k.getD j "" := by
  rw [src_byGroup_eq_model nanv ncf nsf f rows hwf hna]
  exact byGroup_index nanv ncf nsf hn f rows hwf k

theorem src_byGroup_index_nodup_sorted (nanv : β) (ncf nsf : Nat) (f : List α → β)
    (rows : List (Row α)) (hwf : WF ncf nsf rows) (hna : NoMissing rows) :
    (keys (create_by_group nanv rows f (sfNames nsf) (cfNames ncf))).Nodup ∧
    (keys (create_by_group nanv rows f (sfNames nsf) (cfNames ncf))).Pairwise (· < ·) := by
  rw [src_byGroup_eq_model nanv ncf nsf f rows hwf hna]
  exact ⟨byGroup_index_nodup nanv ncf nsf f rows, byGroup_index_sorted nanv ncf nsf f rows⟩

/-- translated `create(...).by_group`: an observed-values combination without rows is NaN, not dropped -/
theorem src_byGroup_empty (nanv : β) (ncf nsf : Nat) (hn : 0 < ncf + nsf) (f : List α → β)
    (rows : List (Row α)) (hwf : WF ncf nsf rows) (hna : NoMissing rows) (k : Key) (hlen : k.length = ncf + nsf)
    (hobs : ∀ j, j < ncf + nsf → ∃ r ∈ rows, (r.cf ++ r.sf).getD j "" = k.getD j "")
    (hempty : ∀ r ∈ rows, r.cf ++ r.sf ≠ k) :
    (k, nanv) ∈ create_by_group nanv rows f (sfNames nsf) (cfNames ncf) := by
  rw [src_byGroup_eq_model nanv ncf nsf f rows hwf hna]
  exact byGroup_empty nanv ncf nsf hn f rows hwf k hlen hobs hempty

/-- translated `create(...).overall` without control features: the metric on all rows -/
theorem src_overall_eq (nanv : β) (nsf : Nat) (f : List α → β) (rows : List (Row α)) :
    create_overall nanv rows f (sfNames nsf) (cfNames 0) = [([], f (rows.map (·.dat)))] := rfl

/-- translated `create(...).overall` with control features: per control combination -/
theorem src_overall_control_cell (nanv : β) (ncf nsf : Nat) (hn : 0 < ncf) (f : List α → β)
    (rows : List (Row α)) (hwf : WF ncf nsf rows) (hna : NoMissing rows) (c : Key) (v : β)
    (h : (c, v) ∈ create_overall nanv rows f (sfNames nsf) (cfNames ncf)) :
    v = if rows.filter (fun r => r.cf == c) = [] then nanv
        else f ((rows.filter (fun r => r.cf == c)).map (·.dat)) := by
  rw [src_overall_eq_model nanv ncf nsf f rows hwf hna] at h
  exact overall_control_cell nanv ncf hn f rows c v h

theorem src_byGroup_partition (nanv : β) (ncf nsf : Nat) (hn : 0 < ncf + nsf) (f : List α → β)
    (rows : List (Row α)) (hwf : WF ncf nsf rows) (hna : NoMissing rows) :
    ((keys (create_by_group nanv rows f (sfNames nsf) (cfNames ncf))).flatMap
      (fun k => rowsOf Row.key k rows)).Perm rows := by
  rw [src_byGroup_eq_model nanv ncf nsf f rows hwf hna]
  exact byGroup_partition nanv ncf nsf hn f rows hwf

end Source

/-! ### Multi-metric frames: no cross-talk between the metrics of a dict

`Model/FrameMulti.lean`: `metrics=` a dict of any number of callables, each with its own entry of
`sample_params`; all sample parameters are stored in ONE table `all_data`.  The column of a parameter is
`f"{name}_{param_name}"` made unique by `while col_name in all_data.columns: col_name = col_name + "_"`
(translated from `_construct_annotated_metric_function`, repair 897f58c of finding F19), so the theorems
below need NO hypothesis on the metric or parameter names.  Under the pre-repair rule (no `while` loop) they
are false: `legacy_crosstalk_witness`, `legacy_basecolumn_witness`. -/

section Multi
open FramePrims FrameMulti

variable {γ : Type}

/-- the uniquify loop always ends on a name that is not yet a column of `all_data` -/
theorem column_name_fresh (t : AllData) (c : String) : uniquifyCol t c "_" ∉ columns t :=
  uniquifyCol_fresh t c "_" (by decide)

/-- the generated `bare_callable_name` is what the column prefix of a bare callable is built from:
    `f"{None}_{param}"` -/
theorem src_bare_prefix (t : AllData) (mp : List (String × String)) (pn : String) (v : List Rat) :
    FrameSrc.construct_step FrameSrc.bare_callable_name (t, mp) (pn, some v) =
      ((uniquifyCol t ("None_" ++ pn) "_", v) :: t, mp ++ [(pn, uniquifyCol t ("None_" ++ pn) "_")]) := by
  rw [step_some]
  rfl

/-- after constructing ANY dict of metrics y_true / y_pred still hold the data, and every metric is paired with
    an annotated function whose keyword columns hold exactly its own parameter values; that the columns of
    `all_data` stay pairwise distinct is `FrameMulti.constructAll_nodup` -/
theorem multi_columns_ok (yt yp : List Rat) (ms : List (MetricSpec γ)) :
    List.Forall₂ (RelV (constructAll (baseData yt yp) ms).1) ms (constructAll (baseData yt yp) ms).2 ∧
    getCol (constructAll (baseData yt yp) ms).1 "y_true" = yt ∧
    getCol (constructAll (baseData yt yp) ms).1 "y_pred" = yp :=
  ⟨(constructAll_extends_rel _ ms).2, getCol_of_extends_base (constructAll_extends_rel _ ms).1⟩

/- `multi_metric_own_params`, `multi_column_eq_single`, `multi_overall_column_eq_single`, `single_eq_model`:
   they carry no hypothesis on the LENGTHS of y_true / y_pred / the sample-parameter arrays and no hypothesis that the
   row payloads are row numbers `< n`; slices are written `idx.map (fun j => v.getD j 0)`.  For a column shorter than
   the data (real MetricFrame: ValueError) or a payload `>= n` (never built by `mkRows`) both sides of the equations pad
   with 0, so the statements hold there for the wrong reason.  What they do NOT say — that on the inputs MetricFrame
   accepts no default is ever read, and what each cell then is — is `multi_byGroup_exact` / `multi_overall_exact`
   (below, stated with the default-free `sliceAt` under `ParamsFull` and the length hypotheses);
   `short_param_padded_artifact` exhibits the padding. -/

/-- Every metric of a dict is called, on every slice, with y_true / y_pred of the slice and EXACTLY
    ITS OWN non-None sample parameters, sliced the same way — whatever the other metrics, their
    parameters and all the names are. -/
theorem multi_metric_own_params (yt yp : List Rat) (ms : List (MetricSpec γ))
    (hnames : (ms.map (·.name)).Nodup) (m : MetricSpec γ) (hm : m ∈ ms) :
    ∃ af, (∀ idx, (FrameSrc.apply_to_dataframe idx
            (fnDict (constructAll (baseData yt yp) ms).1 (constructAll (baseData yt yp) ms).2)).lookup m.name =
          some (metricFn (constructAll (baseData yt yp) ms).1 af idx)) ∧
      ∀ idx, metricFn (constructAll (baseData yt yp) ms).1 af idx =
        m.func [idx.map (fun j => yt.getD j 0), idx.map (fun j => yp.getD j 0)] (ownKwargs m idx) := by
  obtain ⟨he, hrel⟩ := constructAll_extends_rel (baseData yt yp) ms
  obtain ⟨af, hr, hl⟩ := lookup_of_rel _ ms _ hrel hnames m hm
  exact ⟨af, fun idx => (apply_to_dataframe_fnDict _ _ idx).symm ▸ hl _, metricFn_of_rel hr he⟩

/-- each column of a multi-metric `by_group` equals the single-metric frame of that function with
    exactly its own sample parameters; any number of metrics, features, rows; any names (the dict keys
    are distinct, nothing else is assumed) -/
theorem multi_column_eq_single (nanv : γ) (ncf nsf : Nat) (yt yp : List Rat) (ms : List (MetricSpec γ))
    (rows : List (Row Nat)) (hwf : WF ncf nsf rows) (hna : NoMissing rows) (hnames : (ms.map (·.name)).Nodup)
    (m : MetricSpec γ) (hm : m ∈ ms) :
    FrameMulti.column m.name (byGroupFrame nanv ncf nsf (baseData yt yp) ms rows) =
      (singleByGroup nanv ncf nsf (baseData yt yp) m rows).map (fun p => (p.1, some p.2)) := by
  unfold byGroupFrame singleByGroup FrameMulti.column
  dsimp only
  rw [src_init_byGroup_eq_model _ _ _ _ _ hwf hna, src_init_byGroup_eq_model _ _ _ _ _ hwf hna]
  exact multi_applyFunctions_column nanv Row.key _ yt yp ms rows hnames m hm

/-- the same for `overall` (per control stratum when control features exist) -/
theorem multi_overall_column_eq_single (nanv : γ) (ncf nsf : Nat) (yt yp : List Rat)
    (ms : List (MetricSpec γ)) (rows : List (Row Nat)) (hwf : WF ncf nsf rows) (hna : NoMissing rows)
    (hnames : (ms.map (·.name)).Nodup) (m : MetricSpec γ) (hm : m ∈ ms) :
    FrameMulti.column m.name (overallFrame nanv ncf nsf (baseData yt yp) ms rows) =
      (singleOverall nanv ncf nsf (baseData yt yp) m rows).map (fun p => (p.1, some p.2)) := by
  unfold overallFrame singleOverall FrameMulti.column
  dsimp only
  rw [src_init_overall_eq_model _ _ _ _ _ hwf hna, src_init_overall_eq_model _ _ _ _ _ hwf hna]
  exact multi_applyFunctions_column nanv Row.ckey _ yt yp ms rows hnames m hm

/-- and the single-metric frame is the C01 model frame of "the metric with its own parameters":
    every clause of C01 applies to every column of a multi-metric frame -/
theorem single_eq_model (nanv : γ) (ncf nsf : Nat) (yt yp : List Rat) (m : MetricSpec γ)
    (rows : List (Row Nat)) (hwf : WF ncf nsf rows) (hna : NoMissing rows) :
    singleByGroup nanv ncf nsf (baseData yt yp) m rows =
      byGroup nanv ncf nsf
        (fun idx => m.func [idx.map (fun j => yt.getD j 0), idx.map (fun j => yp.getD j 0)] (ownKwargs m idx))
        rows := by
  unfold singleByGroup
  dsimp only
  rw [src_init_byGroup_eq_model _ _ _ _ _ hwf hna, metricFn_construct]

/-- THE PROPERTY FOR A DICT OF METRICS.  `feats` are the (control, sensitive) values of the `n` rows, `yt`, `yp`
    have `n` entries, every non-None sample parameter of metric `m` has `n` entries (`ParamsFull`; otherwise real
    MetricFrame raises), the dict keys are distinct.  Then column `m.name` of `by_group` is exactly: for every tuple
    of the product index, `m.func` called with y_true / y_pred at the row numbers of the rows carrying that tuple (in
    the original order) and with EXACTLY ITS OWN non-None sample parameters at the same row numbers — NaN when no row
    carries the tuple.  `sliceAt` has no default: nothing here is true because of a `getD _ 0`. -/
theorem multi_byGroup_exact (nanv : γ) (ncf nsf : Nat) (hn : 0 < ncf + nsf) (yt yp : List Rat)
    (feats : List (List Level × List Level)) (hf : ∀ p ∈ feats, p.1.length = ncf ∧ p.2.length = nsf)
    (hfna : ∀ p ∈ feats, naLevel ∉ p.1 ∧ naLevel ∉ p.2)
    (hyt : yt.length = feats.length) (hyp : yp.length = feats.length)
    (ms : List (MetricSpec γ)) (hnames : (ms.map (·.name)).Nodup) (m : MetricSpec γ) (hm : m ∈ ms)
    (hpar : ParamsFull feats.length m) :
    FrameMulti.column m.name (byGroupFrame nanv ncf nsf (baseData yt yp) ms (mkRows feats)) =
      (product (levels Row.key (ncf + nsf) (mkRows feats))).map (fun k =>
        (k, some (if rowIdx feats k = [] then nanv
                  else m.func [sliceAt yt (rowIdx feats k), sliceAt yp (rowIdx feats k)]
                         (ownKwargsAt m (rowIdx feats k))))) := by
  have hwf := mkRows_wf ncf nsf feats hf
  rw [multi_column_eq_single nanv ncf nsf yt yp ms _ hwf (mkRows_noMissing feats hfna) hnames m hm,
    single_eq_model nanv ncf nsf yt yp m _ hwf (mkRows_noMissing feats hfna), byGroup,
    applyFunctions_eq_map nanv Row.key hn, tableIndex_eq_product Row.key hn _ (keyLen_key hwf), List.map_map]
  refine List.map_congr_left fun k _ => ?_
  dsimp only [Function.comp_apply]
  rw [cellAt_mkRows hyt hyp hpar, slice_rowsOf_mkRows]

/-- the same for `overall`: without control features the metric on ALL rows `0 … n-1`, with control features on the
    rows of each control combination -/
theorem multi_overall_exact (nanv : γ) (ncf nsf : Nat) (yt yp : List Rat)
    (feats : List (List Level × List Level)) (hf : ∀ p ∈ feats, p.1.length = ncf ∧ p.2.length = nsf)
    (hfna : ∀ p ∈ feats, naLevel ∉ p.1 ∧ naLevel ∉ p.2)
    (hyt : yt.length = feats.length) (hyp : yp.length = feats.length)
    (ms : List (MetricSpec γ)) (hnames : (ms.map (·.name)).Nodup) (m : MetricSpec γ) (hm : m ∈ ms)
    (hpar : ParamsFull feats.length m) :
    FrameMulti.column m.name (overallFrame nanv ncf nsf (baseData yt yp) ms (mkRows feats)) =
      if ncf = 0 then
        [([], some (m.func [sliceAt yt (List.range feats.length), sliceAt yp (List.range feats.length)]
                      (ownKwargsAt m (List.range feats.length))))]
      else
        (product (levels Row.ckey ncf (mkRows feats))).map (fun c =>
          (c, some (if rowIdxC feats c = [] then nanv
                    else m.func [sliceAt yt (rowIdxC feats c), sliceAt yp (rowIdxC feats c)]
                           (ownKwargsAt m (rowIdxC feats c))))) := by
  have hwf := mkRows_wf ncf nsf feats hf
  rw [multi_overall_column_eq_single nanv ncf nsf yt yp ms _ hwf (mkRows_noMissing feats hfna) hnames m hm,
    singleOverall, src_init_overall_eq_model _ _ _ _ _ hwf (mkRows_noMissing feats hfna), metricFn_construct]
  split
  · next h0 =>
    subst h0
    rw [overall_eq, ← slice, slice_mkRows, func_getD_eq_sliceAt hyt hyp hpar fun j hj => List.mem_range.mp hj]
    rfl
  · next h0 =>
    have hn : 0 < ncf := Nat.pos_of_ne_zero h0
    rw [overall, applyFunctions_eq_map nanv Row.ckey hn, tableIndex_eq_product Row.ckey hn _ (keyLen_ckey hwf), List.map_map]
    refine List.map_congr_left fun c _ => ?_
    dsimp only [Function.comp_apply]
    rw [cellAt_mkRows hyt hyp hpar, slice_rowsOf_ckey_mkRows]

/-- the public accessors hand out exactly the documented pandas types (table in the docstring of
    `MetricFrame.overall`), for the `_extract_result` / `_populate_results` lifted from the source -/
theorem accessor_types (bare hasControl : Bool) :
    byGroupType bare hasControl = (if bare then .series else .dataFrame) ∧
    overallType bare hasControl =
      (if bare then (if hasControl then .series else .scalar) else (if hasControl then .dataFrame else .series)) := by
  cases bare <;> cases hasControl <;> exact ⟨rfl, rfl⟩

/-- the metric used in the witnesses: the sum of its keyword arrays -/
def sumKw : List (List Rat) → List (String × List Rat) → Rat := fun _ kw => ((kw.map (·.2)).flatten).sum

/-- metrics named "a" and "a_b" with parameters "b_c" and "c": both columns would be called "a_b_c" -/
def xtalk : List (MetricSpec Rat) :=
  [⟨"a", some "a", sumKw, [("b_c", some [1, 2, 4])]⟩, ⟨"a_b", some "a_b", sumKw, [("c", some [10, 20, 40])]⟩]

def xtalk0 : MetricSpec Rat := xtalk.getD 0 ⟨"", none, sumKw, []⟩

/-- COUNTER-WITNESS (finding F19, pre-repair rule `legacyStep` = no uniquify loop): metric "a" receives the
    OTHER metric's parameter on the rows [0, 1] (30 instead of its own 3) … -/
theorem legacy_crosstalk_witness :
    metricFn (legacyConstructAll (baseData [0, 1, 1] [0, 1, 0]) xtalk).1
      ((legacyConstructAll (baseData [0, 1, 1] [0, 1, 0]) xtalk).2.getD 0 ⟨"", sumKw, [], []⟩) [0, 1] = 30
    ∧ sumKw [] (ownKwargs xtalk0 [0, 1]) = 3 := by
  exact ⟨by decide +kernel, by decide +kernel⟩

/-- … while the current (translated) rule gives it its own parameter: the second column is "a_b_c_" -/
theorem repaired_crosstalk_witness :
    metricFn (constructAll (baseData [0, 1, 1] [0, 1, 0]) xtalk).1
      ((constructAll (baseData [0, 1, 1] [0, 1, 0]) xtalk).2.getD 0 ⟨"", sumKw, [], []⟩) [0, 1] = 3
    ∧ columns (constructAll (baseData [0, 1, 1] [0, 1, 0]) xtalk).1 = ["a_b_c_", "a_b_c", "y_true", "y_pred"] := by
  exact ⟨by decide +kernel, by decide +kernel⟩

/-- the fraction-free agreement count of y_true and y_pred -/
def agree : List (List Rat) → List (String × List Rat) → Rat :=
  fun pos _ => (((pos.getD 0 []).zip (pos.getD 1 [])).filter (fun p => p.1 == p.2)).length

/-- a metric named "y" with a parameter named "pred": its column would be "y_pred" -/
def xbase : List (MetricSpec Rat) :=
  [⟨"y", some "y", sumKw, [("pred", some [1, 0, 0])]⟩, ⟨"acc", some "acc", agree, []⟩]

/-- COUNTER-WITNESS (F19, pre-repair rule): the parameter overwrites the `y_pred` column, so the OTHER metric
    of the dict sees the parameter values instead of the predictions (0 agreements instead of 2) … -/
theorem legacy_basecolumn_witness :
    metricFn (legacyConstructAll (baseData [0, 1, 1] [0, 1, 0]) xbase).1
      ((legacyConstructAll (baseData [0, 1, 1] [0, 1, 0]) xbase).2.getD 1 ⟨"", sumKw, [], []⟩) [0, 1, 2] = 0
    ∧ agree [[0, 1, 1], [0, 1, 0]] [] = 2 := by
  exact ⟨by decide +kernel, by decide +kernel⟩

/-- … while the current rule stores the parameter in "y_pred_" and leaves the predictions alone -/
theorem repaired_basecolumn_witness :
    metricFn (constructAll (baseData [0, 1, 1] [0, 1, 0]) xbase).1
      ((constructAll (baseData [0, 1, 1] [0, 1, 0]) xbase).2.getD 1 ⟨"", sumKw, [], []⟩) [0, 1, 2] = 2
    ∧ columns (constructAll (baseData [0, 1, 1] [0, 1, 0]) xbase).1 = ["y_pred_", "y_true", "y_pred"] := by
  exact ⟨by decide +kernel, by decide +kernel⟩

/-- TOTALISATION ARTEFACT, exhibited: a sample parameter with 2 values on 3 rows.  The model's `ownKwargs` (and the
    driver op `fm.eval`, which does not check parameter lengths) PADS the missing value with 0; the default-free
    `ownKwargsAt` drops it.  Real `MetricFrame(metrics=selection_rate, y_true=[0,1,1], y_pred=[1,0,1],
    sensitive_features=['a','b','a'], sample_params={'sample_weight': [1., 2.]})` raises ValueError
    ("Length of values (2) does not match length of index (3)").  `multi_byGroup_exact` excludes this input by
    `ParamsFull`; `multi_metric_own_params` / `multi_column_eq_single` hold there only because both sides pad. -/
theorem short_param_padded_artifact :
    ownKwargs (⟨"m", some "m", sumKw, [("sample_weight", some [1, 2])]⟩ : MetricSpec Rat) [0, 1, 2] =
        [("sample_weight", [1, 2, 0])] ∧
    ownKwargsAt (⟨"m", some "m", sumKw, [("sample_weight", some [1, 2])]⟩ : MetricSpec Rat) [0, 1, 2] =
        [("sample_weight", [1, 2])] ∧
    ¬ ParamsFull 3 (⟨"m", some "m", sumKw, [("sample_weight", some [1, 2])]⟩ : MetricSpec Rat) := by
  refine ⟨by decide +kernel, by decide +kernel, by decide +kernel⟩

end Multi

/-! ### Feature names (`sensitive_levels` / `control_levels`)

`Model/FeatureNames.lean` models `MetricFrame._process_features`, `GroupFeature.__init__` and the
duplicate check of `MetricFrame.__init__`; the base names, the default-name format and the order of the
duplicate check are lifted from the source (`Generated/FeatureNamesSrc.lean`). -/

section Names
open FeatureNames

/-- construction with control features succeeds exactly when both containers yield names, NO name is
    already a data column (y_true, y_pred, a sample-parameter column) and all names are distinct; the
    reserved-name rejection comes first -/
theorem names_accepts_iff (sb cb : String) (dataCols : List String) (sf : Container) (cc : Container)
    (s cn : List String) (hs : processFeatures sb sf = .ok s) (hc : processFeatures cb cc = .ok cn) :
    featureNames sb cb dataCols sf (some cc) =
      (if ∃ n ∈ s ++ cn, n ∈ dataCols then .error .reservedName
       else if (s ++ cn).Nodup then .ok (s, some cn) else .error .duplicateName) := by
  unfold featureNames
  simp only [hs, hc, FeatureNamesSrc.sensitiveNamesFirst, if_true]
  exact name_checks_eq dataCols s cn _

/-- the same without control features -/
theorem names_accepts_iff_no_control (sb cb : String) (dataCols : List String) (sf : Container)
    (s : List String) (hs : processFeatures sb sf = .ok s) :
    featureNames sb cb dataCols sf none =
      (if ∃ n ∈ s, n ∈ dataCols then .error .reservedName
       else if s.Nodup then .ok (s, none) else .error .duplicateName) := by
  unfold featureNames
  simp only [hs]
  have := name_checks_eq dataCols s [] (s, (none : Option (List String)))
  rwa [List.append_nil] at this

/-- an error of either container is the error of the constructor (sensitive features first) -/
theorem names_error_propagates (sb cb : String) (dataCols : List String) (sf : Container) (cf : Option Container)
    (e : FErr) (h : processFeatures sb sf = .error e) : featureNames sb cb dataCols sf cf = .error e := by
  unfold featureNames; simp [h]

/-- whenever construction succeeds, the feature names (sensitive ++ control) are pairwise distinct AND none
    of them is a column of `all_data`: an accepted feature never overwrites y_true, y_pred or a
    sample-parameter column -/
theorem names_nodup_and_no_overwrite (sb cb : String) (dataCols : List String) (sf : Container)
    (cf : Option Container) (s : List String) (c : Option (List String))
    (h : featureNames sb cb dataCols sf cf = .ok (s, c)) :
    (s ++ c.getD []).Nodup ∧ ∀ n ∈ s ++ c.getD [], n ∉ dataCols := by
  -- both shapes of `cf` reduce to: the two checks passed on the list of all names
  have key : ∀ {r : List String × Option (List String)},
      (if ∃ n ∈ r.1 ++ r.2.getD [], n ∈ dataCols then (.error .reservedName : Except FErr _)
       else if (r.1 ++ r.2.getD []).Nodup then .ok r else .error .duplicateName) = .ok (s, c) →
      (s ++ c.getD []).Nodup ∧ ∀ n ∈ s ++ c.getD [], n ∉ dataCols := by
    intro r h
    split at h
    · cases h
    · next hr =>
      split at h
      · next hn => cases h; exact ⟨hn, fun n hn' hd => hr ⟨n, hn', hd⟩⟩
      · cases h
  cases hs : processFeatures sb sf with
  | error e => rw [names_error_propagates sb cb dataCols sf cf e hs] at h; cases h
  | ok s' =>
    cases cf with
    | none =>
      rw [names_accepts_iff_no_control sb cb dataCols sf s' hs] at h
      exact key (r := (s', none)) (by rwa [Option.getD_none, List.append_nil])
    | some cc =>
      cases hc : processFeatures cb cc with
      | error e => unfold featureNames at h; simp only [hs, hc] at h; cases h
      | ok cn =>
        rw [names_accepts_iff sb cb dataCols sf cc s' cn hs hc] at h
        exact key (r := (s', some cn)) h

theorem names_nodup (sb cb : String) (dataCols : List String) (sf : Container) (cf : Option Container)
    (s : List String) (c : Option (List String)) (h : featureNames sb cb dataCols sf cf = .ok (s, c)) :
    (s ++ c.getD []).Nodup :=
  (names_nodup_and_no_overwrite sb cb dataCols sf cf s c h).1

/-- a feature called like a data column is rejected: 'y_true', 'y_pred' (always columns) or the column of a
    sample parameter -/
theorem names_reserved_rejected (sb cb : String) (dataCols : List String) (sf : Container) (cf : Option Container)
    (s : List String) (hs : processFeatures sb sf = .ok s) (n : String) (hn : n ∈ s) (hd : n ∈ dataCols)
    (hcf : ∀ cc, cf = some cc → ∃ cn, processFeatures cb cc = .ok cn) :
    featureNames sb cb dataCols sf cf = .error .reservedName := by
  cases cf with
  | none =>
    rw [names_accepts_iff_no_control sb cb dataCols sf s hs, if_pos ⟨n, hn, hd⟩]
  | some cc =>
    obtain ⟨cn, hc⟩ := hcf cc rfl
    rw [names_accepts_iff sb cb dataCols sf cc s cn hs hc, if_pos ⟨n, by simp [hn], hd⟩]

/-- which containers are rejected, and with which error -/
theorem names_rejected :
    (∀ b, processFeatures b (.series (some .other)) = .error .seriesNameNotString) ∧
    (∀ b cols, NameVal.other ∈ cols → processFeatures b (.dataframe cols) = .error .columnNameNotString) ∧
    (∀ b keys, NameVal.other ∈ keys → processFeatures b (.dict keys true) = .error .columnNameNotString) ∧
    (∀ b keys, processFeatures b (.dict keys false) = .error .dictConversion) ∧
    (∀ b, processFeatures b (.list false) = .error .listNonScalar) ∧
    (∀ b d k, d ≠ 1 → d ≠ 2 → processFeatures b (.array d k) = .error .tooManyDims) := by
  refine ⟨fun _ => rfl, fun b cols h => columnsNames_other b 0 cols h,
    fun b keys h => columnsNames_other b 0 keys h, fun _ _ => rfl, fun _ => rfl, ?_⟩
  intro b d k h1 h2
  match d, h1, h2 with
  | 0, _, _ => rfl
  | 1, h1, _ => exact absurd rfl h1
  | 2, _, h2 => exact absurd rfl h2
  | n + 3, _, _ => rfl

/-- which names an accepted container gets: the names it carries, else the defaults `base<i>` -/
theorem names_accepted (b : String) :
    processFeatures b (.series none) = .ok [defaultName b 0] ∧
    (∀ s, processFeatures b (.series (some (.str s))) = .ok [s]) ∧
    (∀ ss : List String, processFeatures b (.dataframe (ss.map .str)) = .ok ss) ∧
    (∀ ss : List String, processFeatures b (.dict (ss.map .str) true) = .ok ss) ∧
    processFeatures b (.list true) = .ok [defaultName b 0] ∧
    (∀ k, processFeatures b (.array 1 k) = .ok [defaultName b 0]) ∧
    (∀ k, processFeatures b (.array 2 k) = .ok ((List.range k).map (defaultName b))) :=
  ⟨rfl, fun _ => rfl, fun ss => columnsNames_str b 0 ss, fun ss => columnsNames_str b 0 ss, rfl,
    fun _ => rfl, fun _ => rfl⟩

/-- every container is either accepted or rejected with one of the listed errors: no other outcome -/
theorem names_total (b : String) (c : Container) :
    (∃ ns, processFeatures b c = .ok ns) ∨ (∃ e, processFeatures b c = .error e) := by
  cases h : processFeatures b c with
  | ok ns => exact .inl ⟨ns, rfl⟩
  | error e => exact .inr ⟨e, rfl⟩

/-- default names never collide with each other … -/
theorem names_default_distinct (b : String) (k : Nat) : ((List.range k).map (defaultName b)).Nodup :=
  List.nodup_range.map_on fun i _ j _ h => defaultName_inj b i j h

/-- … nor across the two kinds of features, for the base names lifted from `__init__` (they differ in the first
    character already) -/
theorem names_default_disjoint (i j : Nat) :
    defaultName FeatureNamesSrc.sensitiveBase i ≠ defaultName FeatureNamesSrc.controlBase j := by
  intro h
  have h1 := defaultName_head sensitiveBase_head i
  rw [h, defaultName_head controlBase_head j] at h1
  exact absurd h1 (by decide)

/-- default names are never `y_true` / `y_pred` -/
theorem names_default_not_base (i : Nat) :
    defaultName FeatureNamesSrc.sensitiveBase i ∉ ["y_true", "y_pred"] ∧
    defaultName FeatureNamesSrc.controlBase i ∉ ["y_true", "y_pred"] := by
  have hy : ∀ s ∈ ["y_true", "y_pred"], s.toList.head? = some 'y' := by decide +kernel
  refine ⟨fun h => ?_, fun h => ?_⟩
  · exact absurd ((defaultName_head sensitiveBase_head i).symm.trans (hy _ h)) (by decide)
  · exact absurd ((defaultName_head controlBase_head i).symm.trans (hy _ h)) (by decide)

/-- hence array / list inputs (which carry no names) are always accepted when no sample parameters are
    stored: any number of sensitive columns together with any number of control columns -/
theorem names_arrays_accepted (k l : Nat) :
    metricFrameNames ["y_true", "y_pred"] (.array 2 k) (some (.array 2 l)) =
      .ok ((List.range k).map (defaultName FeatureNamesSrc.sensitiveBase),
           some ((List.range l).map (defaultName FeatureNamesSrc.controlBase))) := by
  unfold metricFrameNames
  rw [names_accepts_iff _ _ _ _ _ _ _ rfl rfl, if_neg, if_pos]
  · rw [List.nodup_append]
    refine ⟨names_default_distinct _ k, names_default_distinct _ l, ?_⟩
    intro a ha b hb
    simp only [List.mem_map, List.mem_range] at ha hb
    obtain ⟨i, _, rfl⟩ := ha
    obtain ⟨j, _, rfl⟩ := hb
    exact names_default_disjoint i j
  · rintro ⟨n, hn, hd⟩
    simp only [List.mem_append, List.mem_map, List.mem_range] at hn
    rcases hn with ⟨i, _, rfl⟩ | ⟨i, _, rfl⟩
    · exact (names_default_not_base i).1 hd
    · exact (names_default_not_base i).2 hd

end Names

/-! ### The rows the driver ops build -/

section Drivers
open FramePrims FrameMulti

/-- the rows the driver ops hand to the model satisfy the `WF` hypothesis of the theorems above
    (`frame.eval`: `MetricPool.mkRows`; `fm.eval`: `FrameMulti.mkRows` of the transposed columns) -/
theorem driver_rows_wf :
    (∀ (ncf : Nat) (ys ps p0 p1 : List Rat) (cols : List (List Level)) (rows : List (Row MetricPool.Dat)),
      MetricPool.mkRows ncf ys ps p0 p1 cols = some rows →
        WF ncf (cols.length - ncf) rows ∧ rows.length = ys.length) ∧
    (∀ (n ncf : Nat) (cols : List (List Level)) (feats : List (List Level)),
      MetricPool.rowFeatures n cols = some feats → ncf ≤ cols.length →
        WF ncf (cols.length - ncf) (mkRows (feats.map (fun fs => (fs.take ncf, fs.drop ncf))))) :=
  ⟨frame_rows_wf, fm_rows_wf⟩

end Drivers

/-! ### Non-vacuity: a 6-row frame with 2 x 2 sensitive levels and one empty intersection -/

def exRows : List (Row Nat) :=
  [⟨10, [], ["a", "x"]⟩, ⟨20, [], ["a", "y"]⟩, ⟨30, [], ["b", "x"]⟩,
   ⟨40, [], ["a", "x"]⟩, ⟨50, [], ["b", "x"]⟩, ⟨60, [], ["a", "y"]⟩]

example : WF 0 2 exRows := by decide +kernel
example : byGroup 0 0 2 List.sum exRows =
    [(["a", "x"], 50), (["a", "y"], 80), (["b", "x"], 80), (["b", "y"], 0)] := by decide +kernel
example : overall 0 0 List.sum exRows = [([], 210)] := by decide +kernel

def exRowsC : List (Row Nat) :=
  [⟨1, ["m"], ["a"]⟩, ⟨2, ["k"], ["b"]⟩, ⟨4, ["k"], ["a"]⟩, ⟨8, ["k"], ["b"]⟩]

example : WF 1 1 exRowsC := by decide +kernel
example : byGroup 0 1 1 List.sum exRowsC =
    [(["k", "a"], 4), (["k", "b"], 10), (["m", "a"], 1), (["m", "b"], 0)] := by decide +kernel
example : overall 0 1 List.sum exRowsC = [(["k"], 14), (["m"], 1)] := by decide +kernel
example : byGroup 0 0 1 List.length [(⟨(), [], ["z"]⟩ : Row Unit), ⟨(), [], ["b"]⟩, ⟨(), [], ["z"]⟩] =
    [(["b"], 1), (["z"], 2)] := by decide +kernel

example : FeatureNames.metricFrameNames ["y_true", "y_pred"] (.series (some (.str "grp"))) (some (.dataframe [.str "a", .str "grp"])) =
    .error .duplicateName := by decide +kernel
example : FeatureNames.metricFrameNames ["y_true", "y_pred"] (.dict [.str "s", .other] true) none = .error .columnNameNotString := by decide +kernel
example : FeatureNames.metricFrameNames ["m_w", "y_true", "y_pred"] (.series (some (.str "y_pred"))) none = .error .reservedName := by decide +kernel
example : FeatureNames.metricFrameNames ["m_w", "y_true", "y_pred"] (.list true) (some (.series (some (.str "m_w")))) = .error .reservedName := by decide +kernel
example : FeatureNames.metricFrameNames ["y_true", "y_pred"] (.list true) (some (.series none)) =
    .ok (["sensitive_feature_0"], some ["control_feature_0"]) := by decide +kernel

/-! ### Non-vacuity: ALL hypotheses of each theorem at once, on inputs where NaN is distinguishable

The examples above use `nanv = 0` with `List.sum`, which cannot tell "NaN" from "filled with 0" (what the seeded
change C01b does).  Below the value type is `Option Nat` with `nanv = none`; `exRowsZ` has a NON-EMPTY cell whose metric
value is `some 0`, a single-member group, and an empty intersection. -/

section NonVacuity
open FramePrims FrameMulti

def exF : List Nat → Option Nat := fun l => some l.sum

/-- 2 x 2 sensitive levels: ("a","x") has two rows summing to 0, ("a","y") is a single-member group,
    ("b","x") has one row, ("b","y") is an empty intersection -/
def exRowsZ : List (Row Nat) :=
  [⟨0, [], ["a", "x"]⟩, ⟨5, [], ["a", "y"]⟩, ⟨3, [], ["b", "x"]⟩, ⟨0, [], ["a", "x"]⟩]

example : byGroup none 0 2 exF exRowsZ =
    [(["a", "x"], some 0), (["a", "y"], some 5), (["b", "x"], some 3), (["b", "y"], none)] := by decide +kernel

-- `byGroup_cell`: hypotheses (0 < ncf + nsf, membership) met by a non-empty cell, a single-member group and the empty one
example : some 0 = (if exRowsZ.filter (fun r => r.cf ++ r.sf == ["a", "x"]) = [] then none
    else exF ((exRowsZ.filter (fun r => r.cf ++ r.sf == ["a", "x"])).map (·.dat))) :=
  byGroup_cell none 0 2 (by omega) exF exRowsZ ["a", "x"] (some 0) (by decide +kernel)
example : (["a", "y"], some 5) ∈ byGroup none 0 2 exF exRowsZ ∧
    (exRowsZ.filter (fun r => r.cf ++ r.sf == ["a", "y"])).length = 1 := by decide +kernel
-- n = 1 (one row, one group, one feature): every theorem's hypotheses hold (`0 < ncf + nsf`, `WF`)
example : WF 0 1 [(⟨7, [], ["a"]⟩ : Row Nat)] ∧
    byGroup none 0 1 exF [(⟨7, [], ["a"]⟩ : Row Nat)] = [(["a"], some 7)] ∧
    overall none 0 exF [(⟨7, [], ["a"]⟩ : Row Nat)] = [([], some 7)] := by decide +kernel
-- `byGroup_eq_table` / `byGroup_index_eq_product` / `byGroup_index_length`: WF input with >= 2 features; 4 = 2 * 2 entries
example : WF 0 2 exRowsZ ∧ 0 < 0 + 2 ∧ levels Row.key 2 exRowsZ = [["a", "b"], ["x", "y"]] ∧
    (keys (byGroup none 0 2 exF exRowsZ)).length = 4 := by decide +kernel
-- `byGroup_index` / `byGroup_index_single`: both directions are inhabited
example : ["b", "y"] ∈ keys (byGroup none 0 2 exF exRowsZ) ∧ ["b", "z"] ∉ keys (byGroup none 0 2 exF exRowsZ) := by
  decide +kernel
-- `byGroup_empty` + `byGroup_empty_only_nan`: ALL hypotheses (WF, length, every coordinate observed, no row with the
-- tuple) hold for a really empty intersection of 2 features; the conclusion is NaN and not `some 0`
example : (["b", "y"], none) ∈ byGroup none 0 2 exF exRowsZ :=
  byGroup_empty none 0 2 (by omega) exF exRowsZ (by decide +kernel) ["b", "y"] rfl (by decide +kernel) (by decide +kernel)
example : ∀ v, (["b", "y"], v) ∈ byGroup none 0 2 exF exRowsZ → v = none :=
  fun v h => byGroup_empty_only_nan none 0 2 (by omega) exF exRowsZ ["b", "y"] (by decide +kernel) v h
example : (["b", "y"], some 0) ∉ byGroup none 0 2 exF exRowsZ := by decide +kernel
-- `byGroup_nonempty`: a cell with rows whose value is `some 0` is NOT the NaN placeholder
example : some 0 = exF ((exRowsZ.filter (fun r => r.cf ++ r.sf == ["a", "x"])).map (·.dat)) :=
  byGroup_nonempty none 0 2 (by omega) exF exRowsZ ["a", "x"] (some 0) (by decide +kernel)
    ⟨0, [], ["a", "x"]⟩ (.head _) rfl
-- `byGroup_partition` / `stratum_partition`: hypotheses WF + 0 < ncf + nsf (above); the flattened cells are the 4 rows
example : ((keys (byGroup none 0 2 exF exRowsZ)).flatMap (fun k => rowsOf Row.key k exRowsZ)).length = 4 := by
  decide +kernel

/-- 1 control x 1 sensitive feature; the sensitive value "b" occurs only in stratum "k", the product is over ALL rows -/
def exRowsCZ : List (Row Nat) :=
  [⟨1, ["m"], ["a"]⟩, ⟨2, ["k"], ["b"]⟩, ⟨4, ["k"], ["a"]⟩, ⟨8, ["k"], ["b"]⟩]

-- `overall_control_cell/_index`, `overall_eq_table`, `byGroup_stratum_in_overall`, `byGroup_index_cross`:
-- hypotheses 0 < ncf, WF 1 1; ("m","b") is in the index although "b" never occurs in stratum "m"
example : WF 1 1 exRowsCZ ∧
    byGroup none 1 1 exF exRowsCZ = [(["k", "a"], some 4), (["k", "b"], some 10), (["m", "a"], some 1), (["m", "b"], none)] ∧
    overall none 1 exF exRowsCZ = [(["k"], some 14), (["m"], some 1)] := by decide +kernel
example : ["m", "b"] ∈ keys (byGroup none 1 1 exF exRowsCZ) :=
  byGroup_index_cross none 1 1 (by omega) exF exRowsCZ (by decide +kernel) ⟨1, ["m"], ["a"]⟩ ⟨2, ["k"], ["b"]⟩
    (.head _) (.tail _ (.head _))
-- two control features: an unobserved control COMBINATION is NaN in `overall` as well
example : overall none 2 exF [(⟨1, ["k", "p"], ["a"]⟩ : Row Nat), ⟨2, ["m", "q"], ["b"]⟩] =
    [(["k", "p"], some 1), (["k", "q"], none), (["m", "p"], none), (["m", "q"], some 2)] := by decide +kernel

/-- a dict of two metrics with DIFFERENT sample parameters ("w" for the first, "v" and a None-valued "u" for the
    second) on 3 rows with 2 sensitive features and an empty intersection -/
def exSpecs : List (MetricSpec (Option Rat)) :=
  [⟨"m0", some "m0", fun _ kw => some (sumKw [] kw), [("w", some [1, 2, 4])]⟩,
   ⟨"m1", some "m1", fun pos kw => some (sumKw [] kw + ((pos.getD 0 []).sum)), [("u", none), ("v", some [10, 20, 40])]⟩]

-- `NoMissing` (the hypothesis of the `src_*` / `multi_*` theorems) holds of the example rows; a row with a missing
-- sensitive value is dropped by the lifted groupby (the count of group "a" is 1, not 2) and no group has the missing key
example : NoMissing exRows := by decide +kernel
example : groupbyApplyNa FrameSrc.groupby_dropna
    [(⟨1, [], ["a"]⟩ : Row Nat), ⟨2, [], [naLevel]⟩, ⟨3, [], ["b"]⟩] (sfNames 1) List.length = [(["a"], 1), (["b"], 1)] := by
  decide +kernel
example : groupbyApplyNa false
    [(⟨1, [], ["a"]⟩ : Row Nat), ⟨2, [], [naLevel]⟩, ⟨3, [], ["b"]⟩] (sfNames 1) List.length =
      [([naLevel], 1), (["a"], 1), (["b"], 1)] := by
  decide +kernel

def exFeats : List (List Level × List Level) := [([], ["a", "x"]), ([], ["b", "y"]), ([], ["a", "x"])]

-- `multi_byGroup_exact` / `multi_overall_exact` / `multi_column_eq_single` / `multi_metric_own_params`: ALL hypotheses
example : (∀ p ∈ exFeats, p.1.length = 0 ∧ p.2.length = 2) ∧ ([0, 1, 1] : List Rat).length = exFeats.length ∧
    ((exSpecs.map (·.name)).Nodup) ∧ (∀ m ∈ exSpecs, ParamsFull exFeats.length m) ∧
    WF 0 2 (mkRows exFeats) ∧ (∀ p ∈ exFeats, naLevel ∉ p.1 ∧ naLevel ∉ p.2) := by decide +kernel
-- and the interesting branch: each metric sees only its own parameter, sliced by the rows [0, 2] / [1]; NaN elsewhere
example : FrameMulti.column "m0" (byGroupFrame none 0 2 (baseData [0, 1, 1] [0, 1, 0]) exSpecs (mkRows exFeats)) =
    [(["a", "x"], some (some 5)), (["a", "y"], some none), (["b", "x"], some none), (["b", "y"], some (some 2))] := by
  decide +kernel
example : FrameMulti.column "m1" (byGroupFrame none 0 2 (baseData [0, 1, 1] [0, 1, 0]) exSpecs (mkRows exFeats)) =
    [(["a", "x"], some (some 51)), (["a", "y"], some none), (["b", "x"], some none), (["b", "y"], some (some 21))] := by
  decide +kernel
example : rowIdx exFeats ["a", "x"] = [0, 2] ∧ rowIdx exFeats ["a", "y"] = [] ∧
    sliceAt [1, 2, 4] (rowIdx exFeats ["a", "x"]) = [1, 4] := by decide +kernel
example : FrameMulti.column "m1" (overallFrame none 0 2 (baseData [0, 1, 1] [0, 1, 0]) exSpecs (mkRows exFeats)) =
    [([], some (some 72))] := by decide +kernel

end NonVacuity

end C01
