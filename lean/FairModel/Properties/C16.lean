/-
C16 — adversarial training applies the documented projected-gradient update.
The property theorems, the example data `exModel` / `exGrads`, and a few helpers stated next to their users (`nonzero_branch`,
`step_total_iff_tiny_survives_norm`, `runSched_none`); the algebra is in `Lemmas/Adversarial.lean` (tensors), `AdvNorm.lean`
(norm kinds), `AdvStep.lean` (whole step), `AdvBookkeeping.lean` (step dictated by the lifted statement list).

  a = dLP/dW, b = dLA/dW (inputs: autograd is trusted), g = combine a b α = a - proj_b(a) - α b.
  `torchInner`, `torchTiny`, `torchUnit`, `torchGrad` (and the `tf…` twins) are GENERATED from the
  Python source by harness/lifters/adv_projection.py; the theorems that mention them are re-checked
  against what the source says now.

CLAUSE -> THEOREM TABLE (property text: properties.jsonl C16)
  (1) "each training step changes every parameter tensor W of the predictor along g"
        whole_step_feeds_optimisers (any optimisers), whole_step_sgd + whole_step_sgd_pointwise (plain SGD: W' = W - lr*g per
        tensor, = `predictorStep`), whole_step_keeps_all_tensors (no tensor is dropped), predictor_follows_combined,
        observed_recovers_gradient (what the harness reads off recovers g)
  (2) "g = dLP/dW - proj_{dLA/dW}(dLP/dW) - alpha*dLA/dW"
        torch_step_is_combine, torch_whole_step_direction, update_matrix_is_combine, update_is_projection_residual;
        literal source lines = normalised model: torch_literal_form / tf_literal_form (regulariser tiny = 0) and
        torch_literal_form_tiny / tf_literal_form_tiny (the regulariser as written: coefficient <B,A>/(|B|+tiny)^2)
  (3) "the projection uses the ordinary (Frobenius) inner product of that tensor"
        torch_projection_is_frobenius, tf_projection_is_frobenius (generated kinds), frobenius_is_flat_dot;
        counter-model: sumInner_ne_frobenius_two_rows, sumInner_update_not_orthogonal, sumInner_eq_frobenius_single_row
        NORM KIND (lifted: `torchNorm`, `tfNorm : NormKind`, Generated/AdvProjection.lean; the model `gradWithN`/`engineGradN`
        computes with it): lifted_norm_is_frobenius / tf_lifted_norm_is_frobenius (what the source says now);
        norm_kind_update_shape (ANY kind: g = A - c*B - alpha*B, c = <B,A>/|B|_n^2), norm_kind_orthogonality_defect (ANY kind:
        <g + alpha B, B> = <A,B>*(1 - |B|_2^2/|B|_n^2)), orthogonal_iff_two_norm and projection_coefficient_iff_two_norm
        (BOTH orthogonality and "c is the projection coefficient" hold iff |B|_n = |B|_2 -- a unit vector that is B scaled by
        an arbitrary non-zero scalar is NOT enough), norm_kinds_vanish_together (zero branch independent of the kind),
        norm_kinds_agree_on_one_entry (1x1 tensors cannot see the kind), norm_kinds_ordered (max-abs <= 2-norm <= L1), l1_update_not_orthogonal / maxAbs_update_not_orthogonal
        (2x2 witnesses with non-proportional rows), torch_literal_form_lifted_norm (literal lines = torchStep's non-zero branch
        when nrm is the norm of the LIFTED kind)
  (4) "so g + alpha*dLA/dW is orthogonal to dLA/dW"
        orthogonal, engine_orthogonal, engine_orthogonal_norm (through the norm kind), torch_step_orthogonal, tf_step_orthogonal (model = exact arithmetic, tiny dropped for
        dLA/dW != 0).  PARTIAL for the literal text: literal_tiny_orthogonality_defect gives the EXACT residual
        <A,B> * (1 - |B|^2/(|B|+tiny)^2) of the three source lines, literal_tiny_not_orthogonal proves it is non-zero whenever
        tiny > 0 and <A,B> != 0.  In float32 |B| + tiny == |B| for |B| >= 2^-102, so the defect is below resolution there;
        for 0 < |dLA/dW| <~ 1e-22 the float32 norm underflows and the code's update is off by ~1/tiny (known finding F22,
        replayed on real fairlearn; the harness does not judge tensors with max|entry| < 1e-18).
        dLA/dW = 0: zero_branch, torch_zero_gradient_keeps_dLP, step_total_iff_tiny_survives, torch_step_total (g = dLP/dW, no NaN)
  (5) "the adversary's parameters follow the plain gradient of its own loss LA"
        adversary_plain_gradient, whole_step_sgd (adversary part), lifted_backward_graph_alive (call arguments pinned by the
        lifter; `retain_graph` lifted: no backward pass through a freed graph), lifted_train_step_gradients (appliedA = 0*dLP + 1*dLA + 0*stale),
        step_eq_stepFromBookkeeping_lifted (the whole-step function IS the step dictated by the lifted statement list),
        tf_adversary_plain_gradient_structural (TensorFlow, structural only)
  (6) "for every layer shape (vectors and matrices with several rows)"
        all theorems quantify over `Mat = List (List Rat)` with `sameShape`; a bias is a one-row matrix.  Tensors of rank > 2
        (not produced by the Linear layers of the quantifier) are covered only through their flattening (`orthogonal` on `Vec`).
  (7) "for demographic parity and for equalized odds (where the adversary also sees y)"
        lifted_adversary_sees_y_iff_equalized_odds, lifted_loss_dependencies
  (8) "alpha >= 0, learning rates; observed through plain-SGD optimisers": every theorem holds for all rational alpha and lr
        (lr != 0 where the observation divides by it); optimisers are parameters (`Opt`), `sgd` / `sgdMomentum` instances.
  Driver ops used by harness/props/c16.py -> model function -> theorem:
    adv.step torch -> predictorStep torchStep -> predictor_follows_combined, torch_step_is_combine, whole_step_sgd_pointwise
    adv.grad ref -> gradWith .frobenius -> update_matrix_is_combine;  adv.grad suminner -> engineGrad .sumInner -> sumInner_update_not_orthogonal
    adv.sgd -> adversaryStep -> adversary_plain_gradient;  trainstep.applied -> TrainStepL.lifted -> lifted_train_step_gradients
    advstep.fit -> SchedL.fitSrc over AdvStep.trainStepRec -> C17.src_fit_recorded_is_fold_of_steps (Properties/C17.lean)
  Trusted / not modelled: autograd (gradients are inputs), float32 rounding (model is exact), TensorFlow engine never executed.
-/
import FairModel.Lemmas.Adversarial
import FairModel.Lemmas.AdvStep
import FairModel.Lemmas.AdvBookkeeping
import FairModel.Lemmas.AdvNorm

namespace C16
open Adversarial AdvProjection

/-! ### the rule itself (flattened tensors, any length) -/

/-- `g + α·dLA/dW` is `a` minus a multiple of `b`, i.e. the projection residual of `a`. -/
theorem update_is_projection_residual (a b : Vec) (α : Rat) (hlen : a.length = b.length) :
    vadd (combine a b α) (smul α b) = vsub a (smul (dot b a / dot b b) b) :=
  vadd_vsub_cancel _ _ (by simp [hlen])

example : vadd (combine [3, 1] [1, 2] (1/2)) (smul (1/2) [1, 2]) = vsub [3, 1] (smul (dot [1, 2] [3, 1] / dot [1, 2] [1, 2]) [1, 2]) :=
  update_is_projection_residual [3, 1] [1, 2] (1/2) (by decide)
example : vadd (combine [3, 1] [1, 2] (1/2)) (smul (1/2) [1, 2]) = [2, -1] := by decide +kernel

/-- ... and it is orthogonal to `dLA/dW` (ordinary inner product of the flattened tensor). -/
theorem orthogonal (a b : Vec) (α : Rat) (hlen : a.length = b.length) (hb : dot b b ≠ 0) :
    dot (vadd (combine a b α) (smul α b)) b = 0 := by
  rw [update_is_projection_residual a b α hlen, dot_vsub_left _ _ _ (by simp [hlen]), dot_smul_left, dot_comm a b,
    div_mul_cancel₀ _ hb, sub_self]

/- non-vacuity: a = (3,1), b = (1,2), alpha = 1/2 meet BOTH hypotheses (b != 0, a not parallel to b, projection != 0) -/
example : dot (vadd (combine [3, 1] [1, 2] (1/2)) (smul (1/2) [1, 2])) [1, 2] = 0 :=
  orthogonal [3, 1] [1, 2] (1/2) (by decide) (by decide +kernel)
example : combine [3, 1] [1, 2] (1/2) = [3/2, -2] ∧ dot [1, 2] [3, 1] = 5 ∧ dot [1, 2] [1, 2] = 5 := by decide +kernel

/-- the matrix Frobenius product is the dot product of the flattenings, for every shape
    (any number of rows, any row lengths, as long as the two tensors have the same shape) -/
theorem frobenius_is_flat_dot (A B : Mat) (h : sameShape A B = true) : frob A B = dot (flat A) (flat B) :=
  frob_eq_dot_flat h

/- non-vacuity: a 2x2 pair and a RAGGED pair of the same shape (rows of length 3 and 1) -/
example : frob [[1, 2], [3, 4]] [[0, 1], [1, 1]] = dot (flat [[1, 2], [3, 4]]) (flat [[0, 1], [1, 1]]) :=
  frobenius_is_flat_dot _ _ (by decide +kernel)
example : frob [[1, 2], [3, 4]] [[0, 1], [1, 1]] = 9 ∧ sameShape [[1, 2, 3], [4]] [[1, 1, 1], [2]] = true ∧
    frob [[1, 2, 3], [4]] [[1, 1, 1], [2]] = 14 := by decide +kernel

/-- the matrix-level update with the Frobenius product IS `combine` on the flattened tensors -/
theorem update_matrix_is_combine (A B : Mat) (α : Rat) (h : sameShape A B = true) :
    flat (gradWith .frobenius A B α) = combine (flat A) (flat B) α := by
  rw [gradWith_eq_gradCoef, flat_gradCoef _ α h, combine, ← frob_eq_dot_flat (sameShape_symm h), ← frob_self_eq_dot]
  rfl

example : flat (gradWith .frobenius [[1, 0], [0, 1]] [[1, 1], [0, 1]] 1) = combine [1, 0, 0, 1] [1, 1, 0, 1] 1 :=
  update_matrix_is_combine _ _ 1 (by decide +kernel)
example : gradWith .frobenius [[1, 0], [0, 1]] [[1, 1], [0, 1]] 1 = [[-2/3, -5/3], [0, -2/3]] := by decide +kernel

/-! ### which inputs take which branch of the loop body -/

theorem nonzero_branch (k : InnerKind) (t : TinyKind) (A B : Mat) (α : Rat) (hB : frob B B ≠ 0) :
    engineGrad k t A B α = some (gradWith k A B α) :=
  engineGradN_nonzero k .frobenius t A B α hB

example : engineGrad .frobenius .float64 [[1, 0], [0, 1]] [[1, 1], [0, 1]] 1 = some (gradWith .frobenius [[1, 0], [0, 1]] [[1, 1], [0, 1]] 1) :=
  nonzero_branch _ _ _ _ 1 (by decide +kernel)

theorem frob_self_zero_iff (B : Mat) : frob B B = 0 ↔ ∀ r ∈ B, ∀ x ∈ r, x = 0 := by
  rw [frob_self_eq_zero_flat, flat, List.forall_mem_flatten]

/-- `dLA/dW = 0`: a `tiny` that survives float32 gives `g = dLP/dW` (the projection on the zero tensor is 0);
    the float64 `tiny` vanishes and the engine produces the NaN tensor. -/
theorem zero_branch (k : InnerKind) (A B : Mat) (α : Rat) (hB : ∀ r ∈ B, ∀ x ∈ r, x = 0) :
    engineGrad k .float32 A B α = some A ∧ engineGrad k .float64 A B α = none :=
  engineGradN_zero k .frobenius A B α ((frob_self_zero_iff B).mpr hB)

/- non-vacuity: a 2x2 zero tensor against a non-zero dLP/dW -/
example : engineGrad .frobenius .float32 [[1, 2], [3, 4]] [[0, 0], [0, 0]] 1 = some [[1, 2], [3, 4]] ∧
    engineGrad .frobenius .float64 [[1, 2], [3, 4]] [[0, 0], [0, 0]] 1 = none :=
  zero_branch .frobenius [[1, 2], [3, 4]] [[0, 0], [0, 0]] 1 (by decide +kernel)

/-! ### orthogonality of the engine's non-zero branch -/

/-- an engine that projects with the Frobenius product satisfies the property on every tensor shape -/
theorem engine_orthogonal (t : TinyKind) (A B G : Mat) (α : Rat) (h : sameShape A B = true)
    (hB : frob B B ≠ 0) (hG : engineGrad .frobenius t A B α = some G) :
    frob (madd G (msmul α B)) B = 0 := by
  rw [nonzero_branch _ _ _ _ _ hB] at hG
  cases hG
  rw [gradWith_eq_gradCoef, frob_gradCoef_add _ α h]
  show frob A B - frob B A / frob B B * frob B B = 0
  rw [frob_comm B A, div_mul_cancel₀ _ hB, sub_self]

/- non-vacuity: all three hypotheses at once, 2x2 tensors, dLP/dW not orthogonal to dLA/dW (projection coefficient 2/3) -/
example : frob (madd [[-2/3, -5/3], [0, -2/3]] (msmul 1 [[1, 1], [0, 1]])) [[1, 1], [0, 1]] = 0 :=
  engine_orthogonal .float32 [[1, 0], [0, 1]] [[1, 1], [0, 1]] [[-2/3, -5/3], [0, -2/3]] 1 (by decide +kernel) (by decide +kernel)
    (by decide +kernel)

/-! ### tie to the source (generated definitions) -/

/-- _pytorch_engine.py projects with the Frobenius product (FALSE for `torch.sum(torch.inner(·,·))`, the sum over all
    row pairs: known finding F4) -/
theorem torch_projection_is_frobenius : torchInner = InnerKind.frobenius := by decide

/-- _tensorflow_engine.py: `reduce_sum(multiply(·,·))` (lifted structurally; TensorFlow is not installed) -/
theorem tf_projection_is_frobenius : tfInner = InnerKind.frobenius := by decide

/-! ### the norm kind (lifted) -/

/-- _pytorch_engine.py normalises dLA/dW with the 2-norm of the flattened tensor (`torch.norm(g)`, default arguments).
    FALSE after `torch.norm(g, p=1)` / `g.abs().max()` (lifted as `l1Flat` / `maxAbs`); `torch.linalg.norm(g, 2)` (spectral),
    `dim=` variants and `p='nuc'` are refused by the lifter. -/
theorem lifted_norm_is_frobenius : torchNorm = NormKind.frobenius := by decide

/-- _tensorflow_engine.py: `tensorflow.norm(g)` (default `ord='euclidean'`, `axis=None`: the flattened 2-norm) -/
theorem tf_lifted_norm_is_frobenius : tfNorm = NormKind.frobenius := by decide

/-- NEEDS NO PARTICULAR NORM: whatever the norm kind, the update has the form `A − c·B − α·B` with `c = <B,A>_k / ‖B‖ₙ²` (the update
    stays in `A + span B`; only the coefficient depends on the norm) -/
theorem norm_kind_update_shape (k : InnerKind) (n : NormKind) (A B : Mat) (α : Rat) :
    gradWithN k n A B α = gradCoef (inner k B A / normSq n B) A B α := rfl

example : gradWithN .frobenius .l1Flat [[1, 0], [0, 1]] [[1, 1], [0, 1]] 1 = [[-2/9, -11/9], [0, -2/9]] ∧
    normSq .l1Flat [[1, 1], [0, 1]] = 9 ∧ normSq .frobenius [[1, 1], [0, 1]] = 3 ∧ normSq .maxAbs [[1, 1], [0, 1]] = 1 := by
  decide +kernel

/-- NEEDS NO PARTICULAR NORM: the exact component of `g + α·dLA/dW` along `dLA/dW`, for every norm kind -/
theorem norm_kind_orthogonality_defect (n : NormKind) (A B : Mat) (α : Rat) (h : sameShape A B = true) :
    frob (madd (gradWithN .frobenius n A B α) (msmul α B)) B = frob A B * (1 - frob B B / normSq n B) := by
  rw [norm_kind_update_shape, frob_gradCoef_add _ α h]
  show frob A B - frob B A / normSq n B * frob B B = _
  rw [frob_comm B A]
  ring

/- non-vacuity: A = I, B = [[1,1],[0,1]] (non-proportional rows), l1: <A,B> = 2, |B|_2^2 = 3, |B|_1^2 = 9: defect 2*(1-1/3) = 4/3 -/
example : frob (madd (gradWithN .frobenius .l1Flat [[1, 0], [0, 1]] [[1, 1], [0, 1]] 1) (msmul 1 [[1, 1], [0, 1]])) [[1, 1], [0, 1]] = 4/3 := by
  decide +kernel

/-- ORTHOGONALITY NEEDS THE 2-NORM: with `dLA/dW ≠ 0` and `<dLP/dW, dLA/dW> ≠ 0` the update is orthogonal to `dLA/dW`
    iff `‖B‖ₙ² = <B,B>`. -/
theorem orthogonal_iff_two_norm (n : NormKind) (A B : Mat) (α : Rat) (h : sameShape A B = true)
    (hB : frob B B ≠ 0) (hAB : frob A B ≠ 0) :
    frob (madd (gradWithN .frobenius n A B α) (msmul α B)) B = 0 ↔ normSq n B = frob B B := by
  have hn : normSq n B ≠ 0 := mt (normSq_eq_zero_iff n B).mp hB
  rw [norm_kind_orthogonality_defect n A B α h, mul_eq_zero, or_iff_right hAB, sub_eq_zero, eq_comm,
    div_eq_one_iff_eq hn, eq_comm]

example : frob (madd (gradWithN .frobenius .frobenius [[1, 0], [0, 1]] [[1, 1], [0, 1]] 1) (msmul 1 [[1, 1], [0, 1]])) [[1, 1], [0, 1]] = 0 :=
  (orthogonal_iff_two_norm .frobenius [[1, 0], [0, 1]] [[1, 1], [0, 1]] 1 (by decide +kernel) (by decide +kernel) (by decide +kernel)).mpr rfl

/-- "THE COEFFICIENT IS THE PROJECTION COEFFICIENT" NEEDS THE 2-NORM, exactly as orthogonality does -/
theorem projection_coefficient_iff_two_norm (n : NormKind) (A B : Mat) (hB : frob B B ≠ 0) (hBA : frob B A ≠ 0) :
    frob B A / normSq n B = frob B A / frob B B ↔ normSq n B = frob B B := by
  rw [div_eq_div_iff (mt (normSq_eq_zero_iff n B).mp hB) hB, mul_right_inj' hBA, eq_comm]

example : frob [[1, 1], [0, 1]] [[1, 0], [0, 1]] / normSq .l1Flat [[1, 1], [0, 1]] ≠
    frob [[1, 1], [0, 1]] [[1, 0], [0, 1]] / frob [[1, 1], [0, 1]] [[1, 1], [0, 1]] := by decide +kernel

/-- the three kinds vanish on exactly the same tensors (the zero tensor): the zero branch does not depend on the kind -/
theorem norm_kinds_vanish_together (n : NormKind) (B : Mat) : normSq n B = 0 ↔ ∀ r ∈ B, ∀ x ∈ r, x = 0 := by
  rw [normSq_eq_zero_iff, frob_self_zero_iff]

/-- the kinds are ordered, `‖B‖_max² ≤ ‖B‖₂² ≤ ‖B‖₁²` (every tensor): by `norm_kind_orthogonality_defect` the L1 norm leaves a
    component along dLA/dW of the SAME sign as `<dLP/dW, dLA/dW>` (under-projection), the max-abs norm one of the OPPOSITE
    sign (over-projection) -/
theorem norm_kinds_ordered (B : Mat) :
    normSq .maxAbs B ≤ normSq .frobenius B ∧ normSq .frobenius B ≤ normSq .l1Flat B :=
  ⟨maxAbs_sq_le_frob B, frob_le_l1_sq B⟩

/- strict on a tensor with two non-zero entries -/
example : normSq .maxAbs [[1, 1], [0, 1]] < normSq .frobenius [[1, 1], [0, 1]] ∧
    normSq .frobenius [[1, 1], [0, 1]] < normSq .l1Flat [[1, 1], [0, 1]] := by decide +kernel

/-- why a 1×1 tensor cannot see the norm kind -/
theorem norm_kinds_agree_on_one_entry (n : NormKind) (x : Rat) : normSq n [[x]] = x * x := by
  cases n
  · simp [normSq]
  · simp [normSq, l1, flat, absR_mul_self]
  · have h : maxR 0 (absR x) = absR x := by
      rw [maxR_eq_max]; exact max_eq_right (absR_nonneg x)
    simp [normSq, maxAbs, flat, h, absR_mul_self]

/-- regression witnesses: with the L1 norm / the max-abs norm of the flattened tensor the update is NOT orthogonal to dLA/dW
    (2×2, non-proportional rows; also visible on the single row [[1,1]]) -/
theorem l1_update_not_orthogonal :
    ∃ A B G : Mat, ∃ α : Rat, sameShape A B = true ∧ engineGradN .frobenius .l1Flat .float32 A B α = some G ∧
      frob (madd G (msmul α B)) B ≠ 0 :=
  ⟨[[1, 0], [0, 1]], [[1, 1], [0, 1]], [[-2/9, -11/9], [0, -2/9]], 1, by decide +kernel, by decide +kernel, by decide +kernel⟩

theorem maxAbs_update_not_orthogonal :
    ∃ A B G : Mat, ∃ α : Rat, sameShape A B = true ∧ engineGradN .frobenius .maxAbs .float32 A B α = some G ∧
      frob (madd G (msmul α B)) B ≠ 0 :=
  ⟨[[1, 0], [0, 1]], [[1, 1], [0, 1]], [[-2, -3], [0, -2]], 1, by decide +kernel, by decide +kernel, by decide +kernel⟩

/-- `engine_orthogonal` THROUGH the norm kind: an engine with the Frobenius projection line and norm kind `n` satisfies the
    property on every tensor shape as soon as `n` is the 2-norm of the flattening -/
theorem engine_orthogonal_norm (n : NormKind) (t : TinyKind) (A B G : Mat) (α : Rat) (hn : n = NormKind.frobenius)
    (h : sameShape A B = true) (hB : frob B B ≠ 0) (hG : engineGradN .frobenius n t A B α = some G) :
    frob (madd G (msmul α B)) B = 0 := by
  subst hn
  exact engine_orthogonal t A B G α h hB hG

/-- the literal three lines of the PyTorch loop body (norm as a parameter, tiny = 0) equal the normalised model -/
theorem torch_literal_form (A B : Mat) (α nrm : Rat) (h : sameShape A B = true)
    (hn : nrm * nrm = frob B B) (hn0 : nrm ≠ 0) :
    engineGradRaw torchUnit torchGrad torchInner A B α nrm 0 = gradWith torchInner A B α := by
  rw [engineGradRaw_tiny torchUnit torchGrad (fun _ _ _ => rfl) (fun _ _ _ _ _ => rfl) _ A B α nrm 0 h, add_zero, hn]
  rfl

/- non-vacuity: dLA/dW = [[3,0],[0,4]] has the RATIONAL norm 5: all three hypotheses hold, and the literal lines give a
   non-trivial tensor (projection coefficient 7/25) -/
example : engineGradRaw torchUnit torchGrad torchInner [[1, 2], [3, 1]] [[3, 0], [0, 4]] (1/2) 5 0 =
    gradWith torchInner [[1, 2], [3, 1]] [[3, 0], [0, 4]] (1/2) :=
  torch_literal_form _ _ (1/2) 5 (by decide +kernel) (by decide +kernel) (by decide +kernel)
example : engineGradRaw torchUnit torchGrad torchInner [[1, 2], [3, 1]] [[3, 0], [0, 4]] (1/2) 5 0 =
    [[-67/50, 2], [3, -53/25]] := by decide +kernel

theorem tf_literal_form (A B : Mat) (α nrm : Rat) (h : sameShape A B = true)
    (hn : nrm * nrm = frob B B) (hn0 : nrm ≠ 0) :
    engineGradRaw tfUnit tfGrad tfInner A B α nrm 0 = gradWith tfInner A B α := by
  rw [engineGradRaw_tiny tfUnit tfGrad (fun _ _ _ => rfl) (fun _ _ _ _ _ => rfl) _ A B α nrm 0 h, add_zero, hn]
  rfl

example : engineGradRaw tfUnit tfGrad tfInner [[1, 2], [3, 1]] [[3, 0], [0, 4]] (1/2) 5 0 =
    gradWith tfInner [[1, 2], [3, 1]] [[3, 0], [0, 4]] (1/2) :=
  tf_literal_form _ _ (1/2) 5 (by decide +kernel) (by decide +kernel) (by decide +kernel)

/-- the literal three lines with `nrm` = the norm of the LIFTED kind (`nrm² = ‖B‖ₙ²`, `n = torchNorm`) are exactly what
    `torchStep` (the function behind the driver ops `adv.step torch`, `advstep.step`, `advstep.fit`) returns on its
    non-zero branch -/
theorem torch_literal_form_lifted_norm (A B : Mat) (α nrm : Rat) (h : sameShape A B = true)
    (hn : nrm * nrm = normSq torchNorm B) (hn0 : nrm ≠ 0) (hB : frob B B ≠ 0) :
    torchStep A B α = some (engineGradRaw torchUnit torchGrad torchInner A B α nrm 0) := by
  rw [torchStep, engineGradN_nonzero _ _ _ _ _ _ hB,
    engineGradRaw_tiny torchUnit torchGrad (fun _ _ _ => rfl) (fun _ _ _ _ _ => rfl) _ A B α nrm 0 h, add_zero, hn]
  rfl

theorem tf_literal_form_lifted_norm (A B : Mat) (α nrm : Rat) (h : sameShape A B = true)
    (hn : nrm * nrm = normSq tfNorm B) (hn0 : nrm ≠ 0) (hB : frob B B ≠ 0) :
    tfStep A B α = some (engineGradRaw tfUnit tfGrad tfInner A B α nrm 0) := by
  rw [tfStep, engineGradN_nonzero _ _ _ _ _ _ hB,
    engineGradRaw_tiny tfUnit tfGrad (fun _ _ _ => rfl) (fun _ _ _ _ _ => rfl) _ A B α nrm 0 h, add_zero, hn]
  rfl

/- non-vacuity: |[[3,0],[0,4]]|_2 = 5 -/
example : torchStep [[1, 2], [3, 1]] [[3, 0], [0, 4]] (1/2) =
    some (engineGradRaw torchUnit torchGrad torchInner [[1, 2], [3, 1]] [[3, 0], [0, 4]] (1/2) 5 0) :=
  torch_literal_form_lifted_norm _ _ (1/2) 5 (by decide +kernel) (by decide +kernel) (by decide +kernel) (by decide +kernel)

/-- The three source lines WITH the regulariser as written (`unit = dW_LA / (norm + tiny)`), for every `tiny` and
    every value `nrm` of the norm: the projection coefficient is `<B,A> / (nrm + tiny)²`. -/
theorem torch_literal_form_tiny (A B : Mat) (α nrm tiny : Rat) (h : sameShape A B = true) :
    engineGradRaw torchUnit torchGrad torchInner A B α nrm tiny =
      gradCoef (frob B A / ((nrm + tiny) * (nrm + tiny))) A B α :=
  engineGradRaw_tiny torchUnit torchGrad (fun _ _ _ => rfl) (fun _ _ _ _ _ => rfl) _ A B α nrm tiny h

theorem tf_literal_form_tiny (A B : Mat) (α nrm tiny : Rat) (h : sameShape A B = true) :
    engineGradRaw tfUnit tfGrad tfInner A B α nrm tiny =
      gradCoef (frob B A / ((nrm + tiny) * (nrm + tiny))) A B α :=
  engineGradRaw_tiny tfUnit tfGrad (fun _ _ _ => rfl) (fun _ _ _ _ _ => rfl) _ A B α nrm tiny h

/-- ... hence the EXACT orthogonality residual of the literal lines, for every `nrm` and `tiny`:
    `<g + α B, B> = <A,B> · (1 − <B,B> / (nrm + tiny)²)`.  With the true norm (`nrm² = <B,B>`) it vanishes for `tiny = 0`
    and, by the next theorem, for no `tiny > 0`. -/
theorem literal_tiny_orthogonality_defect (A B : Mat) (α nrm tiny : Rat) (h : sameShape A B = true) :
    frob (madd (engineGradRaw torchUnit torchGrad torchInner A B α nrm tiny) (msmul α B)) B =
      frob A B * (1 - frob B B / ((nrm + tiny) * (nrm + tiny))) := by
  rw [torch_literal_form_tiny A B α nrm tiny h, frob_gradCoef_add _ α h, frob_comm B A]
  ring

/-- CLAUSE (4) IS NOT EXACTLY TRUE OF THE LITERAL TEXT: with the true norm (`nrm > 0`, `nrm² = <B,B>`) and ANY positive
    regulariser the three source lines leave a non-zero component along dLA/dW whenever `<dLP/dW, dLA/dW> ≠ 0`.
    (Relative size `≈ 2·tiny/nrm`: invisible in float32 unless `nrm` itself is near `tiny`.) -/
theorem literal_tiny_not_orthogonal (A B : Mat) (α nrm tiny : Rat) (h : sameShape A B = true)
    (hn : nrm * nrm = frob B B) (hn0 : 0 < nrm) (ht : 0 < tiny) (hAB : frob A B ≠ 0) :
    frob (madd (engineGradRaw torchUnit torchGrad torchInner A B α nrm tiny) (msmul α B)) B ≠ 0 := by
  rw [literal_tiny_orthogonality_defect A B α nrm tiny h, ← hn]
  have hlt : nrm < nrm + tiny := lt_add_of_pos_right nrm ht
  have hpos : 0 < nrm + tiny := hn0.trans hlt
  exact mul_ne_zero hAB (sub_ne_zero.mpr
    ((div_lt_one (mul_pos hpos hpos)).mpr (mul_lt_mul'' hlt hlt hn0.le hn0.le)).ne')

/- witness, all hypotheses at once: |B| = 5, tiny = 5 (so (nrm+tiny)² = 100), <A,B> = 7: residual 7·(1 − 25/100) = 21/4 -/
example : frob (madd (engineGradRaw torchUnit torchGrad torchInner [[1, 2], [3, 1]] [[3, 0], [0, 4]] (1/2) 5 5)
    (msmul (1/2) [[3, 0], [0, 4]])) [[3, 0], [0, 4]] ≠ 0 :=
  literal_tiny_not_orthogonal _ _ (1/2) 5 5 (by decide +kernel) (by decide +kernel) (by decide +kernel) (by decide +kernel)
    (by decide +kernel)
example : frob (madd (engineGradRaw torchUnit torchGrad torchInner [[1, 2], [3, 1]] [[3, 0], [0, 4]] (1/2) 5 5)
    (msmul (1/2) [[3, 0], [0, 4]])) [[3, 0], [0, 4]] = 21/4 := by decide +kernel

/-- the PyTorch step as written: orthogonal update for every tensor shape with `dLA/dW ≠ 0` -/
theorem torch_step_orthogonal (A B G : Mat) (α : Rat) (h : sameShape A B = true) (hB : frob B B ≠ 0)
    (hG : torchStep A B α = some G) : frob (madd G (msmul α B)) B = 0 := by
  unfold torchStep at hG
  rw [torch_projection_is_frobenius] at hG
  exact engine_orthogonal_norm torchNorm _ A B G α lifted_norm_is_frobenius h hB hG

example : frob (madd [[-2/3, -5/3], [0, -2/3]] (msmul 1 [[1, 1], [0, 1]])) [[1, 1], [0, 1]] = 0 :=
  torch_step_orthogonal [[1, 0], [0, 1]] [[1, 1], [0, 1]] _ 1 (by decide +kernel) (by decide +kernel) (by decide +kernel)

theorem tf_step_orthogonal (A B G : Mat) (α : Rat) (h : sameShape A B = true) (hB : frob B B ≠ 0)
    (hG : tfStep A B α = some G) : frob (madd G (msmul α B)) B = 0 := by
  unfold tfStep at hG
  rw [tf_projection_is_frobenius] at hG
  exact engine_orthogonal_norm tfNorm _ A B G α tf_lifted_norm_is_frobenius h hB hG

example : frob (madd [[-2/3, -5/3], [0, -2/3]] (msmul 1 [[1, 1], [0, 1]])) [[1, 1], [0, 1]] = 0 :=
  tf_step_orthogonal [[1, 0], [0, 1]] [[1, 1], [0, 1]] _ 1 (by decide +kernel) (by decide +kernel) (by decide +kernel)

/-- and its flattening is exactly the documented `g` -/
theorem torch_step_is_combine (A B : Mat) (α : Rat) (h : sameShape A B = true) (hB : frob B B ≠ 0) :
    (torchStep A B α).map flat = some (combine (flat A) (flat B) α) := by
  unfold torchStep
  rw [torch_projection_is_frobenius, lifted_norm_is_frobenius, engineGradN_frobenius, nonzero_branch _ _ _ _ _ hB]
  simp [update_matrix_is_combine A B α h]

example : (torchStep [[1, 0], [0, 1]] [[1, 1], [0, 1]] 1).map flat = some (combine [1, 0, 0, 1] [1, 1, 0, 1] 1) :=
  torch_step_is_combine _ _ 1 (by decide +kernel) (by decide +kernel)
example : combine [1, 0, 0, 1] [1, 1, 0, 1] 1 = [-2/3, -5/3, 0, -2/3] := by decide +kernel

/-- for every norm kind (the zero branch does not depend on it) the step is defined (no NaN tensor) exactly when the
    regulariser survives float32 arithmetic -/
theorem step_total_iff_tiny_survives_norm (k : InnerKind) (n : NormKind) (t : TinyKind) :
    (∀ (A B : Mat) (α : Rat), (engineGradN k n t A B α).isSome = true) ↔ t = TinyKind.float32 := by
  constructor
  · intro h
    cases t with
    | float32 => rfl
    | float64 => exact absurd (h [[1]] [[0]] 0) (by simp [engineGradN])
  · rintro rfl A B α
    unfold engineGradN
    split <;> rfl

/-- the step is defined (no NaN tensor) exactly when the regulariser survives float32 arithmetic -/
theorem step_total_iff_tiny_survives (k : InnerKind) (t : TinyKind) :
    (∀ (A B : Mat) (α : Rat), (engineGrad k t A B α).isSome = true) ↔ t = TinyKind.float32 :=
  step_total_iff_tiny_survives_norm k .frobenius t

theorem tf_step_total (A B : Mat) (α : Rat) : (tfStep A B α).isSome = true :=
  (step_total_iff_tiny_survives_norm tfInner tfNorm tfTiny).mpr (by decide) A B α

/-- _pytorch_engine.py adds a regulariser that survives float32 arithmetic
    (FALSE while the source says `torch.finfo(float).tiny`, the float64 tiny: known finding F11) -/
theorem torch_tiny_survives_float32 : torchTiny = TinyKind.float32 := by decide

/-- hence the PyTorch step never produces the NaN tensor ... -/
theorem torch_step_total (A B : Mat) (α : Rat) : (torchStep A B α).isSome = true :=
  (step_total_iff_tiny_survives_norm torchInner torchNorm torchTiny).mpr torch_tiny_survives_float32 A B α

/-- ... and for `dLA/dW = 0` the parameter follows `dLP/dW` alone (the projection on the zero tensor is 0) -/
theorem torch_zero_gradient_keeps_dLP (A B : Mat) (α : Rat) (hB : ∀ r ∈ B, ∀ x ∈ r, x = 0) :
    torchStep A B α = some A := by
  unfold torchStep
  rw [torch_tiny_survives_float32]
  exact (engineGradN_zero torchInner torchNorm A B α ((frob_self_zero_iff B).mpr hB)).1

example : torchStep [[1, 2], [3, 4]] [[0, 0], [0, 0]] (5/2) = some [[1, 2], [3, 4]] :=
  torch_zero_gradient_keeps_dLP _ _ (5/2) (by decide +kernel)

/-- TensorFlow engine, structural (lifted from the source, never executed here): the adversary optimiser applies the
    plain gradient of LA w.r.t. the adversary's own variables; the loop combines dLP/dW and dLA/dW of the predictor. -/
theorem tf_adversary_plain_gradient_structural :
    tf_adversary_applies = (⟨Loss.LA, Player.adversary⟩, Player.adversary) ∧
    tf_predictor_applies = (⟨Loss.LP, Player.predictor⟩, Player.predictor) ∧
    tf_dW_LA = ⟨Loss.LA, Player.predictor⟩ := by decide

/-! ### the WHOLE training step (`Model/AdvStep.lean`): all tensors of both players, optimisers as parameters -/

section WholeStep
open AdvStep

/-- example data of this section: predictor with a 2x2 weight and a bias, adversary with one 1x2 weight -/
def exModel : Model Unit Unit := ⟨⟨[[[1, 0], [0, 1]], [[1, 1]]], [(), ()]⟩, ⟨[[[2, 4]]], [()]⟩⟩
/-- dLP/dW, dLA/dW (the bias has dLA/db = 0: the zero branch), dLA/dU -/
def exGrads : Grads := ⟨[[[1, 0], [0, 1]], [[1, 0]]], [[[1, 1], [0, 1]], [[0, 0]]], [[[4, 8]]]⟩

/-- What each optimiser is handed, for ANY pair of optimisers: the predictor's optimiser gets, tensor by tensor, the
    engine's rule applied to (dLP/dW_i, dLA/dW_i); the adversary's optimiser gets dLA/dU_j unchanged. -/
theorem whole_step_feeds_optimisers {τP τA : Type} (eng : Mat → Mat → Rat → Option Mat) (α : Rat)
    (optP : Opt τP) (optA : Opt τA) (m m' : Model τP τA) (g : Grads) (h : step eng α optP optA m g = some m') :
    ∃ gs, combineAll eng α g.dWLP g.dWLA = some gs ∧
      g.dWLP.length = g.dWLA.length ∧
      List.Forall₂ (fun ab G => eng ab.1 ab.2 α = some G) (g.dWLP.zip g.dWLA) gs ∧
      (m'.pred.params, m'.pred.state) = applyOpt optP m.pred.params m.pred.state gs ∧
      (m'.adv.params, m'.adv.state) = applyOpt optA m.adv.params m.adv.state g.dULA := by
  unfold step at h
  split at h
  · cases h
  · next gs hc =>
    cases h
    exact ⟨gs, hc, (combineAll_spec eng α _ _ gs hc).1, (combineAll_spec eng α _ _ gs hc).2, rfl, rfl⟩

/- non-vacuity: the hypothesis `step … = some m'` is met by the example model (alpha = 1, lr 1/2 and 1/4) -/
example : ∃ gs, combineAll torchStep 1 exGrads.dWLP exGrads.dWLA = some gs ∧ exGrads.dWLP.length = exGrads.dWLA.length ∧
    List.Forall₂ (fun ab G => torchStep ab.1 ab.2 1 = some G) (exGrads.dWLP.zip exGrads.dWLA) gs := by
  obtain ⟨m', h⟩ := Option.isSome_iff_exists.mp
    (show (step torchStep 1 (sgd (1/2)) (sgd (1/4)) exModel exGrads).isSome = true by decide +kernel)
  obtain ⟨gs, h1, h2, h3, _⟩ := whole_step_feeds_optimisers torchStep 1 (sgd (1/2)) (sgd (1/4)) exModel m' exGrads h
  exact ⟨gs, h1, h2, h3⟩

/-- With plain SGD the predictor moves exactly along `−lr_P · g_i` (g_i = the engine's combined gradient of tensor i)
    and the adversary along `−lr_A · dLA/dU_j`. -/
theorem whole_step_sgd (eng : Mat → Mat → Rat → Option Mat) (α lrP lrA : Rat) (m m' : Model Unit Unit) (g : Grads)
    (hP : m.pred.state.length = m.pred.params.length) (hA : m.adv.state.length = m.adv.params.length)
    (h : step eng α (sgd lrP) (sgd lrA) m g = some m') :
    ∃ gs, List.Forall₂ (fun ab G => eng ab.1 ab.2 α = some G) (g.dWLP.zip g.dWLA) gs ∧
      m'.pred.params = List.zipWith (fun W G => msub W (msmul lrP G)) m.pred.params gs ∧
      m'.adv.params = List.zipWith (fun U d => msub U (msmul lrA d)) m.adv.params g.dULA := by
  obtain ⟨gs, _, _, hf, h1, h2⟩ := whole_step_feeds_optimisers eng α (sgd lrP) (sgd lrA) m m' g h
  refine ⟨gs, hf, ?_, ?_⟩
  · rw [← applyOpt_sgd lrP _ _ gs hP, ← h1]
  · rw [← applyOpt_sgd lrA _ _ g.dULA hA, ← h2]

/- non-vacuity: all three hypotheses at once; the resulting parameters are non-trivial (see the whole-step example under "non-vacuity" below) -/
example : ∃ m' gs, step torchStep 1 (sgd (1/2)) (sgd (1/4)) exModel exGrads = some m' ∧
    m'.pred.params = List.zipWith (fun W G => msub W (msmul (1/2) G)) exModel.pred.params gs ∧
    m'.adv.params = List.zipWith (fun U d => msub U (msmul (1/4) d)) exModel.adv.params exGrads.dULA := by
  obtain ⟨m', h⟩ := Option.isSome_iff_exists.mp
    (show (step torchStep 1 (sgd (1/2)) (sgd (1/4)) exModel exGrads).isSome = true by decide +kernel)
  obtain ⟨gs, _, h2, h3⟩ := whole_step_sgd torchStep 1 (1/2) (1/4) exModel m' exGrads (by decide) (by decide) h
  exact ⟨m', gs, h, h2, h3⟩

/-- The same, tensor by tensor, in terms of the two single-tensor functions the driver ops `adv.step` and
    `adv.sgd` evaluate (`predictorStep`, `adversaryStep`): every predictor tensor is `predictorStep eng W_i A_i B_i α lr_P`,
    every adversary tensor is `adversaryStep U_j dU_j lr_A`. -/
theorem whole_step_sgd_pointwise (eng : Mat → Mat → Rat → Option Mat) (α lrP lrA : Rat) (m m' : Model Unit Unit) (g : Grads)
    (hP : m.pred.state.length = m.pred.params.length) (hA : m.adv.state.length = m.adv.params.length)
    (h : step eng α (sgd lrP) (sgd lrA) m g = some m') :
    List.Forall₂ (fun (wab : Mat × Mat × Mat) W' => predictorStep eng wab.1 wab.2.1 wab.2.2 α lrP = some W')
      (m.pred.params.zip (g.dWLP.zip g.dWLA)) m'.pred.params ∧
    m'.adv.params = List.zipWith (fun U d => adversaryStep U d lrA) m.adv.params g.dULA := by
  obtain ⟨gs, hf, h1, h2⟩ := whole_step_sgd eng α lrP lrA m m' g hP hA h
  refine ⟨?_, h2⟩
  rw [h1]
  clear h1 h2 h hP hA
  generalize m.pred.params = Ws
  generalize g.dWLP.zip g.dWLA = abs at hf
  induction hf generalizing Ws with
  | nil => cases Ws <;> exact .nil
  | cons hab _ ih =>
    cases Ws with
    | nil => exact .nil
    | cons W Ws =>
      simp only [List.zip_cons_cons, List.zipWith_cons_cons]
      exact List.Forall₂.cons (by rw [predictorStep, hab]; rfl) (ih Ws)

/-- The `zip`s of the model drop nothing: when autograd delivers one gradient per tensor, the
    step keeps the number of tensors (and of optimiser states) of both players. -/
theorem whole_step_keeps_all_tensors {τP τA : Type} (eng : Mat → Mat → Rat → Option Mat) (α : Rat) (optP : Opt τP)
    (optA : Opt τA) (m m' : Model τP τA) (g : Grads) (hP : m.pred.state.length = m.pred.params.length)
    (hA : m.adv.state.length = m.adv.params.length) (hgP : g.dWLP.length = m.pred.params.length)
    (hgU : g.dULA.length = m.adv.params.length) (h : step eng α optP optA m g = some m') :
    m'.pred.params.length = m.pred.params.length ∧ m'.pred.state.length = m.pred.params.length ∧
    m'.adv.params.length = m.adv.params.length ∧ m'.adv.state.length = m.adv.params.length := by
  obtain ⟨gs, hc, _, hf, h1, h2⟩ := whole_step_feeds_optimisers eng α optP optA m m' g h
  have hgs : gs.length = m.pred.params.length := by
    rw [← hf.length_eq, List.length_zip, ← (combineAll_spec eng α _ _ gs hc).1, Nat.min_self, hgP]
  have hp := applyOpt_length optP m.pred.params m.pred.state gs hP hgs
  have ha := applyOpt_length optA m.adv.params m.adv.state g.dULA hA hgU
  rw [← h1] at hp
  rw [← h2] at ha
  exact ⟨hp.1, hp.2, ha.1, ha.2⟩

example : ∃ m', step torchStep 1 (sgd (1/2)) (sgd (1/4)) exModel exGrads = some m' ∧ m'.pred.params.length = 2 ∧
    m'.adv.params.length = 1 := by
  obtain ⟨m', h⟩ := Option.isSome_iff_exists.mp
    (show (step torchStep 1 (sgd (1/2)) (sgd (1/4)) exModel exGrads).isSome = true by decide +kernel)
  have := whole_step_keeps_all_tensors torchStep 1 (sgd (1/2)) (sgd (1/4)) exModel m' exGrads (by decide) (by decide)
    (by decide) (by decide) h
  exact ⟨m', h, this.1, this.2.2.1⟩

/-- ERROR BRANCH: gradient lists of different lengths (cannot happen with autograd: one `.grad` per parameter) give the
    undefined model, not a silently shorter parameter list -/
theorem whole_step_length_mismatch_undefined {τP τA : Type} (eng : Mat → Mat → Rat → Option Mat) (α : Rat)
    (optP : Opt τP) (optA : Opt τA) (m : Model τP τA) (g : Grads) (h : g.dWLP.length ≠ g.dWLA.length) :
    step eng α optP optA m g = none := by
  unfold step
  cases hc : combineAll eng α g.dWLP g.dWLA with
  | none => rfl
  | some gs => exact absurd (combineAll_spec eng α _ _ gs hc).1 h

/-- the PyTorch step (loop body as lifted from the source) is defined for every list of gradient tensors: no NaN model -/
theorem torch_whole_step_defined {τP τA : Type} (α : Rat) (optP : Opt τP) (optA : Opt τA) (m : Model τP τA) (g : Grads)
    (hlen : g.dWLP.length = g.dWLA.length) : (step torchStep α optP optA m g).isSome = true := by
  obtain ⟨gs, hgs, _⟩ := combineAll_total torchStep α (fun A B => torch_step_total A B α) _ _ hlen
  simp [step, hgs]

example : (step torchStep 1 (sgd (1/2)) (sgd (1/4)) exModel exGrads).isSome = true :=
  torch_whole_step_defined 1 (sgd (1/2)) (sgd (1/4)) exModel exGrads (by decide)

/-- direction of one predictor tensor under the PyTorch engine: the documented
    `g = dLP/dW − proj_{dLA/dW}(dLP/dW) − α·dLA/dW` (Frobenius projection), with `g + α·dLA/dW ⟂ dLA/dW`;
    for `dLA/dW = 0` it is `dLP/dW` itself -/
theorem torch_whole_step_direction (A B G : Mat) (α : Rat) (hs : sameShape A B = true) (h : torchStep A B α = some G) :
    (frob B B ≠ 0 → flat G = combine (flat A) (flat B) α ∧
      dot (vadd (flat G) (smul α (flat B))) (flat B) = 0) ∧
    ((∀ r ∈ B, ∀ x ∈ r, x = 0) → G = A) := by
  constructor
  · intro hB
    have e := torch_step_is_combine A B α hs hB
    rw [h] at e
    simp only [Option.map_some, Option.some.injEq] at e
    refine ⟨e, ?_⟩
    rw [e]
    have hb : dot (flat B) (flat B) ≠ 0 := by rwa [← frob_self_eq_dot]
    exact orthogonal (flat A) (flat B) α (sameShape_flat_length hs) hb
  · intro hz
    have := torch_zero_gradient_keeps_dLP A B α hz
    rw [h] at this
    exact Option.some.inj this

/- non-vacuity, non-zero branch (2x2, projection coefficient 2/3) and zero branch (bias with dLA/db = 0) -/
example : flat [[-2/3, -5/3], [0, -2/3]] = combine (flat [[1, 0], [0, 1]]) (flat [[1, 1], [0, 1]]) 1 :=
  ((torch_whole_step_direction [[1, 0], [0, 1]] [[1, 1], [0, 1]] [[-2/3, -5/3], [0, -2/3]] 1 (by decide +kernel)
    (by decide +kernel)).1 (by decide +kernel)).1
example : ([[1, 0]] : Mat) = [[1, 0]] :=
  (torch_whole_step_direction [[1, 0]] [[0, 0]] [[1, 0]] 1 (by decide +kernel) (by decide +kernel)).2 (by decide +kernel)

end WholeStep

/-! ### the statement structure of `train_step`, LIFTED (`Generated/AdvTrainStepSrc.lean`, harness/lifters/adv_trainstep.py) -/

section TrainStepStructure
open TrainStepL AdvTrainStepSrc

/-- Whatever the `.grad` buffers held before the step (coefficient `stale`), after the statements of `train_step` in
    their source order: the first copy is exactly dLP/dW, the second exactly dLA/dW (the buffers are cleared between the
    two backward passes, nothing accumulates), the predictor's optimiser applies the combine rule to (dLP/dW, dLA/dW) and
    the adversary's optimiser applies exactly dLA/dU — the plain gradient of its own loss. -/
theorem lifted_train_step_gradients :
    lifted.ok = true ∧ lifted.snapLP = some ⟨1, 0, 0⟩ ∧ lifted.snapLA = some ⟨0, 1, 0⟩ ∧
    lifted.appliedP = some (.comb ⟨1, 0, 0⟩ ⟨0, 1, 0⟩) ∧ lifted.appliedA = some ⟨0, 1, 0⟩ := by decide

/-- The arguments of the bookkeeping calls are pinned by the lifter (`zero_grad` / `train` / `step`: nothing that changes a
    gradient; `backward`: only `retain_graph=<literal>`, lifted as `retainsGraph`; `inputs=` / `gradient=` are REFUSED).
    What remains to be checked about `retain_graph`: LP's backward pass keeps the predictor's forward graph, which LA's
    backward pass walks again (LA reaches the predictor through the undetached `Y_hat`) -- no pass meets a freed graph. -/
theorem lifted_backward_graph_alive : liftedGraphOk = true ∧ retainsGraph .LP = true := by decide

/-- regression witness: without `retain_graph=True` on the first backward pass the second one raises -/
theorem dropped_retain_graph_raises : graphOk dependsOn (fun _ => false) events [] = false := by decide

/-- ... and the flag is only needed because LA depends on the predictor: with a detached adversary input
    (`dependsOn .LA = [.adversary]`) nothing is walked twice -/
theorem retain_graph_needed_only_through_yhat :
    graphOk (fun l => match l with | .LP => [.predictor] | .LA => [.adversary]) (fun _ => false) events [] = true := by decide

/-- the data flow of `train_step`: LP reaches only the predictor's parameters, LA reaches both players' -/
theorem lifted_loss_dependencies : dependsOn .LP = [.predictor] ∧ dependsOn .LA = [.predictor, .adversary] := by decide

/-- why the clearing between the backward passes matters: without the two `zero_grad` calls in the middle the second
    copy would be dLP/dW + dLA/dW (regression witness for a dropped `zero_grad`) -/
theorem accumulation_without_clearing :
    (run dependsOn [.zeroGrad .predictor, .zeroGrad .adversary, .backward .LP, .snapshot .dW_LP, .backward .LA,
      .snapshot .dW_LA, .combine, .step .predictor, .step .adversary] init).appliedP
      = some (.comb ⟨1, 0, 0⟩ ⟨1, 1, 0⟩) := by decide

/-- … and without the clearing at the start the adversary would apply stale gradients of the previous step as well -/
theorem stale_without_initial_clearing :
    (run dependsOn [.zeroGrad .predictor, .backward .LP, .snapshot .dW_LP, .zeroGrad .predictor, .backward .LA,
      .snapshot .dW_LA, .combine, .step .predictor, .step .adversary] init).appliedA = some ⟨0, 1, 1⟩ := by decide

/-- demographic parity vs equalized odds, as lifted: `pass_y_` is set exactly for "equalized_odds" (any other keyword is
    rejected); the adversary is fed the predictor's (undetached) output, followed by the encoded target `y` exactly when
    `pass_y_`; and the adversary model is built with the matching input width. -/
theorem lifted_adversary_sees_y_iff_equalized_odds :
    passY "demographic_parity" = some false ∧ passY "equalized_odds" = some true ∧
    adversaryInput false = [.yhat] ∧ adversaryInput true = [.yhat, .y] ∧
    (∀ ny p, adversaryInputWidth ny p = ny * (adversaryInput p).length) := by
  refine ⟨by decide +kernel, by decide +kernel, rfl, rfl, fun ny p => ?_⟩
  cases p <;> rfl

/-- the bridge between the two halves of the tie. `AdvR2.stepFromBookkeeping ts` is the whole training step
    DICTATED by a bookkeeping result `ts` (which buffers each optimiser applies, read as lists of autograd gradients);
    at the bookkeeping LIFTED from the statement list of `train_step` it is exactly `AdvStep.step` — the function the
    driver ops `advstep.step` / `advstep.fit` evaluate and `whole_step_*` talk about — for every engine rule, optimisers,
    model and gradients.  A source edit that changes what an optimiser is handed changes `lifted` and breaks this proof. -/
theorem step_eq_stepFromBookkeeping_lifted {τP τA : Type} (eng : Adversarial.Mat → Adversarial.Mat → Rat → Option Adversarial.Mat)
    (α : Rat) (optP : AdvStep.Opt τP) (optA : AdvStep.Opt τA) (m : AdvStep.Model τP τA) (g : AdvStep.Grads) :
    AdvR2.stepFromBookkeeping lifted eng α optP optA m g = AdvStep.step eng α optP optA m g := by
  obtain ⟨h1, _, _, h4, h5⟩ := lifted_train_step_gradients
  exact AdvR2.stepFromBookkeeping_documented lifted h1 h4 h5 eng α optP optA m g

/-- … whereas the statement list WITHOUT the clearing between the two backward passes dictates no documented step at all -/
theorem dropped_clearing_dictates_no_step {τP τA : Type} (eng : Adversarial.Mat → Adversarial.Mat → Rat → Option Adversarial.Mat)
    (α : Rat) (optP : AdvStep.Opt τP) (optA : AdvStep.Opt τA) (m : AdvStep.Model τP τA) (g : AdvStep.Grads) :
    AdvR2.stepFromBookkeeping (run dependsOn [.zeroGrad .predictor, .zeroGrad .adversary, .backward .LP, .snapshot .dW_LP,
      .backward .LA, .snapshot .dW_LA, .combine, .step .predictor, .step .adversary] init) eng α optP optA m g = none :=
  AdvR2.stepFromBookkeeping_accumulated _ accumulation_without_clearing eng α optP optA m g

end TrainStepStructure

/-! ### why single-row tests cannot see F4 -/

/-- for single-row tensors (bias vectors, 1×c weights) `torch.sum(torch.inner(U, A))` IS the Frobenius product -/
theorem sumInner_eq_frobenius_single_row (U A : Mat) (hU : U.length = 1) (hA : A.length = 1) :
    sumInner U A = frob U A := by
  match U, A, hU, hA with
  | [u], [a], _, _ => simp [sumInner_single]

example : sumInner [[1, 2, 3]] [[4, 5, 6]] = frob [[1, 2, 3]] [[4, 5, 6]] :=
  sumInner_eq_frobenius_single_row _ _ (by decide) (by decide)
example : frob [[1, 2, 3]] [[4, 5, 6]] = 32 := by decide +kernel

/-- ... but not for several rows: a 2×2 witness -/
theorem sumInner_ne_frobenius_two_rows :
    sumInner [[1, 0], [0, 1]] [[0, 1], [1, 0]] ≠ frob [[1, 0], [0, 1]] [[0, 1], [1, 0]] := by decide +kernel

/-- regression witness of F4: with the sum-of-all-row-pairs product the update is NOT orthogonal to dLA/dW -/
theorem sumInner_update_not_orthogonal :
    ∃ A B G : Mat, ∃ α : Rat, sameShape A B = true ∧ engineGrad .sumInner .float32 A B α = some G ∧
      frob (madd G (msmul α B)) B ≠ 0 :=
  ⟨[[1, 0], [0, 1]], [[1, 1], [0, 1]], [[-1, -2], [0, -1]], 1, by decide +kernel, by decide +kernel, by decide +kernel⟩

/-! ### optimiser steps: what the harness observes recovers the applied gradient -/

/-- plain SGD: `(W_before - W_after)/lr` is the gradient that was applied -/
theorem observed_recovers_gradient (W g : Vec) (lr : Rat) (h : W.length = g.length) (hlr : lr ≠ 0) :
    observed W (sgdStep W g lr) lr = g := by
  induction W, g, h using List.ind₂ with
  | nil => rfl
  | cons x xs y ys _ ih =>
    refine congrArg₂ List.cons ?_ ih
    field_simp
    ring

example : observed [1, 2] (sgdStep [1, 2] [4, 8] (1/4)) (1/4) = [4, 8] :=
  observed_recovers_gradient [1, 2] [4, 8] (1/4) (by decide) (by decide +kernel)

/-- the adversary's parameters follow the plain gradient of its own loss LA -/
theorem adversary_plain_gradient (U dU : Mat) (lr : Rat) (h : sameShape U dU = true) (hlr : lr ≠ 0) :
    flat (adversaryStep U dU lr) = sgdStep (flat U) (flat dU) lr ∧
    observed (flat U) (flat (adversaryStep U dU lr)) lr = flat dU := by
  have e : flat (adversaryStep U dU lr) = sgdStep (flat U) (flat dU) lr := by
    unfold adversaryStep sgdStep
    rw [flat_msub (sameShape_msmul_right lr h), flat_msmul]
  exact ⟨e, by rw [e]; exact observed_recovers_gradient _ _ lr (sameShape_flat_length h) hlr⟩

/- non-vacuity: a 2x2 adversary tensor, lr = 1/4 -/
example : flat (adversaryStep [[2, 4], [1, 0]] [[4, 8], [0, 4]] (1/4)) = sgdStep [2, 4, 1, 0] [4, 8, 0, 4] (1/4) ∧
    observed [2, 4, 1, 0] (flat (adversaryStep [[2, 4], [1, 0]] [[4, 8], [0, 4]] (1/4))) (1/4) = [4, 8, 0, 4] :=
  adversary_plain_gradient [[2, 4], [1, 0]] [[4, 8], [0, 4]] (1/4) (by decide +kernel) (by decide +kernel)
example : adversaryStep [[2, 4], [1, 0]] [[4, 8], [0, 4]] (1/4) = [[1, 2], [1, -1]] := by decide +kernel

/-- the predictor's parameters move along the combined gradient -/
theorem predictor_follows_combined (eng : Mat → Mat → Rat → Option Mat) (W A B G : Mat) (α lr : Rat)
    (hG : eng A B α = some G) (h : sameShape W G = true) (hlr : lr ≠ 0) :
    ∃ W', predictorStep eng W A B α lr = some W' ∧ observed (flat W) (flat W') lr = flat G := by
  refine ⟨msub W (msmul lr G), by simp [predictorStep, hG], ?_⟩
  rw [flat_msub (sameShape_msmul_right lr h), flat_msmul]
  exact observed_recovers_gradient _ _ lr (sameShape_flat_length h) hlr

/- non-vacuity: the PyTorch engine on the 2x2 pair, lr = 1/2: all three hypotheses at once -/
example : ∃ W', predictorStep torchStep [[1, 0], [0, 1]] [[1, 0], [0, 1]] [[1, 1], [0, 1]] 1 (1/2) = some W' ∧
    observed (flat [[1, 0], [0, 1]]) (flat W') (1/2) = flat [[-2/3, -5/3], [0, -2/3]] :=
  predictor_follows_combined torchStep [[1, 0], [0, 1]] [[1, 0], [0, 1]] [[1, 1], [0, 1]] [[-2/3, -5/3], [0, -2/3]] 1 (1/2)
    (by decide +kernel) (by decide +kernel) (by decide +kernel)

/-! ### non-vacuity -/
example : dot [1, 2] [1, 2] ≠ 0 := by decide +kernel
example : combine [3, 1] [1, 2] (1/2) = [3/2, -2] := by decide +kernel
example : dot (vadd (combine [3, 1] [1, 2] (1/2)) (smul (1/2) [1, 2])) [1, 2] = 0 := by decide +kernel
example : sameShape [[1, 0], [0, 1]] [[1, 1], [0, 1]] = true ∧ frob [[1, 1], [0, 1]] [[1, 1], [0, 1]] ≠ 0 := by
  decide +kernel
example : torchStep [[1, 0], [0, 1]] [[1, 1], [0, 1]] 1 = some [[-2/3, -5/3], [0, -2/3]] := by decide +kernel
example : engineGrad .sumInner .float32 [[1, 0], [0, 1]] [[1, 1], [0, 1]] 1 = some [[-1, -2], [0, -1]] := by
  decide +kernel
example : engineGrad .frobenius .float64 [[1]] [[0]] 1 = none := by decide +kernel
example : (2 : Rat) * 2 = frob [[2, 0], [0, 0]] [[2, 0], [0, 0]] := by decide +kernel
example : observed [1, 2] (sgdStep [1, 2] [4, 8] (1/4)) (1/4) = [4, 8] := by decide +kernel
-- the optimiser is a parameter: two steps of SGD with momentum 1/2 on one 1x1 tensor (gradient 1 both times, lr 1):
-- buf = 1, then 1/2 + 1 = 3/2; W = 0 - 1 - 3/2
example : ((AdvStep.step torchStep 0 (AdvStep.sgdMomentum 1 (1/2)) (AdvStep.sgd 1)
      ⟨⟨[[[0]]], [none]⟩, ⟨[], []⟩⟩ ⟨[[[1]]], [[[0]]], []⟩).bind
    (fun m => AdvStep.step torchStep 0 (AdvStep.sgdMomentum 1 (1/2)) (AdvStep.sgd 1) m ⟨[[[1]]], [[[0]]], []⟩)).map
    (fun m => m.pred.params) = some [[[-5/2]]] := by decide +kernel
-- one whole step: predictor with a 2x2 weight and a bias, adversary with one 1x2 weight; alpha = 1, lr 1/2 and 1/4
example : (AdvStep.step torchStep 1 (AdvStep.sgd (1/2)) (AdvStep.sgd (1/4))
    ⟨⟨[[[1, 0], [0, 1]], [[1, 1]]], [(), ()]⟩, ⟨[[[2, 4]]], [()]⟩⟩
    ⟨[[[1, 0], [0, 1]], [[1, 0]]], [[[1, 1], [0, 1]], [[0, 0]]], [[[4, 8]]]⟩).map (fun m => (m.pred.params, m.adv.params)) =
    some ([[[4/3, 5/6], [0, 4/3]], [[1/2, 1]]], [[[1, 2]]]) := by decide +kernel

/-! ### α re-scheduled between steps (an engine that caches `alpha` at construction violates these) -/

section AlphaSchedule
open AdvStep Adversarial

theorem runSched_none {τP τA : Type} (eng : Mat → Mat → Rat → Option Mat) (optP : Opt τP) (optA : Opt τA)
    (s : List (Rat × Grads)) : runSched eng optP optA (none : Option (Model τP τA)) s = none := by
  cases s <;> rfl

/-- schedules compose: running `s₁ ++ s₂` is running `s₂` from the result of `s₁` -/
theorem runSched_append {τP τA : Type} (eng : Mat → Mat → Rat → Option Mat) (optP : Opt τP) (optA : Opt τA)
    (m : Option (Model τP τA)) (s₁ s₂ : List (Rat × Grads)) :
    runSched eng optP optA m (s₁ ++ s₂) = runSched eng optP optA (runSched eng optP optA m s₁) s₂ := by
  induction s₁ generalizing m with
  | nil => cases m <;> cases s₂ <;> rfl
  | cons x xs ih =>
    cases m with
    | none => simp [runSched, runSched_none]
    | some m => obtain ⟨α, g⟩ := x; simp only [List.cons_append, runSched]; exact ih _

/-- **Every step of a run uses the α in force at THAT step**: if the run succeeds, the `k`-th step is `step eng αₖ`
    applied to the model the first `k` steps produced — whatever α the earlier steps (or the constructor) had. -/
theorem runSched_step_uses_own_alpha {τP τA : Type} (eng : Mat → Mat → Rat → Option Mat) (optP : Opt τP) (optA : Opt τA)
    (m : Model τP τA) (pre : List (Rat × Grads)) (α : Rat) (g : Grads) (post : List (Rat × Grads))
    (mk : Model τP τA) (hk : runSched eng optP optA (some m) pre = some mk) :
    runSched eng optP optA (some m) (pre ++ (α, g) :: post)
      = runSched eng optP optA (step eng α optP optA mk g) post := by
  rw [runSched_append, hk]; rfl

/-- a constant schedule is the fold of the constant-α step (the whole-`fit` model of `advstep.fit`) -/
theorem runSched_const {τP τA : Type} (eng : Mat → Mat → Rat → Option Mat) (optP : Opt τP) (optA : Opt τA) (α : Rat)
    (m : Option (Model τP τA)) (gs : List Grads) :
    runSched eng optP optA m (gs.map (fun g => (α, g)))
      = gs.foldl (fun acc g => acc.bind (fun mm => step eng α optP optA mm g)) m := by
  induction gs generalizing m with
  | nil => cases m <;> rfl
  | cons g gs ih =>
    cases m with
    | none =>
      simp only [List.map_cons, runSched, List.foldl_cons, Option.bind_none]
      rw [← ih]; exact (runSched_none eng optP optA _).symm
    | some mm => simp only [List.map_cons, runSched, List.foldl_cons, Option.bind_some]; exact ih _

/-- non-vacuity: a two-step run whose second step has another α than the first (1×1 tensors, plain SGD) succeeds, and
    ends elsewhere than the run that keeps the first α — the schedule is observable -/
example : (runSched torchStep (sgd (1/2)) (sgd (1/4)) (some ⟨⟨[[[1]]], [()]⟩, ⟨[[[1]]], [()]⟩⟩)
      [(0, ⟨[[[1]]], [[[2]]], [[[1]]]⟩), (1, ⟨[[[1]]], [[[2]]], [[[1]]]⟩)]).map (fun m => (m.pred.params, m.adv.params))
      = some ([[[2]]], [[[1/2]]]) ∧
    (runSched torchStep (sgd (1/2)) (sgd (1/4)) (some ⟨⟨[[[1]]], [()]⟩, ⟨[[[1]]], [()]⟩⟩)
      [(0, ⟨[[[1]]], [[[2]]], [[[1]]]⟩), (0, ⟨[[[1]]], [[[2]]], [[[1]]]⟩)]).map (fun m => (m.pred.params, m.adv.params))
      = some ([[[1]]], [[[1/2]]]) := by decide +kernel

end AlphaSchedule

end C16
