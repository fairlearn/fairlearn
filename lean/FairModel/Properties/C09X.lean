/-
C09X — composition theorems about GridSearch.
 * C09 ↔ C06: what the selection rule (`selection_rule="tradeoff_optimization"`) guarantees about the SELECTED
   predictor: first for the rule alone, over bare (objective, gamma) triples `Pred`; then for the value `Grid.select` /
   `Grid.fitLoop` return, composed with C06X into bounds on the named metric of the returned predictor;
 * C09 ↔ C07: each grid point's predictor minimises the REAL Lagrangian `error + λ·γ` (needs `Properties/C07`);
 * the BoundedGroupLoss (regression) branch of the loop.

`GridSearch.fit` computes for every trained predictor `k` the loss
`(1 − constraint_weight)·objective_k + constraint_weight·max(gamma(h_k))` (`Grid.tradeoff`; note: the maximum of
the raw gamma entries, the bound is NOT subtracted) and returns the first index of the minimum
(`Grid.argminFirst`).  A trained predictor is `(objective, gamma_0, other gamma entries)`, gamma non-empty.
-/
import FairModel.Properties.C09
import FairModel.Properties.C06X
import FairModel.Properties.C07

namespace C09
open Grid

/-- one trained predictor: objective value and its (non-empty) gamma vector -/
abbrev Pred := Rat × Rat × List Rat

def Pred.gam (p : Pred) : List Rat := p.2.1 :: p.2.2
def Pred.maxGamma (p : Pred) : Rat := maxL p.2.1 p.2.2
def lossOf (cw : Rat) (p : Pred) : Rat := (1 - cw) * p.1 + cw * p.maxGamma

/-- `lossOf` is `Grid.tradeoff` (the model of `loss_fct`) on that predictor, and the list `fit` minimises over is
    the one the driver op `grid.select` builds -/
theorem lossOf_eq_tradeoff (cw : Rat) (preds : List Pred) :
    (∀ p : Pred, tradeoff cw p.1 p.gam = some (lossOf cw p)) ∧
    allSome (List.zipWith (tradeoff cw) (preds.map (·.1)) (preds.map Pred.gam)) = some (preds.map (lossOf cw)) := by
  refine ⟨fun p => rfl, ?_⟩
  induction preds with
  | nil => rfl
  | cons p ps ih =>
    simp only [List.map_cons, List.zipWith_cons_cons]
    have : tradeoff cw p.1 p.gam = some (lossOf cw p) := rfl
    rw [this]
    simp only [allSome, ih, Option.map_some]

/-- every gamma entry is at most the predictor's `max(gamma)`, and the maximum is one of the entries -/
theorem maxGamma_spec (p : Pred) : p.maxGamma ∈ p.gam ∧ ∀ y ∈ p.gam, y ≤ p.maxGamma :=
  maxL_spec p.2.1 p.2.2

/-- **the selected predictor minimises the trade-off**: its loss is at most that of every trained predictor
    (and strictly smaller than that of every earlier one) -/
theorem selected_minimises_tradeoff (cw : Rat) (preds : List Pred) (i : Nat)
    (hi : argminFirst (preds.map (lossOf cw)) = some i) :
    ∃ hi' : i < preds.length, (∀ p ∈ preds, lossOf cw preds[i] ≤ lossOf cw p) ∧
      ∀ (j : Nat) (hj : j < i), lossOf cw preds[i] < lossOf cw (preds[j]'(by omega)) := by
  obtain ⟨h1, h2, h3⟩ := argminFirst_spec _ i hi
  rw [List.length_map] at h1
  refine ⟨h1, fun p hp => ?_, fun j hj => ?_⟩
  · have := h2 (lossOf cw p) (List.mem_map.mpr ⟨p, hp, rfl⟩)
    rwa [List.getElem_map] at this
  · have := h3 j hj
    rwa [List.getElem_map, List.getElem_map] at this

/-- **constraint_weight = 1: the selected predictor has the smallest maximal gamma entry** among the trained ones -/
theorem selected_min_max_gamma (preds : List Pred) (i : Nat)
    (hi : argminFirst (preds.map (lossOf 1)) = some i) :
    ∃ hi' : i < preds.length, ∀ p ∈ preds, preds[i].maxGamma ≤ p.maxGamma := by
  obtain ⟨hlen, h, _⟩ := selected_minimises_tradeoff 1 preds i hi
  refine ⟨hlen, fun p hp => ?_⟩
  have := h p hp
  rwa [lossOf, lossOf, sub_self, zero_mul, zero_mul, zero_add, zero_add, one_mul, one_mul] at this

/-- … hence if SOME trained predictor satisfies `gamma ≤ eps` entrywise, so does the selected one -/
theorem selected_satisfies_of_some_satisfies (preds : List Pred) (i : Nat) (eps : Rat)
    (hi : argminFirst (preds.map (lossOf 1)) = some i)
    (hk : ∃ p ∈ preds, ∀ y ∈ p.gam, y ≤ eps) :
    ∃ hi' : i < preds.length, ∀ y ∈ preds[i].gam, y ≤ eps := by
  obtain ⟨hlen, h⟩ := selected_min_max_gamma preds i hi
  obtain ⟨p, hp, hpe⟩ := hk
  refine ⟨hlen, fun y hy => ?_⟩
  exact ((maxGamma_spec preds[i]).2 y hy).trans ((h p hp).trans (hpe _ (maxGamma_spec p).1))

theorem maxGamma_le_of_loss_le {cw o o' M M' : Rat} (hcw : 0 < cw)
    (h : (1 - cw) * o + cw * M ≤ (1 - cw) * o' + cw * M') :
    M ≤ M' + (1 - cw) / cw * (o' - o) := by
  refine le_of_mul_le_mul_left ?_ hcw
  rw [mul_add, ← mul_assoc, mul_div_cancel₀ _ hcw.ne', mul_sub, ← add_sub_assoc, add_comm (cw * M')]
  exact le_sub_iff_add_le'.mpr h

theorem maxGamma_le_of_loss_le_one {cw o o' M M' : Rat} (hcw : 0 < cw) (hcw1 : cw ≤ 1) (ho : o' - o ≤ 1)
    (h : (1 - cw) * o + cw * M ≤ (1 - cw) * o' + cw * M') :
    M ≤ M' + (1 - cw) / cw :=
  (maxGamma_le_of_loss_le hcw h).trans
    (add_le_add_right (mul_le_of_le_one_right (div_nonneg (sub_nonneg.mpr hcw1) hcw.le) ho) _)

/-- general `constraint_weight ∈ (0, 1]`, objectives in [0,1] (error rates): the selected predictor's maximal gamma
    entry exceeds that of any trained predictor `p` by at most `(1 − cw)/cw · (objective_p − objective_selected)`,
    in particular by at most `(1 − cw)/cw` -/
theorem selected_max_gamma_le (cw : Rat) (hcw : 0 < cw) (hcw1 : cw ≤ 1) (preds : List Pred) (i : Nat)
    (hi : argminFirst (preds.map (lossOf cw)) = some i)
    (hobj : ∀ p ∈ preds, 0 ≤ p.1 ∧ p.1 ≤ 1) :
    ∃ hi' : i < preds.length, ∀ p ∈ preds,
      preds[i].maxGamma ≤ p.maxGamma + (1 - cw) / cw * (p.1 - preds[i].1) ∧
      preds[i].maxGamma ≤ p.maxGamma + (1 - cw) / cw := by
  obtain ⟨hlen, h, _⟩ := selected_minimises_tradeoff cw preds i hi
  exact ⟨hlen, fun p hp => ⟨maxGamma_le_of_loss_le hcw (h p hp), maxGamma_le_of_loss_le_one hcw hcw1
    ((sub_le_sub (hobj p hp).2 (hobj _ (List.getElem_mem hlen)).1).trans_eq (sub_zero 1)) (h p hp)⟩⟩

/-! ### tied to a moment: the gamma vectors are `Moments.gamma` of the trained predictors -/

open Moments Cross in
/-- the trained predictor `k` of a GridSearch over moment `(ev, rows, ratio, ut)`: objective `obj k`, gamma vector
    `Moments.gamma … (H k)` (needs a non-empty constraint index) -/
def momentPred (ev : Ev) (rows : List Row) (ratio : Rat) (ut : Util) (obj : Nat → Rat) (H : Nat → List Rat)
    (k : Nat) : Option Pred :=
  match gamma ev rows ratio ut (H k) with
  | [] => none
  | g :: gs => some (obj k, g, gs)

open Moments Cross in
/-- **GridSearch(constraint_weight = 1) selects a constraint-satisfying predictor whenever the grid contains one**:
    then every bound of C06X (`dp_difference_le_of_constraint`, `eodds_difference_le_of_constraint`, …) applies to
    the selected hard predictor `H i` -/
theorem grid_selected_gammaLe (ev : Ev) (rows : List Row) (ratio : Rat) (ut : Util) (obj : Nat → Rat)
    (H : Nat → List Rat) (n : Nat) (preds : List Pred) (i : Nat) (eps : Rat)
    (hp : ∀ k < n, ∃ hk : k < preds.length, momentPred ev rows ratio ut obj H k = some preds[k])
    (hn : preds.length = n)
    (hi : argminFirst (preds.map (lossOf 1)) = some i)
    (hk : ∃ k < n, GammaLe ev rows ratio ut (H k) eps) :
    i < n ∧ GammaLe ev rows ratio ut (H i) eps := by
  have hgam : ∀ k (hk : k < n) (hk' : k < preds.length), preds[k].gam = gamma ev rows ratio ut (H k) := by
    intro k hk hk'
    obtain ⟨_, h⟩ := hp k hk
    unfold momentPred at h
    split at h
    · cases h
    · next g gs heq =>
      injection h with h
      rw [← h, heq]; rfl
  obtain ⟨k, hkn, hkg⟩ := hk
  have hk' : k < preds.length := hn ▸ hkn
  obtain ⟨hlen, hsel⟩ := selected_satisfies_of_some_satisfies preds i eps hi
    ⟨preds[k], List.getElem_mem hk', by rw [hgam k hkn hk']; exact (gammaLe_iff_mem ..).mp hkg⟩
  exact ⟨hn ▸ hlen, (gammaLe_iff_mem ..).mpr (by rw [← hgam i (hn ▸ hlen) hlen]; exact hsel)⟩

/-! ### non-vacuity -/

def xPreds : List Pred := [(1/10, 3/10, [-3/10]), (1/4, 1/20, [-1/20]), (2/5, 0, [0]), (1/4, 1/20, [-1/20])]

example : argminFirst (xPreds.map (lossOf 1)) = some 2 := by decide +kernel
example : argminFirst (xPreds.map (lossOf (1/2))) = some 1 := by decide +kernel
example : argminFirst (xPreds.map (lossOf 0)) = some 0 := by decide +kernel
example : ∃ p ∈ xPreds, ∀ y ∈ p.gam, y ≤ (1/20 : Rat) := ⟨(1/4, 1/20, [-1/20]), by decide +kernel, by decide +kernel⟩
example : ∀ p ∈ xPreds, (0 : Rat) ≤ p.1 ∧ p.1 ≤ 1 := by decide +kernel
example : momentPred (Moments.eventOf .dp) C06.xRows 1 Moments.defaultUtil (fun _ => 1/4) (fun _ => C06.xH) 0
    = some (1/4, 1/4, [-1/4, -1/4, 1/4]) := by decide +kernel

/-! ## GridSearch END TO END — from the output of `Grid.select` / `Grid.fitLoop` to the named metric

`fit_spec` (C09) describes `best_idx_`; C06X turns "gamma ≤ eps" into bounds on the user-facing metric.  The theorems
below compose them into ONE statement about the value `fitLoop` returns, for any `constraint_weight ∈ (0, 1]`. -/

/-- **`Grid.select`, any `constraint_weight ∈ (0,1]`, objectives in [0,1]**: if SOME record has all gamma entries
    `≤ eps`, every gamma entry of the SELECTED record is `≤ eps + (1 − cw)/cw` (`= eps` for `cw = 1`) -/
theorem select_gamma_le (cw : Rat) (hcw : 0 < cw) (hcw1 : cw ≤ 1) (recs : List (Rat × List Rat)) (i : Nat)
    (h : select cw recs = some i) (hobj : ∀ r ∈ recs, 0 ≤ r.1 ∧ r.1 ≤ 1) (eps : Rat)
    (hk : ∃ r ∈ recs, ∀ y ∈ r.2, y ≤ eps) :
    ∃ hi : i < recs.length, ∀ y ∈ recs[i].2, y ≤ eps + (1 - cw) / cw := by
  obtain ⟨losses, hmap, hi, hmin, _⟩ := select_spec cw recs i h
  have hlen : recs.length = losses.length := by
    rw [← List.length_map (f := fun r => tradeoff cw r.1 r.2), hmap, List.length_map]
  have hrec : ∀ k (hk1 : k < recs.length) (hk2 : k < losses.length), ∃ M,
      losses[k] = (1 - cw) * recs[k].1 + cw * M ∧ M ∈ recs[k].2 ∧ ∀ y ∈ recs[k].2, y ≤ M := by
    intro k hk1 hk2
    have h1 := List.getElem_of_eq hmap (by rw [List.length_map]; exact hk1)
    rw [List.getElem_map, List.getElem_map] at h1
    cases hg : recs[k].2 with
    | nil => rw [hg] at h1; cases h1
    | cons g gs =>
      rw [hg, tradeoff_cons] at h1
      exact ⟨maxL g gs, (Option.some.inj h1).symm, maxL_spec g gs⟩
  have hi' : i < recs.length := hlen ▸ hi
  obtain ⟨r, hr, hre⟩ := hk
  obtain ⟨k, hk1, rfl⟩ := List.getElem_of_mem hr
  have hk2 : k < losses.length := hlen ▸ hk1
  obtain ⟨Mk, hlk, hMk, _⟩ := hrec k hk1 hk2
  obtain ⟨Mi, hli, _, hMi⟩ := hrec i hi' hi
  have hle := hmin _ (List.getElem_mem hk2)
  rw [hlk, hli] at hle
  have := maxGamma_le_of_loss_le_one hcw hcw1
    ((sub_le_sub (hobj _ (List.getElem_mem hk1)).2 (hobj _ (List.getElem_mem hi')).1).trans_eq (sub_zero 1)) hle
  exact ⟨hi', fun y hy => (hMi y hy).trans (this.trans (add_le_add_left (hre _ hMk) _))⟩

theorem toRat_length (p : List Nat) : (toRat p).length = p.length := by simp [toRat]

open Moments Cross in
/-- **GridSearch.fit, end to end (constraint level)**: run the loop of `GridSearch.fit` (`Grid.fitLoop`: any grid, any
    base learner, any objective with values in [0,1]) with `constraints.gamma` = the gamma of a `UtilityParity` moment
    `(ev, rows, ratio, ut)`.  If SOME trained predictor satisfies `gamma ≤ eps`, the predictor `predict` delegates to
    (`out.preds[out.best]`) satisfies `gamma ≤ eps + (1 − cw)/cw`; with `constraint_weight = 1`: `gamma ≤ eps` -/
theorem fit_selected_gammaLe (ev : Ev) (rows : List Row) (ratio : Rat) (ut : Util)
    (span : Bool) (cwOf : List Rat → List Rat) (ow : List Rat) (learner : List (Nat × Rat) → List Nat)
    (objOf : List Nat → Rat) (cw : Rat) (grid : List (List Rat)) (out : FitOut) (eps : Rat)
    (hcw : 0 < cw) (hcw1 : cw ≤ 1)
    (hfit : fitLoop span cwOf ow learner objOf (fun p => gamma ev rows ratio ut (toRat p)) cw grid = some out)
    (hobj : ∀ p ∈ out.preds, 0 ≤ objOf p ∧ objOf p ≤ 1)
    (hsome : ∃ p ∈ out.preds, GammaLe ev rows ratio ut (toRat p) eps) :
    ∃ hb : out.best < out.preds.length,
      GammaLe ev rows ratio ut (toRat out.preds[out.best]) (eps + (1 - cw) / cw) := by
  simp only [fitLoop, Option.map_eq_some_iff] at hfit
  obtain ⟨b, hsel, rfl⟩ := hfit
  simp only at hobj hsome ⊢
  obtain ⟨p, hp, hpe⟩ := hsome
  obtain ⟨hi, hle⟩ := select_gamma_le cw hcw hcw1 _ b hsel
    (by
      intro r hr
      obtain ⟨q, hq, rfl⟩ := List.mem_map.mp hr
      exact hobj q hq)
    eps ⟨_, List.mem_map.mpr ⟨p, hp, rfl⟩, (gammaLe_iff_mem ev rows ratio ut _ eps).mp hpe⟩
  rw [List.length_map] at hi
  rw [List.getElem_map] at hle
  exact ⟨hi, (gammaLe_iff_mem ev rows ratio ut _ _).mpr hle⟩

open Moments Cross Fairness in
/-- **GridSearch(DemographicParity) end to end**: the demographic-parity difference (as `fairlearn.metrics` reports
    it, on the rows of event `e`: all rows / one control stratum) of the predictor GridSearch RETURNS is at most
    `eps + (1 − cw)/cw` to the overall rate and twice that between groups, as soon as some grid point yields a
    predictor satisfying the constraint with slack `eps` -/
theorem gridsearch_dp_end_to_end (ev : Ev) (rows : List Row) (e : String)
    (span : Bool) (cwOf : List Rat → List Rat) (ow : List Rat) (learner : List (Nat × Rat) → List Nat)
    (objOf : List Nat → Rat) (cw : Rat) (grid : List (List Rat)) (out : FitOut) (eps : Rat)
    (hcw : 0 < cw) (hcw1 : cw ≤ 1)
    (hfit : fitLoop span cwOf ow learner objOf (fun p => gamma ev rows 1 defaultUtil (toRat p)) cw grid = some out)
    (hobj : ∀ p ∈ out.preds, 0 ≤ objOf p ∧ objOf p ≤ 1)
    (hshape : ∀ p ∈ out.preds, p.length = rows.length ∧ ∀ x ∈ p, x = 0 ∨ x = 1)
    (hsome : ∃ p ∈ out.preds, GammaLe ev rows 1 defaultUtil (toRat p) eps)
    (hne : ∃ g, Observed ev rows e g) :
    ∃ hb : out.best < out.preds.length,
      (∃ D, named "demographic_parity_difference" .toOverall 1 (toFrame (inE ev e) rows (toRat out.preds[out.best]))
          = some (.value (XR.fin D)) ∧ 0 ≤ D ∧ D ≤ eps + (1 - cw) / cw) ∧
      (∃ D, named "demographic_parity_difference" .between 1 (toFrame (inE ev e) rows (toRat out.preds[out.best]))
          = some (.value (XR.fin D)) ∧ 0 ≤ D ∧ D ≤ 2 * (eps + (1 - cw) / cw)) := by
  obtain ⟨hb, hg⟩ := fit_selected_gammaLe ev rows 1 defaultUtil span cwOf ow learner objOf cw grid out eps hcw hcw1
    hfit hobj hsome
  obtain ⟨hl, h01⟩ := hshape _ (List.getElem_mem hb)
  exact ⟨hb, C06.dp_difference_le_of_constraint ev rows _ _ e ((toRat_length _).trans hl) (toRat_hard _ h01) hne hg⟩

open Moments Cross Fairness in
/-- **GridSearch(EqualizedOdds) end to end**, real event rule, without (`c0 = none`) or within a control stratum:
    equalized_odds_difference (worst case) of the RETURNED predictor -/
theorem gridsearch_eo_end_to_end (rows : List Row) (c0 : Option String)
    (span : Bool) (cwOf : List Rat → List Rat) (ow : List Rat) (learner : List (Nat × Rat) → List Nat)
    (objOf : List Nat → Rat) (cw : Rat) (grid : List (List Rat)) (out : FitOut) (eps : Rat)
    (hcw : 0 < cw) (hcw1 : cw ≤ 1)
    (hfit : fitLoop span cwOf ow learner objOf (fun p => gamma (eventOf .eo) rows 1 defaultUtil (toRat p)) cw grid = some out)
    (hobj : ∀ p ∈ out.preds, 0 ≤ objOf p ∧ objOf p ≤ 1)
    (hshape : ∀ p ∈ out.preds, p.length = rows.length ∧ ∀ x ∈ p, x = 0 ∨ x = 1)
    (hsome : ∃ p ∈ out.preds, GammaLe (eventOf .eo) rows 1 defaultUtil (toRat p) eps)
    (hy : ∀ r ∈ rows, r.y = 0 ∨ r.y = 1) (hne : rows.filter (fun r => r.c == c0) ≠ [])
    (hcov1 : ∀ r ∈ rows, (r.c == c0) = true → ∃ r2 ∈ rows, (r2.c == c0) = true ∧ r2.g = r.g ∧ r2.y = 1)
    (hcov0 : ∀ r ∈ rows, (r.c == c0) = true → ∃ r2 ∈ rows, (r2.c == c0) = true ∧ r2.g = r.g ∧ r2.y = 0) :
    ∃ hb : out.best < out.preds.length,
      (∃ D, eodds "equalized_odds_difference" .toOverall .worstCase 1 (toFrame (fun r => r.c == c0) rows (toRat out.preds[out.best]))
          = some (.value (XR.fin D)) ∧ 0 ≤ D ∧ D ≤ eps + (1 - cw) / cw) ∧
      (∃ D, eodds "equalized_odds_difference" .between .worstCase 1 (toFrame (fun r => r.c == c0) rows (toRat out.preds[out.best]))
          = some (.value (XR.fin D)) ∧ 0 ≤ D ∧ D ≤ 2 * (eps + (1 - cw) / cw)) := by
  obtain ⟨hb, hg⟩ := fit_selected_gammaLe (eventOf .eo) rows 1 defaultUtil span cwOf ow learner objOf cw grid out eps
    hcw hcw1 hfit hobj hsome
  obtain ⟨hl, h01⟩ := hshape _ (List.getElem_mem hb)
  refine ⟨hb, ?_⟩
  exact C06.eodds_difference_le_of_constraint (eventOf .eo) rows _ _
    (C06.stratumEvent c0 (MomentsSrc.labelEvent 1)) (C06.stratumEvent c0 (MomentsSrc.labelEvent 0))
    (fun r => r.c == c0) ((toRat_length _).trans hl) (toRat_hard _ h01) hy hne
    (C06.eo_selects c0 1 (Or.inr rfl)) (C06.eo_selects c0 0 (Or.inl rfl)) hcov1 hcov0 hg

open Moments Cross Fairness in
/-- **GridSearch(TruePositiveRateParity) end to end**, real event rule, with or without control features:
    equal_opportunity_difference of the RETURNED predictor -/
theorem gridsearch_tpr_end_to_end (rows : List Row) (c0 : Option String)
    (span : Bool) (cwOf : List Rat → List Rat) (ow : List Rat) (learner : List (Nat × Rat) → List Nat)
    (objOf : List Nat → Rat) (cw : Rat) (grid : List (List Rat)) (out : FitOut) (eps : Rat)
    (hcw : 0 < cw) (hcw1 : cw ≤ 1)
    (hfit : fitLoop span cwOf ow learner objOf (fun p => gamma (eventOf .tpr) rows 1 defaultUtil (toRat p)) cw grid = some out)
    (hobj : ∀ p ∈ out.preds, 0 ≤ objOf p ∧ objOf p ≤ 1)
    (hshape : ∀ p ∈ out.preds, p.length = rows.length ∧ ∀ x ∈ p, x = 0 ∨ x = 1)
    (hsome : ∃ p ∈ out.preds, GammaLe (eventOf .tpr) rows 1 defaultUtil (toRat p) eps)
    (hy : ∀ r ∈ rows, r.y = 0 ∨ r.y = 1) (hne : rows.filter (fun r => r.c == c0) ≠ [])
    (hcov : ∀ r ∈ rows, (r.c == c0) = true → ∃ r2 ∈ rows, (r2.c == c0) = true ∧ r2.g = r.g ∧ r2.y = 1) :
    ∃ hb : out.best < out.preds.length,
      (∃ D, named "equal_opportunity_difference" .toOverall 1 (toFrame (fun r => r.c == c0) rows (toRat out.preds[out.best]))
          = some (.value (XR.fin D)) ∧ 0 ≤ D ∧ D ≤ eps + (1 - cw) / cw) ∧
      (∃ D, named "equal_opportunity_difference" .between 1 (toFrame (fun r => r.c == c0) rows (toRat out.preds[out.best]))
          = some (.value (XR.fin D)) ∧ 0 ≤ D ∧ D ≤ 2 * (eps + (1 - cw) / cw)) := by
  obtain ⟨hb, hg⟩ := fit_selected_gammaLe (eventOf .tpr) rows 1 defaultUtil span cwOf ow learner objOf cw grid out eps
    hcw hcw1 hfit hobj hsome
  obtain ⟨hl, h01⟩ := hshape _ (List.getElem_mem hb)
  exact ⟨hb, C06.eopp_difference_le_of_constraint (eventOf .tpr) rows _ _
    (C06.stratumEvent c0 (MomentsSrc.labelEvent 1)) (fun r => r.c == c0) ((toRat_length _).trans hl) (toRat_hard _ h01)
    hy hne (C06.tpr_selects c0) hcov hg⟩

open Moments Cross Fairness in
/-- **GridSearch(ErrorRateParity) end to end**: `accuracy_score_difference` (and, by
    `C03.accuracy_difference_eq_zero_one_difference`, `zero_one_loss_difference`) of the RETURNED predictor -/
theorem gridsearch_erp_end_to_end (rows : List Row) (c0 : Option String)
    (span : Bool) (cwOf : List Rat → List Rat) (ow : List Rat) (learner : List (Nat × Rat) → List Nat)
    (objOf : List Nat → Rat) (cw : Rat) (grid : List (List Rat)) (out : FitOut) (eps : Rat)
    (hcw : 0 < cw) (hcw1 : cw ≤ 1)
    (hfit : fitLoop span cwOf ow learner objOf (fun p => gamma (eventOf .erp) rows 1 erpUtil (toRat p)) cw grid = some out)
    (hobj : ∀ p ∈ out.preds, 0 ≤ objOf p ∧ objOf p ≤ 1)
    (hshape : ∀ p ∈ out.preds, p.length = rows.length ∧ ∀ x ∈ p, x = 0 ∨ x = 1)
    (hsome : ∃ p ∈ out.preds, GammaLe (eventOf .erp) rows 1 erpUtil (toRat p) eps)
    (hy : ∀ r ∈ rows, r.y = 0 ∨ r.y = 1) (hne : rows.filter (fun r => r.c == c0) ≠ []) :
    ∃ hb : out.best < out.preds.length,
      (∃ D, generated "accuracy_score_difference" .toOverall 1 (toFrame (fun r => r.c == c0) rows (toRat out.preds[out.best]))
          = some (some (.value (XR.fin D))) ∧ 0 ≤ D ∧ D ≤ eps + (1 - cw) / cw) ∧
      (∃ D, generated "accuracy_score_difference" .between 1 (toFrame (fun r => r.c == c0) rows (toRat out.preds[out.best]))
          = some (some (.value (XR.fin D))) ∧ 0 ≤ D ∧ D ≤ 2 * (eps + (1 - cw) / cw)) := by
  obtain ⟨hb, hg⟩ := fit_selected_gammaLe (eventOf .erp) rows 1 erpUtil span cwOf ow learner objOf cw grid out eps
    hcw hcw1 hfit hobj hsome
  obtain ⟨hl, h01⟩ := hshape _ (List.getElem_mem hb)
  exact ⟨hb, (C06.erp_constraint_bounds rows _ _ c0 ((toRat_length _).trans hl) (toRat_hard _ h01) hy hne hg).1⟩

open Moments Cross Fairness in
/-- **GridSearch(DemographicParity(ratio_bound = r, ratio_bound_slack = eps)) end to end**: lower bounds on
    `demographic_parity_ratio` of the RETURNED predictor, with `eps' = eps + (1 − cw)/cw` and `μ` its overall selection
    rate on the event's rows -/
theorem gridsearch_dp_ratio_end_to_end (ev : Ev) (rows : List Row) (e : String) (ratio : Rat)
    (span : Bool) (cwOf : List Rat → List Rat) (ow : List Rat) (learner : List (Nat × Rat) → List Nat)
    (objOf : List Nat → Rat) (cw : Rat) (grid : List (List Rat)) (out : FitOut) (eps : Rat)
    (hcw : 0 < cw) (hcw1 : cw ≤ 1) (hr : 0 < ratio) (hr1 : ratio ≤ 1) (he : 0 ≤ eps)
    (hfit : fitLoop span cwOf ow learner objOf (fun p => gamma ev rows ratio defaultUtil (toRat p)) cw grid = some out)
    (hobj : ∀ p ∈ out.preds, 0 ≤ objOf p ∧ objOf p ≤ 1)
    (hshape : ∀ p ∈ out.preds, p.length = rows.length ∧ ∀ x ∈ p, x = 0 ∨ x = 1)
    (hsome : ∃ p ∈ out.preds, GammaLe ev rows ratio defaultUtil (toRat p) eps)
    (hne : ∃ g, Observed ev rows e g)
    (hm : ∀ p ∈ out.preds, 0 < mE ev rows defaultUtil (toRat p) e) :
    ∃ hb : out.best < out.preds.length,
      (∃ ρ, named "demographic_parity_ratio" .between 1 (toFrame (inE ev e) rows (toRat out.preds[out.best])) = some (.value (XR.fin ρ)) ∧
        ratio * (ratio * mE ev rows defaultUtil (toRat out.preds[out.best]) e - (eps + (1 - cw) / cw))
          / (mE ev rows defaultUtil (toRat out.preds[out.best]) e + (eps + (1 - cw) / cw)) ≤ ρ) ∧
      (∃ ρ, named "demographic_parity_ratio" .toOverall 1 (toFrame (inE ev e) rows (toRat out.preds[out.best])) = some (.value (XR.fin ρ)) ∧
        (ratio * mE ev rows defaultUtil (toRat out.preds[out.best]) e - (eps + (1 - cw) / cw))
          / mE ev rows defaultUtil (toRat out.preds[out.best]) e ≤ ρ) := by
  obtain ⟨hb, hg⟩ := fit_selected_gammaLe ev rows ratio defaultUtil span cwOf ow learner objOf cw grid out eps
    hcw hcw1 hfit hobj hsome
  obtain ⟨hl, h01⟩ := hshape _ (List.getElem_mem hb)
  have he' : 0 ≤ eps + (1 - cw) / cw := add_nonneg he (div_nonneg (sub_nonneg.mpr hcw1) hcw.le)
  exact ⟨hb, C06.dp_ratio_ge_of_constraint ev rows _ ratio _ e ((toRat_length _).trans hl) (toRat_hard _ h01) hne hr hr1 he'
    (hm _ (List.getElem_mem hb)) hg⟩

/-- `constraint_weight = 1`: the bound is `eps` itself -/
theorem slack_cw_one (eps : Rat) : eps + (1 - 1) / 1 = eps := by norm_num

/-! non-vacuity: a real `fitLoop` run (two grid points, learner = "predict the relabelled target") on 4 rows,
    DemographicParity; the second predictor is the constant 0 (gamma = 0), selected for `cw = 1` -/
def xFitRows : List Moments.Row := [⟨1, "a", none⟩, ⟨0, "a", none⟩, ⟨1, "b", none⟩, ⟨0, "b", none⟩]
def xFit : Option FitOut :=
  fitLoop false (fun lam => lam) [0, 0, 0, 0] (fun d => d.map (·.1)) (fun p => (p.map (fun x => if x = 1 then (1 : Rat) / 4 else 0)).sum)
    (fun p => Moments.gamma (Moments.eventOf .dp) xFitRows 1 Moments.defaultUtil (toRat p)) 1
    [[1, 1, -1, -1], [-1, -1, -1, 1/2]]

example : xFit.map (fun o => (o.preds, o.best)) = some ([[1, 1, 0, 0], [0, 0, 0, 1]], 1) := by decide +kernel
example : xFit.map (fun o => o.gammas) = some [[1/2, -1/2, -1/2, 1/2], [-1/4, 1/4, 1/4, -1/4]] := by decide +kernel

/-! the run `xFit` with the gamma of any moment (for the all-hypotheses examples of the end-to-end theorems) -/
def xFitWith (gam : List Nat → List Rat) : Option FitOut :=
  fitLoop false (fun lam => lam) [0, 0, 0, 0] (fun d => d.map (·.1)) (fun p => (p.map (fun x => if x = 1 then (1 : Rat) / 4 else 0)).sum)
    gam 1 [[1, 1, -1, -1], [-1, -1, -1, 1/2]]

theorem xFitWith_preds (gam : List Nat → List Rat) (out : FitOut) (h : xFitWith gam = some out) :
    out.preds = [[1, 1, 0, 0], [0, 0, 0, 1]] := by
  simp only [xFitWith, fitLoop, Option.map_eq_some_iff] at h
  obtain ⟨b, _, rfl⟩ := h
  show List.map (fun lam => trainAt (fun d => List.map (fun x => x.1) d) (relabel (combineWeights false lam [0, 0, 0, 0])))
      [[1, 1, -1, -1], [-1, -1, -1, 1 / 2]] = [[1, 1, 0, 0], [0, 0, 0, 1]]
  decide +kernel

open Moments Cross Fairness in
/-- every hypothesis of `gridsearch_dp_end_to_end` is met by that run (`cw = 1`, `eps = 1/4`), and the bound is attained:
    the returned predictor `[0,0,0,1]` has demographic-parity difference exactly 1/4 to the overall rate -/
example (out : FitOut) (h : xFit = some out) :
    ∃ _ : out.best < out.preds.length,
      (∃ D, named "demographic_parity_difference" .toOverall 1
          (toFrame (inE (eventOf .dp) "all") xFitRows (toRat out.preds[out.best])) = some (.value (XR.fin D)) ∧
        0 ≤ D ∧ D ≤ 1/4 + (1 - 1) / 1) ∧
      (∃ D, named "demographic_parity_difference" .between 1
          (toFrame (inE (eventOf .dp) "all") xFitRows (toRat out.preds[out.best])) = some (.value (XR.fin D)) ∧
        0 ≤ D ∧ D ≤ 2 * (1/4 + (1 - 1) / 1)) := by
  have hp := xFitWith_preds _ out h
  apply gridsearch_dp_end_to_end (eventOf .dp) xFitRows "all" _ _ _ _ _ _ _ out (1/4)
    (by norm_num) (le_refl _) h
  · rw [hp]; decide +kernel
  · rw [hp]; decide +kernel
  · rw [hp]; exact ⟨[0, 0, 0, 1], by simp, by decide +kernel⟩
  · exact ⟨"a", ⟨1, "a", none⟩, by decide +kernel, by decide +kernel, rfl⟩
open Moments Cross Fairness in
example : named "demographic_parity_difference" .toOverall 1
    (toFrame (inE (eventOf .dp) "all") xFitRows (toRat [0, 0, 0, 1])) = some (.value (XR.fin (1/4))) := by decide +kernel

open Moments Cross Fairness in
example (out : FitOut)
    (h : xFitWith (fun p => gamma (eventOf .tpr) xFitRows 1 defaultUtil (toRat p)) = some out) :
    ∃ _ : out.best < out.preds.length,
      (∃ D, named "equal_opportunity_difference" .toOverall 1 (toFrame (fun r => r.c == none) xFitRows (toRat out.preds[out.best]))
          = some (.value (XR.fin D)) ∧ 0 ≤ D ∧ D ≤ 0 + (1 - 1) / 1) ∧
      (∃ D, named "equal_opportunity_difference" .between 1 (toFrame (fun r => r.c == none) xFitRows (toRat out.preds[out.best]))
          = some (.value (XR.fin D)) ∧ 0 ≤ D ∧ D ≤ 2 * (0 + (1 - 1) / 1)) := by
  have hp := xFitWith_preds _ out h
  apply gridsearch_tpr_end_to_end xFitRows none _ _ _ _ _ _ _ out 0
    (by norm_num) (le_refl _) h
  · rw [hp]; decide +kernel
  · rw [hp]; decide +kernel
  · rw [hp]; exact ⟨[0, 0, 0, 1], by simp, by decide +kernel⟩
  · decide +kernel
  · decide +kernel
  · decide +kernel

open Moments Cross Fairness in
example (out : FitOut)
    (h : xFitWith (fun p => gamma (eventOf .erp) xFitRows 1 erpUtil (toRat p)) = some out) :
    ∃ _ : out.best < out.preds.length,
      (∃ D, generated "accuracy_score_difference" .toOverall 1 (toFrame (fun r => r.c == none) xFitRows (toRat out.preds[out.best]))
          = some (some (.value (XR.fin D))) ∧ 0 ≤ D ∧ D ≤ 0 + (1 - 1) / 1) ∧
      (∃ D, generated "accuracy_score_difference" .between 1 (toFrame (fun r => r.c == none) xFitRows (toRat out.preds[out.best]))
          = some (some (.value (XR.fin D))) ∧ 0 ≤ D ∧ D ≤ 2 * (0 + (1 - 1) / 1)) := by
  have hp := xFitWith_preds _ out h
  apply gridsearch_erp_end_to_end xFitRows none _ _ _ _ _ _ _ out 0
    (by norm_num) (le_refl _) h
  · rw [hp]; decide +kernel
  · rw [hp]; decide +kernel
  · rw [hp]; exact ⟨[1, 1, 0, 0], by simp, by decide +kernel⟩
  · decide +kernel
  · decide +kernel

open Moments Cross Fairness in
example (out : FitOut)
    (h : xFitWith (fun p => gamma (eventOf .dp) xFitRows (1/2) defaultUtil (toRat p)) = some out) :
    ∃ _ : out.best < out.preds.length,
      (∃ ρ, named "demographic_parity_ratio" .between 1 (toFrame (inE (eventOf .dp) "all") xFitRows (toRat out.preds[out.best])) = some (.value (XR.fin ρ)) ∧
        (1/2) * ((1/2) * mE (eventOf .dp) xFitRows defaultUtil (toRat out.preds[out.best]) "all" - (1/8 + (1 - 1) / 1))
          / (mE (eventOf .dp) xFitRows defaultUtil (toRat out.preds[out.best]) "all" + (1/8 + (1 - 1) / 1)) ≤ ρ) ∧
      (∃ ρ, named "demographic_parity_ratio" .toOverall 1 (toFrame (inE (eventOf .dp) "all") xFitRows (toRat out.preds[out.best])) = some (.value (XR.fin ρ)) ∧
        ((1/2) * mE (eventOf .dp) xFitRows defaultUtil (toRat out.preds[out.best]) "all" - (1/8 + (1 - 1) / 1))
          / mE (eventOf .dp) xFitRows defaultUtil (toRat out.preds[out.best]) "all" ≤ ρ) := by
  have hp := xFitWith_preds _ out h
  apply gridsearch_dp_ratio_end_to_end (eventOf .dp) xFitRows "all" (1/2) _ _ _ _ _ _ _ out (1/8)
    (by norm_num) (le_refl _) (by norm_num) (by norm_num) (by norm_num) h
  · rw [hp]; decide +kernel
  · rw [hp]; decide +kernel
  · rw [hp]; exact ⟨[0, 0, 0, 1], by simp, by decide +kernel⟩
  · exact ⟨"a", ⟨1, "a", none⟩, by decide +kernel, by decide +kernel, rfl⟩
  · rw [hp]; decide +kernel

/-- EqualizedOdds: all hypotheses of `gridsearch_eo_end_to_end` on the run `xFitWith` (both groups have both labels) -/
example (out : FitOut)
    (h : xFitWith (fun p => Moments.gamma (Moments.eventOf .eo) xFitRows 1 Moments.defaultUtil (toRat p)) = some out) :
    ∃ _ : out.best < out.preds.length,
      (∃ D, Fairness.eodds "equalized_odds_difference" .toOverall .worstCase 1
          (Cross.toFrame (fun r => r.c == none) xFitRows (toRat out.preds[out.best])) = some (.value (XR.fin D)) ∧
        0 ≤ D ∧ D ≤ 1/2 + (1 - 1) / 1) ∧
      (∃ D, Fairness.eodds "equalized_odds_difference" .between .worstCase 1
          (Cross.toFrame (fun r => r.c == none) xFitRows (toRat out.preds[out.best])) = some (.value (XR.fin D)) ∧
        0 ≤ D ∧ D ≤ 2 * (1/2 + (1 - 1) / 1)) := by
  have hp := xFitWith_preds _ out h
  apply gridsearch_eo_end_to_end xFitRows none _ _ _ _ _ _ _ out (1/2)
    (by norm_num) (le_refl _) h
  · rw [hp]; decide +kernel
  · rw [hp]; decide +kernel
  · rw [hp]; exact ⟨[1, 1, 0, 0], by simp, by decide +kernel⟩
  · decide +kernel
  · decide +kernel
  · decide +kernel
  · decide +kernel

/-! ## Clause (b) for the REAL Lagrangian (composition C09 ↔ C07)

`fit_predictor_minimises_lagrangian` (C09) is stated for an abstract `F`.  Here `F` is `Oracle.lagr` = the ErrorRate
objective (costs `fp`, `fn`) + `λ·γ` of a `UtilityParity` moment `(ev, rows, ratio, ut)` (all five parity moments), the
constraint weights are `Moments.signedWeights` and the objective weights `ErrorRate.signed_weights()`: the SAME
functions C07's reduction identity is about.  `Grid.lagr_affine` (from `Oracle.dot_totalW`) provides the affine form on
0/1 labelings, `Grid.combineWeights_totalW` identifies GridSearch's combined weights with C07's total weights. -/

/-- the data `GridSearch.fit` hands to the estimator at multiplier vector `lam` (objective not in the span):
    `weights = constraints.signed_weights(lam) + objective.signed_weights()`, then the lifted relabelling -/
def gridData (ev : Moments.Ev) (rows : List Moments.Row) (ratio : Rat) (ut : Moments.Util) (fp fn : Rat)
    (lam : List Rat) : List (Nat × Rat) :=
  relabel (combineWeights false (Moments.signedWeights ev rows ratio ut lam)
    (Moments.errWeights fp fn (Moments.labelsOf rows) none))

/-- **one grid point**: the estimator trained on the data relabelled / reweighted for `lam` (an exact cost-sensitive
    learner over the class `H` of 0/1 labelings, or the constant DummyClassifier when the relabelled data has a single
    label) minimises the REAL `error + λ·γ` over `H` -/
theorem fit_predictor_minimises_real_lagrangian (ev : Moments.Ev) (rows : List Moments.Row) (ratio : Rat)
    (ut : Moments.Util) (fp fn : Rat) (lam : List Rat) (learner : List (Nat × Rat) → List Nat) (H : List Nat → Prop)
    (hne : rows ≠ []) (hy : Moments.Hard (Moments.labelsOf rows))
    (hH : ∀ h', H h' → h'.length = rows.length ∧ ∀ x ∈ h', x = 0 ∨ x = 1)
    (hex : ∀ h', H h' →
      weighted01 (gridData ev rows ratio ut fp fn lam) (learner (gridData ev rows ratio ut fp fn lam)) ≤
        weighted01 (gridData ev rows ratio ut fp fn lam) h')
    (hshape : (learner (gridData ev rows ratio ut fp fn lam)).length = rows.length ∧
      ∀ x ∈ learner (gridData ev rows ratio ut fp fn lam), x = 0 ∨ x = 1) :
    ∀ h', H h' →
      Oracle.lagr ev rows ratio ut fp fn lam (toRat (trainAt learner (gridData ev rows ratio ut fp fn lam)))
        ≤ Oracle.lagr ev rows ratio ut fp fn lam (toRat h') := by
  unfold gridData at hex hshape ⊢
  rw [combineWeights_totalW] at hex hshape ⊢
  have hwl := Oracle.totalW_length ev rows ratio ut fp fn lam
  have hn : (0 : Rat) < 1 / (rows.length : Rat) :=
    one_div_pos.mpr (Nat.cast_pos.mpr (List.length_pos_of_ne_nil hne))
  exact fit_predictor_minimises_lagrangian_hard learner H (Oracle.totalW ev rows ratio ut fp fn lam)
    (Oracle.lagr ev rows ratio ut fp fn lam (List.replicate rows.length 0)) (1 / (rows.length : Rat)) hn
    (fun h => Oracle.lagr ev rows ratio ut fp fn lam (toRat h))
    (fun h hl hb => lagr_affine ev rows ratio ut fp fn lam h hne (by rw [← hl, hwl]) hy hb)
    hex (by rw [hwl]; exact hshape) (fun h' hh' => ⟨by rw [hwl]; exact (hH h' hh').1.symm, (hH h' hh').2⟩)

/-- **CLAUSE (b) + (c) FOR THE WHOLE LOOP, real quantities**: run `GridSearch.fit`'s loop (`Grid.fitLoop`) with the
    signed weights of a parity moment and of the ErrorRate objective and a base learner that is exact over a class `H`
    of 0/1 labelings.  Then there is one predictor per grid point, each trained on the data relabelled / reweighted for
    ITS OWN multiplier vector, each minimises `error + λ·γ` for that vector over `H`, and `objectives_` / `gammas_` are
    the values of exactly those predictors. -/
theorem fit_trains_real_lagrangian_minimisers (ev : Moments.Ev) (rows : List Moments.Row) (ratio : Rat)
    (ut : Moments.Util) (fp fn : Rat) (learner : List (Nat × Rat) → List Nat)
    (objOf : List Nat → Rat) (gamOf : List Nat → List Rat) (cw : Rat) (grid : List (List Rat)) (out : FitOut)
    (H : List Nat → Prop) (hne : rows ≠ []) (hy : Moments.Hard (Moments.labelsOf rows))
    (hH : ∀ h', H h' → h'.length = rows.length ∧ ∀ x ∈ h', x = 0 ∨ x = 1)
    (hex : ∀ w h', H h' → weighted01 (relabel w) (learner (relabel w)) ≤ weighted01 (relabel w) h')
    (hshape : ∀ w, (learner (relabel w)).length = w.length ∧ ∀ x ∈ learner (relabel w), x = 0 ∨ x = 1)
    (hfit : fitLoop false (fun lam => Moments.signedWeights ev rows ratio ut lam)
      (Moments.errWeights fp fn (Moments.labelsOf rows) none) learner objOf gamOf cw grid = some out) :
    out.preds = grid.map (fun lam => trainAt learner (gridData ev rows ratio ut fp fn lam)) ∧
    out.objectives = out.preds.map objOf ∧ out.gammas = out.preds.map gamOf ∧
    ∀ lam ∈ grid, ∀ h', H h' →
      Oracle.lagr ev rows ratio ut fp fn lam (toRat (trainAt learner (gridData ev rows ratio ut fp fn lam)))
        ≤ Oracle.lagr ev rows ratio ut fp fn lam (toRat h') := by
  obtain ⟨hp, _, ho, hg, _⟩ := fit_spec false _ _ learner objOf gamOf cw grid out H hex hfit
  refine ⟨hp, ho, hg, ?_⟩
  intro lam _ h' hh'
  refine fit_predictor_minimises_real_lagrangian ev rows ratio ut fp fn lam learner H hne hy hH
    (fun h'' hh'' => hex _ h'' hh'') ?_ h' hh'
  have hs := hshape (combineWeights false (Moments.signedWeights ev rows ratio ut lam)
    (Moments.errWeights fp fn (Moments.labelsOf rows) none))
  rw [combineWeights_totalW, Oracle.totalW_length] at hs
  unfold gridData
  rw [combineWeights_totalW]
  exact hs

/-! non-vacuity: DemographicParity on the 4 rows `xFitRows` (2 groups), unit costs, the exact learner `xLearner`
    ("predict the relabelled target"), `H` = all 0/1 labelings of the 4 rows, two grid points; the first one trains a
    non-constant predictor -/
def xLagrFit : Option FitOut :=
  fitLoop false (fun lam => Moments.signedWeights (Moments.eventOf .dp) xFitRows 1 Moments.defaultUtil lam)
    (Moments.errWeights 1 1 (Moments.labelsOf xFitRows) none) xLearner
    (fun p => Moments.errGamma 1 1 (Moments.labelsOf xFitRows) (toRat p))
    (fun p => Moments.gamma (Moments.eventOf .dp) xFitRows 1 Moments.defaultUtil (toRat p)) (1/2)
    [[4, 0, 0, 0], [0, 0, 0, 0]]

example : xLagrFit.map (fun o => (o.preds, o.objectives, o.best)) = some ([[0, 0, 1, 1], [1, 0, 1, 0]], [1/2, 0], 1) := by
  decide +kernel

example (out : FitOut) (h : xLagrFit = some out) :
    ∀ lam ∈ [[4, 0, 0, 0], [0, 0, 0, (0 : Rat)]], ∀ h' : List Nat, (h'.length = 4 ∧ ∀ x ∈ h', x = 0 ∨ x = 1) →
      Oracle.lagr (Moments.eventOf .dp) xFitRows 1 Moments.defaultUtil 1 1 lam
          (toRat (trainAt xLearner (gridData (Moments.eventOf .dp) xFitRows 1 Moments.defaultUtil 1 1 lam)))
        ≤ Oracle.lagr (Moments.eventOf .dp) xFitRows 1 Moments.defaultUtil 1 1 lam (toRat h') :=
  (fit_trains_real_lagrangian_minimisers (Moments.eventOf .dp) xFitRows 1 Moments.defaultUtil 1 1 xLearner _ _ (1/2) _ out
    (fun h' => h'.length = 4 ∧ ∀ x ∈ h', x = 0 ∨ x = 1) (by decide) (by decide +kernel) (fun _ hh => hh)
    (fun w h' _ => xLearner_exact w h') xLearner_shape h).2.2.2

/-! ### clause (b), BoundedGroupLoss: the regression branch of the loop (`is_classification_reduction = False`)

`Grid.fitLoop` models the classification branch only.  For a loss moment the source passes `y` unchanged and the raw
weights `constraints.signed_weights(λ)` (objective in the span: nothing is added, nothing relabelled, no `abs`); that
column of `GridSearch.fit` is `Oracle.callGridLoss` (C07's model over `Generated/OracleSrc.lean`).  Composition with
`C07.loss_grid_identity`: a learner that minimises the weighted loss it is given minimises `λ·γ` over its class. -/

/-- **BoundedGroupLoss, one grid point**: the learner receives the labels unchanged and the weights
    `w = signed_weights(λ)` (or, when all labels coincide, a constant DummyClassifier is trained); a predictor `h` that
    minimises the weighted loss `Σ wᵢ·loss(yᵢ, hᵢ)` over a class `H` minimises `λ·γ(h)` over `H` (any loss of the
    moment, any rational λ; `rows ≠ []` is needed: for no rows both sides are 0 by `x/0 = 0`, and the source rejects
    empty data). -/
theorem bgl_grid_point_minimises_lambda_gamma (l : Moments.Loss) (rows : List Moments.LRow) (lam : List Rat)
    (hne : rows ≠ []) (H : List Rat → Prop) (h : List Rat)
    (hmin : ∀ h', H h' →
      Moments.dot (Moments.bglSignedWeights rows (some lam)) (Moments.lossOf l rows h)
        ≤ Moments.dot (Moments.bglSignedWeights rows (some lam)) (Moments.lossOf l rows h')) :
    (Oracle.callGridLoss rows lam = .fit (rows.map (·.y)) (Moments.bglSignedWeights rows (some lam)) ∨
      ∃ c, Oracle.callGridLoss rows lam = .dummy c (rows.map (·.y)) (Moments.bglSignedWeights rows (some lam)) ∧
        ∀ r ∈ rows, r.y = c) ∧
    ∀ h', H h' → Moments.dot lam (Moments.bglGamma l rows h) ≤ Moments.dot lam (Moments.bglGamma l rows h') := by
  refine ⟨(C07.loss_grid_identity l rows lam h hne).1, ?_⟩
  intro h' hh'
  have e := (C07.loss_grid_identity l rows lam h hne).2
  have e' := (C07.loss_grid_identity l rows lam h' hne).2
  have hn : (0 : Rat) < (rows.length : Rat) := by
    have := List.length_pos_of_ne_nil hne
    exact_mod_cast this
  have hm := hmin h' hh'
  rw [e, e'] at hm
  exact le_of_mul_le_mul_left hm hn

/-- all hypotheses at once: 3 rows, two groups, 0/1 loss, λ = (1, 2); the class {[1,0,0], [0,0,0], [1,1,1]}; the
    labeling [1,0,0] has weighted loss 3·(1/2) and is the minimiser -/
example : ∀ h', (h' = [1, 0, 0] ∨ h' = [0, 0, 0] ∨ h' = [1, 1, 1]) →
    Moments.dot [1, 2] (Moments.bglGamma Moments.Loss.zeroOne [⟨1, "a"⟩, ⟨0, "b"⟩, ⟨1/2, "b"⟩] [1, 0, 0])
      ≤ Moments.dot [1, 2] (Moments.bglGamma Moments.Loss.zeroOne [⟨1, "a"⟩, ⟨0, "b"⟩, ⟨1/2, "b"⟩] h') :=
  (bgl_grid_point_minimises_lambda_gamma Moments.Loss.zeroOne [⟨1, "a"⟩, ⟨0, "b"⟩, ⟨1/2, "b"⟩] [1, 2] (by decide)
    (fun h' => h' = [1, 0, 0] ∨ h' = [0, 0, 0] ∨ h' = [1, 1, 1]) [1, 0, 0]
    (by rintro _ (rfl | rfl | rfl) <;> decide +kernel)).2

end C09
