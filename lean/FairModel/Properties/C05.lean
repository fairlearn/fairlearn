/-
C05 — ThresholdOptimizer returns the best parity-satisfying threshold rule on its grid.

A competing rule randomises, separately per group, over the group's tradeoff points = all thresholdings swept by
`_calculate_tradeoff_points` (and the flipped ones when `flip`): a `Mixture` (weights ≥ 0 summing to 1 over points
of `rawPoints flip xm ym rows`).  By `C04.sweep_point_sound` and `metric_affine` the expected (x, y) metric pair of
such a rule is (`Mixture.x`, `Mixture.y`).  All theorems hold for every dataset, any number of groups, every
constraint / objective / flip and ANY grid size `N : Nat` (`*_any_grid`; `N = 0` is the one-point grid `[0.]`, accepted by
fairlearn; only `ge_constant` / `ge_constant_EO` need `1 ≤ N`, because the all-positive constant sits at x = 1).  The
arg-max is the exact one (`np.around(.,15)` is the identity on the exact model: `Threshold.aroundModel_eq`; IEEE rounding
of the implementation is outside the model; the harness accepts arg-max ties within 1e-12).  The fit the theorems talk
about COMPUTES WITH the lifted `idxmax` / `np.amin` / `prediction_constant` / hull loop (`C04.lifted_*`).
-/
/-
CLAUSE → THEOREM TABLE (property text in properties.jsonl, id C05)

| clause of the property text                                               | theorem(s)                                                       |
|---------------------------------------------------------------------------|------------------------------------------------------------------|
| "all rules that randomise, separately per group, over thresholdings of the  | OpMix / OpMix.Valid flip (finite mixtures of ARBITRARY threshold |
|  scores (and flipped thresholdings when flip=True)"                        | operations); sweep_complete, randomised_rule_is_mixture           |
| "... that give every group the same value x of the constrained metric for   | hypothesis hms of optimal_simple_ops / optimal_EO_ops: metric     |
|  some x on the grid {0, 1/grid_size, ..., 1}"                              | computed FROM THE ROWS = gridVal N i, i ≤ N                      |
| "the fitted rule attains the maximum of the objective"                     | optimal_simple_ops / optimal_EO_ops (every member ≤ fit.objective)|
|                                                                           | + fitted_rule_attains_simple / _EO (the fitted rules ARE a member |
|                                                                           | — ruleOps, ruleOps_prob — with class objective = fit.objective);  |
|                                                                           | point form: optimal_simple, optimal_EO                           |
| "group-frequency-weighted mean of the per-group objective"                 | opsObjective / mixObjective with freq = len(group)/n; objective_ |
|                                                                           | attained_simple, objective_is_weighted_curve                     |
| "overall accuracy or balanced accuracy for equalized odds"                 | optimal_EO_ops: obj.eval of the OVERALL expected confusion counts |
|                                                                           | (overallCMp); objective_attained_EO; obj ∈ LIFTED objectivesEO   |
| "(all groups placed on the pointwise-lowest ROC hull)"                     | optimal_EO (y ≤ min of hulls), C04.parity_EO (yBest)             |
| "never worse than the best constant classifier"                            | ge_constant (simple; BOTH constants), ge_constant_EO (both)      |
| arg-max tie rule (idxmax = first maximum)                                  | fitted_index_first_maximum_simple / _EO                          |
Supporting: hull_supporting, supportsAll_true, mixture_le_line, interpolate_is_envelope, eo_objective_monotone.
Hypotheses everywhere: IsConstraintMetric xm (lifted table), a successful fit (⇔ BothLabels, C04.fit_simple_none_iff); `1 ≤ N`
only in ge_constant / ge_constant_EO (every other theorem has an `_any_grid` form for N : Nat, stated first, with its case `1 ≤ N` after it).
NOT MODELLED: np.around(.,15) before the EO arg-max (identity on the exact model, Threshold.aroundModel_eq), IEEE rounding (trusted;
the harness compares objective VALUES).
-/
import FairModel.Lemmas.OpMix
import FairModel.Properties.C04

namespace C05
open Threshold ThresholdGen

/-- the comparison class is complete: ANY `ThresholdOperation(">", t)` — and `("<", t)` when `flip` — with an
    arbitrary threshold `t` (finite, ±inf, even equal to a score) has exactly the confusion counts, on the group's
    rows, of one of the tradeoff points; so mixtures of tradeoff points are all randomisations over thresholdings -/
theorem sweep_complete (flip : Bool) (xm ym : Metric) (rows : List Row) (o : Op) (ho : o.gt = true ∨ flip = true) :
    ∃ p ∈ rawPoints flip xm ym rows, p.op.gt = o.gt ∧ confusion p.op rows = confusion o rows ∧
      p.x = xm.eval (confusion o rows) ∧ p.y = ym.eval (confusion o rows) := by
  obtain ⟨p, hp, hgt, hc⟩ := Threshold.sweep_complete flip xm ym rows o ho
  obtain ⟨hx, hy⟩ := rawPoints_sound flip xm ym rows p hp
  exact ⟨p, hp, hgt, hc, by rw [hx, hc], by rw [hy, hc]⟩

/-- (a) **hull_supporting** (monotone-chain correctness): for ANY lexicographically sorted point list, every point
    lies on or below the line through any two consecutive hull vertices -/
theorem hull_supporting (pts : List Pt) (hs : pts.Pairwise LexLe) (l1 l2 : List Pt) (a b : Pt)
    (hH : upperHull pts = l1 ++ a :: b :: l2) : ∀ q ∈ pts, cross a b q ≤ 0 :=
  (upperHull_good pts hs).supporting l1 a b l2 hH

/-- the boolean the driver evaluates on every case is therefore always true -/
theorem supportsAll_true (pts : List Pt) (hs : pts.Pairwise LexLe) : supportsAll (upperHull pts) pts = true := by
  unfold supportsAll
  rw [List.all_eq_true]
  intro ab hab
  rw [List.all_eq_true]
  intro q hq
  -- a zip-with-tail pair is a pair of consecutive vertices
  obtain ⟨i, hi, rfl⟩ := List.getElem_of_mem hab
  rw [List.length_zip, List.length_tail] at hi
  obtain ⟨l1, l2, h, _⟩ := getElem?_split (upperHull pts) i _ _ (List.getElem?_eq_getElem (lt_min_iff.mp hi).1)
    (List.getElem?_eq_getElem (Nat.add_lt_of_lt_sub (lt_min_iff.mp hi).2))
  rw [List.getElem_zip, List.getElem_tail]
  exact decide_eq_true (hull_supporting pts hs l1 l2 _ _ h q hq)

/-- (b) **mixture_le_line**: a mixture of points under a supporting line stays under it -/
theorem mixture_le_line (a b : Pt) (pts : List Pt) (m : Mixture) (g ry : Rat)
    (hsup : ∀ q ∈ pts, cross a b q ≤ 0) (hab : a.x < b.x) (hv : m.Valid pts) (hx : m.x = g)
    (hline : (b.x - a.x) * (ry - a.y) = (b.y - a.y) * (g - a.x)) : m.y ≤ ry :=
  Threshold.mixture_le_line a b pts m g ry hsup hab hv hx hline

/-- the interpolated curve is the concave envelope on the grid: no mixture of the group's threshold rules with
    constraint value `i/N` has a larger objective than the interpolated rule, and the interpolated rule attains it -/
theorem interpolate_is_envelope_any_grid (flip : Bool) (xm ym : Metric) (rows : List Row) (hx : IsConstraintMetric xm)
    (hp : nPos rows ≠ 0) (hn : nNeg rows ≠ 0) (N i : Nat) (hi : i ≤ N) :
    ∃ H r, tradeoffCurve flip xm ym rows = some H ∧ interpolateAt H i (gridVal N i) = some r ∧
      expectedMetric xm (simpleRule r) rows = gridVal N i ∧ expectedMetric ym (simpleRule r) rows = r.y ∧
      ∀ m : Mixture, m.Valid (rawPoints flip xm ym rows) → m.x = gridVal N i → m.y ≤ r.y := by
  obtain ⟨H, gc⟩ := groupCurve_exists flip xm ym rows hx hp hn
  obtain ⟨r, hr, hs⟩ := group_interpolate gc hi
  obtain ⟨e1, e2⟩ := expected_simple gc hs
  exact ⟨H, r, gc.eq, hr, e1, e2, fun m hv hmx => interp_dominates gc hs m hv hmx⟩

/-- the case `N ≥ 1` of `interpolate_is_envelope_any_grid` -/
theorem interpolate_is_envelope (flip : Bool) (xm ym : Metric) (rows : List Row) (hx : IsConstraintMetric xm)
    (hp : nPos rows ≠ 0) (hn : nNeg rows ≠ 0) (N i : Nat) (hN : 1 ≤ N) (hi : i ≤ N) :
    ∃ H r, tradeoffCurve flip xm ym rows = some H ∧ interpolateAt H i (gridVal N i) = some r ∧
      expectedMetric xm (simpleRule r) rows = gridVal N i ∧ expectedMetric ym (simpleRule r) rows = r.y ∧
      ∀ m : Mixture, m.Valid (rawPoints flip xm ym rows) → m.x = gridVal N i → m.y ≤ r.y :=
  interpolate_is_envelope_any_grid flip xm ym rows hx hp hn N i hi

/-- the reported objective is the frequency-weighted expected objective of the fitted rules -/
theorem objective_attained_simple_any_grid (flip : Bool) (xm ym : Metric) (N : Nat) (groups : List (List Row))
    (force : Option Nat) (fit : Fit) (hx : IsConstraintMetric xm)
    (hfit : fitSimple flip xm ym N groups force = some fit) :
    fit.objective =
      (List.zipWith (fun g (r : Rule) => freq groups g * expectedMetric ym r g) groups fit.rules).sum := by
  obtain ⟨_, _, p⟩ := fitSimple_some hfit
  have hobj := p.objective_eq
  obtain ⟨_, _, hrules, hrow⟩ := fitSimple_sound hx hfit
  have hrl : fit.rules.length = groups.length := by rw [hrules, List.length_map]; exact hrow.1
  rw [hobj, src_objSimple]
  refine zipWith_sum_eq groups _ _ fit.interps fit.rules hrow.1 hrl fun j hj hja hjb => ?_
  obtain ⟨H, gc, hs⟩ := hrow.2 j hj hja
  rw [getElem_of_eq_map hrules j hjb hja, (expected_simple gc hs).2]
  rfl

/-- the case `N ≥ 1` of `objective_attained_simple_any_grid` -/
theorem objective_attained_simple (flip : Bool) (xm ym : Metric) (N : Nat) (groups : List (List Row))
    (force : Option Nat) (fit : Fit) (hN : 1 ≤ N) (hx : IsConstraintMetric xm)
    (hfit : fitSimple flip xm ym N groups force = some fit) :
    fit.objective =
      (List.zipWith (fun g (r : Rule) => freq groups g * expectedMetric ym r g) groups fit.rules).sum :=
  objective_attained_simple_any_grid flip xm ym N groups force fit hx hfit

/-- **tie rule of the arg-max (`Series.idxmax`)**: the fitted grid index is the FIRST grid point attaining the maximum of
    the overall objective curve: no grid point has a larger value and every EARLIER grid point has a strictly smaller one
    (so the fitted rule is a function of the data alone — reproducible — also when several grid points tie) -/
theorem fitted_index_first_maximum_simple (flip : Bool) (xm ym : Metric) (N : Nat) (groups : List (List Row)) (fit : Fit)
    (hfit : fitSimple flip xm ym N groups none = some fit) :
    ∃ hulls cs, hullsOf flip xm ym groups = some hulls ∧ curves hulls N = some cs ∧ fit.iBest < cs.length ∧
      (∀ i (hi : i < cs.length), objSimple groups cs[i] ≤ fit.objective) ∧
      (∀ i (hi : i < cs.length), i < fit.iBest → objSimple groups cs[i] < fit.objective) := by
  obtain ⟨hulls, cs, hh, hc, hb, _, hobj, hib⟩ := fitSimple_some hfit
  have hib' : fit.iBest = argmaxFirst (cs.map (objSimple groups)) := hib
  obtain ⟨hmax, hfirst⟩ := argmaxFirst_attains (l := cs.map (objSimple groups)) (o := fit.objective)
    (by rw [← hib', List.getElem?_map, hb, hobj]; rfl)
  rw [← hib'] at hfirst
  refine ⟨hulls, cs, hh, hc, (List.getElem?_eq_some_iff.mp hb).1, fun i hi' => ?_, fun i hi' hlt => ?_⟩
  · exact hmax _ (List.mem_map.mpr ⟨cs[i], List.getElem_mem hi', rfl⟩)
  · exact hfirst i _ hlt (by rw [List.getElem?_map, List.getElem?_eq_getElem hi']; rfl)

/-- (c) **optimal_simple**: among all families of per-group mixtures of the groups' (flip-allowed) threshold
    rules that give every group the same constraint value `i/N` for some grid index `i ≤ N`, none has a larger
    frequency-weighted objective than the fitted rule -/
theorem optimal_simple_any_grid (flip : Bool) (xm ym : Metric) (N : Nat) (groups : List (List Row)) (fit : Fit) (hx : IsConstraintMetric xm)
    (hfit : fitSimple flip xm ym N groups none = some fit)
    (i : Nat) (hi : i ≤ N) (ms : List Mixture) (hlen : ms.length = groups.length)
    (hms : ∀ j (hj : j < groups.length) (hj' : j < ms.length),
      ms[j].Valid (rawPoints flip xm ym groups[j]) ∧ ms[j].x = gridVal N i) :
    mixObjective groups ms ≤ fit.objective :=
  optimal_simple_of_dominated flip xm ym N groups fit hx hfit i hi (fun _ (m : Mixture) => m.y) ms hlen
    fun j hj hj' H r gc hs => interp_dominates gc hs ms[j] (hms j hj hj').1 (hms j hj hj').2

/-- the case `N ≥ 1` of `optimal_simple_any_grid` -/
theorem optimal_simple (flip : Bool) (xm ym : Metric) (N : Nat) (groups : List (List Row)) (fit : Fit)
    (hN : 1 ≤ N) (hx : IsConstraintMetric xm)
    (hfit : fitSimple flip xm ym N groups none = some fit)
    (i : Nat) (hi : i ≤ N) (ms : List Mixture) (hlen : ms.length = groups.length)
    (hms : ∀ j (hj : j < groups.length) (hj' : j < ms.length),
      ms[j].Valid (rawPoints flip xm ym groups[j]) ∧ ms[j].x = gridVal N i) :
    mixObjective groups ms ≤ fit.objective :=
  optimal_simple_any_grid flip xm ym N groups fit hx hfit i hi ms hlen hms

/-- the reported objective is the `len(group) / n`-weighted sum of the `y` of every group's interpolated curve at `x_best`;
    by `C04.fit_predict_consistent_simple` that `y` is the group's expected objective metric computed from `_pmf_predict`
    of the fitted model on its training rows — so the optimality statements are about what `predict` really does -/
theorem objective_is_weighted_curve (flip : Bool) (xm ym : Metric) (N : Nat) (groups : List (List Row))
    (force : Option Nat) (fit : Fit) (hfit : fitSimple flip xm ym N groups force = some fit) :
    fit.objective = (List.zipWith (fun g (r : Interp) => freq groups g * r.y) groups fit.interps).sum := by
  obtain ⟨_, _, p⟩ := fitSimple_some hfit
  exact p.objective_eq.trans (src_objSimple groups fit.interps)

/-- the same for equalized odds: `iBest` is the first grid index maximising the objective of `(i/N, y_min[i])` -/
theorem fitted_index_first_maximum_EO (flip : Bool) (obj : Metric) (N : Nat) (groups : List (List Row)) (fit : Fit)
    (yBest : Rat) (hfit : fitEO flip obj N groups none = some (fit, yBest)) :
    ∃ ymins : List Rat, ymins.length = N + 1 ∧ ymins[fit.iBest]? = some yBest ∧
      (∀ i (hi : i < ymins.length), objEO obj groups (gridVal N i) ymins[i] ≤ fit.objective) ∧
      (∀ i (hi : i < ymins.length), i < fit.iBest → objEO obj groups (gridVal N i) ymins[i] < fit.objective) := by
  obtain ⟨hulls, cs, ymins, hh, hc, hy, hb, hyb, _, hobjv, hib⟩ := fitEO_some hfit
  have hyl : ymins.length = N + 1 := (allSome_map_get hy).1.trans (curves_some hc).1
  exact ⟨ymins, hyl, hyb, argmax_EO hyl hyb hobjv hib⟩

/-- objective of a deterministic rule applied to every group (zipped with a list of units: the same `zipWith` shape as
    `mixObjective` / `opsObjective`, so that one domination lemma, `optimal_simple_of_dominated`, serves all three) -/
def constObjective (ym : Metric) (groups : List (List Row)) (o : Op) : Rat :=
  (List.zipWith (fun g (_ : Unit) => freq groups g * ym.eval (confusion o g)) groups
    (List.replicate groups.length ())).sum

/-- (d) **ge_constant**: the fitted rule is never worse than the all-negative (`> +inf`) or the all-positive
    (`> -inf`) constant classifier -/
theorem ge_constant (flip : Bool) (xm ym : Metric) (N : Nat) (groups : List (List Row)) (fit : Fit)
    (hN : 1 ≤ N) (hx : IsConstraintMetric xm)
    (hfit : fitSimple flip xm ym N groups none = some fit) :
    constObjective ym groups ⟨true, .pinf⟩ ≤ fit.objective ∧ constObjective ym groups ⟨true, .ninf⟩ ≤ fit.objective := by
  obtain ⟨_, _, p⟩ := fitSimple_some hfit
  have hb := hullsOf_bothLabels p.hulls_eq
  -- a constant classifier with x = grid[i] in every group is, in every group, a tradeoff point: a one-point mixture
  have key : ∀ (o : Op) (i : Nat), i ≤ N → o.gt = true → (∀ g ∈ groups, xm.eval (confusion o g) = gridVal N i) →
      constObjective ym groups o ≤ fit.objective := by
    intro o i hi hgt hP
    refine optimal_simple_of_dominated flip xm ym N groups fit hx hfit i hi (fun g _ => ym.eval (confusion o g)) _
      List.length_replicate fun j hj _ H r gc hs => ?_
    obtain ⟨p, hp, hpx, hpy⟩ := exists_rawPoint_of_op flip xm ym groups[j] o (Or.inl hgt)
    obtain ⟨hv, hmx, hmy⟩ := Mixture.single hp
    rw [← hpy, ← hmy]
    exact interp_dominates gc hs _ hv (hmx.trans (hpx.trans (hP _ (List.getElem_mem hj))))
  have h0 := (gridVal_zero N).symm
  have h1 := (gridVal_self hN).symm
  -- which constant sits at x = 0 = grid[0] and which at x = 1 = grid[N] depends on the metric only
  rcases constraint_extremes xm hx with hE | hE <;>
    have hE' := fun g hg => hE (nNeg g) (nPos g) (hb g hg).2 (hb g hg).1
  · exact ⟨key _ 0 (Nat.zero_le N) rfl fun g hg => confusion_pinf g ▸ (hE' g hg).1.trans h0,
      key _ N (le_refl N) rfl fun g hg => confusion_ninf g ▸ (hE' g hg).2.trans h1⟩
  · exact ⟨key _ N (le_refl N) rfl fun g hg => confusion_pinf g ▸ (hE' g hg).1.trans h1,
      key _ 0 (Nat.zero_le N) rfl fun g hg => confusion_ninf g ▸ (hE' g hg).2.trans h0⟩

/-- both admissible equalized-odds objectives are non-decreasing in the common TPR at fixed FPR (generated table) -/
theorem eo_objective_monotone (obj : Metric) (hobj : obj ∈ objectivesEO) (groups : List (List Row)) (x y y' : Rat)
    (hy : y ≤ y') : objEO obj groups x y ≤ objEO obj groups x y' :=
  objEO_mono obj hobj groups x y y' hy

/-- (e) **optimal_EO**: if every group can realise the same ROC point `(i/N, y)` by some mixture of its threshold
    rules, then `y` is at most the pointwise-lowest hull at `i/N`, and the overall objective of `(i/N, y)` is at
    most the objective of the fitted rule, which sits at `(iBest/N, yBest)` (see `C04.parity_EO`) -/
theorem optimal_EO_any_grid (flip : Bool) (obj : Metric) (hobj : obj ∈ objectivesEO) (N : Nat) (groups : List (List Row))
    (fit : Fit) (yBest : Rat)
    (hfit : fitEO flip obj N groups none = some (fit, yBest))
    (i : Nat) (hi : i ≤ N) (y : Rat)
    (hms : ∀ j (hj : j < groups.length), ∃ m : Mixture,
      m.Valid (rawPoints flip eoXMetric eoYMetric groups[j]) ∧ m.x = gridVal N i ∧ m.y = y) :
    fit.objective = objEO obj groups (gridVal N fit.iBest) yBest ∧
    objEO obj groups (gridVal N i) y ≤ fit.objective := by
  obtain ⟨hulls, cs, ymins, hh, hc, hy, hb, hyb, _, hobjv, hib⟩ := fitEO_some hfit
  obtain ⟨hylen, hyget⟩ := allSome_map_get hy
  have hclen := (curves_some hc).1
  have hi' : i < cs.length := hclen ▸ Nat.lt_succ_of_le hi
  have hiy : i < ymins.length := hylen ▸ hi'
  obtain ⟨hrow, hent⟩ := curves_rowSound eo_metric_is_constraint hh hc i hi'
  -- `y` is below every group's interpolated TPR, hence below their minimum
  obtain ⟨hmem, _⟩ := minList_spec _ _ (hyget i hi' hiy)
  have hyle : y ≤ ymins[i] := by
    obtain ⟨r, hr, hry⟩ := List.mem_map.mp hmem
    obtain ⟨j, hjb, rfl⟩ := List.getElem_of_mem hr
    obtain ⟨H, gc, hs⟩ := hent j (hrow ▸ hjb) hjb
    obtain ⟨m, hv, hmx, hmy⟩ := hms j (hrow ▸ hjb)
    exact hry ▸ hmy ▸ interp_dominates gc hs m hv hmx
  exact ⟨hobjv, (objEO_mono obj hobj groups (gridVal N i) y _ hyle).trans
    ((argmax_EO (hylen.trans hclen) hyb hobjv hib).1 i hiy)⟩

/-- the case `N ≥ 1` of `optimal_EO_any_grid` -/
theorem optimal_EO (flip : Bool) (obj : Metric) (hobj : obj ∈ objectivesEO) (N : Nat) (groups : List (List Row))
    (fit : Fit) (yBest : Rat) (hN : 1 ≤ N)
    (hfit : fitEO flip obj N groups none = some (fit, yBest))
    (i : Nat) (hi : i ≤ N) (y : Rat)
    (hms : ∀ j (hj : j < groups.length), ∃ m : Mixture,
      m.Valid (rawPoints flip eoXMetric eoYMetric groups[j]) ∧ m.x = gridVal N i ∧ m.y = y) :
    fit.objective = objEO obj groups (gridVal N fit.iBest) yBest ∧
    objEO obj groups (gridVal N i) y ≤ fit.objective :=
  optimal_EO_any_grid flip obj hobj N groups fit yBest hfit i hi y hms

/-- the objective reported for equalized odds IS the objective metric of the overall expected confusion counts of
    the fitted randomised rule on the whole training set (sum over groups of each group's rule on its own rows) -/
theorem objective_attained_EO_any_grid (flip : Bool) (obj : Metric) (N : Nat) (groups : List (List Row))
    (force : Option Nat) (fit : Fit) (yBest : Rat)
    (hfit : fitEO flip obj N groups force = some (fit, yBest)) :
    fit.objective = obj.eval (overallCM groups fit.rules) := by
  obtain ⟨hb, _, hlen, hpar⟩ := C04.parity_EO_any_grid flip obj N groups force fit yBest hfit
  obtain ⟨_, _, _, p⟩ := fitEO_some hfit
  rw [p.objective_eq]
  rw [objEO_eq]
  rw [overallCM_eq (gridVal N fit.iBest) yBest groups fit.rules hlen]
  intro j hj hj'
  have hg := hb groups[j] (List.getElem_mem hj)
  exact ⟨hg.1, hg.2, (hpar j hj hj').1, (hpar j hj hj').2.1⟩

/-- the case `N ≥ 1` of `objective_attained_EO_any_grid` -/
theorem objective_attained_EO (flip : Bool) (obj : Metric) (N : Nat) (groups : List (List Row))
    (force : Option Nat) (fit : Fit) (yBest : Rat) (hN : 1 ≤ N)
    (hfit : fitEO flip obj N groups force = some (fit, yBest)) :
    fit.objective = obj.eval (overallCM groups fit.rules) :=
  objective_attained_EO_any_grid flip obj N groups force fit yBest hfit


/-! ### The comparison class FROM FIRST PRINCIPLES

`optimal_simple` / `optimal_EO` above quantify over `Mixture`s of tradeoff POINTS.  The property text quantifies over "all
rules that randomise, separately per group, over thresholdings of the scores (and flipped thresholdings when flip=True)".
Such a rule is an `OpMix`: any finite list of `ThresholdOperation`s — ARBITRARY thresholds (finite, ±inf, equal to a score),
operator "<" only when `flip` — with weights ≥ 0 summing to 1; its probability of predicting 1 is `OpMix.prob`, and its
expected metrics are computed FROM THE ROWS (`m.eval (expCM prob rows)`), exactly like `expectedMetric` of the fitted rule. -/

/-- every randomised threshold rule of a group has, on the group's rows, the expected metric pair of a valid mixture of
    tradeoff points (sweep completeness + n-ary affinity of every METRIC_DICT entry) -/
theorem randomised_rule_is_mixture (flip : Bool) (xm ym : Metric) (rows : List Row) (m : OpMix) (hv : m.Valid flip) :
    ∃ M : Mixture, M.Valid (rawPoints flip xm ym rows) ∧
      M.x = xm.eval (expCM m.prob rows) ∧ M.y = ym.eval (expCM m.prob rows) :=
  opMix_to_mixture flip xm ym rows m hv

/-- frequency-weighted expected objective of a family of per-group randomised threshold rules, from the rows -/
def opsObjective (ym : Metric) (groups : List (List Row)) (ms : List OpMix) : Rat :=
  (List.zipWith (fun g (m : OpMix) => freq groups g * ym.eval (expCM m.prob g)) groups ms).sum

/-- **optimal_simple, full comparison class**: take ANY family of per-group randomised threshold rules (finite mixtures
    of arbitrary `>`-thresholdings, and `<`-thresholdings when `flip`) whose expected constrained metric, computed on each
    group's own rows, is the same grid value `i/N` in every group.  Its group-frequency-weighted expected objective is at
    most the objective of the fitted rule (which by `objective_attained_simple` is the same functional of the fitted rules). -/
theorem optimal_simple_ops_any_grid (flip : Bool) (xm ym : Metric) (N : Nat) (groups : List (List Row)) (fit : Fit) (hx : IsConstraintMetric xm)
    (hfit : fitSimple flip xm ym N groups none = some fit)
    (i : Nat) (hi : i ≤ N) (ms : List OpMix) (hlen : ms.length = groups.length)
    (hms : ∀ j (hj : j < groups.length) (hj' : j < ms.length),
      ms[j].Valid flip ∧ xm.eval (expCM ms[j].prob groups[j]) = gridVal N i) :
    opsObjective ym groups ms ≤ fit.objective := by
  refine optimal_simple_of_dominated flip xm ym N groups fit hx hfit i hi
    (fun g (m : OpMix) => ym.eval (expCM m.prob g)) ms hlen fun j hj hj' H r gc hs => ?_
  obtain ⟨M, hMv, hMx, hMy⟩ := opMix_to_mixture flip xm ym groups[j] ms[j] (hms j hj hj').1
  exact hMy ▸ interp_dominates gc hs M hMv (hMx.trans (hms j hj hj').2)

/-- the case `N ≥ 1` of `optimal_simple_ops_any_grid` -/
theorem optimal_simple_ops (flip : Bool) (xm ym : Metric) (N : Nat) (groups : List (List Row)) (fit : Fit)
    (hN : 1 ≤ N) (hx : IsConstraintMetric xm)
    (hfit : fitSimple flip xm ym N groups none = some fit)
    (i : Nat) (hi : i ≤ N) (ms : List OpMix) (hlen : ms.length = groups.length)
    (hms : ∀ j (hj : j < groups.length) (hj' : j < ms.length),
      ms[j].Valid flip ∧ xm.eval (expCM ms[j].prob groups[j]) = gridVal N i) :
    opsObjective ym groups ms ≤ fit.objective :=
  optimal_simple_ops_any_grid flip xm ym N groups fit hx hfit i hi ms hlen hms

/-- **optimal_EO, full comparison class**: ANY family of per-group randomised threshold rules that gives every group the
    same expected FPR `i/N` (a grid value) and the same expected TPR `y`, both computed on the group's own rows, has an
    overall objective — the objective metric of the OVERALL expected confusion counts on the whole training set — at most
    the fitted rule's, which by `objective_attained_EO` is the same functional of the fitted rules -/
theorem optimal_EO_ops_any_grid (flip : Bool) (obj : Metric) (hobj : obj ∈ objectivesEO) (N : Nat) (groups : List (List Row))
    (fit : Fit) (yBest : Rat)
    (hfit : fitEO flip obj N groups none = some (fit, yBest))
    (i : Nat) (hi : i ≤ N) (y : Rat) (ms : List OpMix) (hlen : ms.length = groups.length)
    (hms : ∀ j (hj : j < groups.length) (hj' : j < ms.length),
      ms[j].Valid flip ∧ eoXMetric.eval (expCM ms[j].prob groups[j]) = gridVal N i ∧
      eoYMetric.eval (expCM ms[j].prob groups[j]) = y) :
    obj.eval (overallCMp groups (ms.map OpMix.prob)) ≤ obj.eval (overallCM groups fit.rules) := by
  obtain ⟨hb, _, _, _⟩ := C04.parity_EO_any_grid flip obj N groups none fit yBest hfit
  rw [← objective_attained_EO_any_grid flip obj N groups none fit yBest hfit]
  have hcm : overallCMp groups (ms.map OpMix.prob) = eoCounts (totalNeg groups) (totalPos groups) (gridVal N i) y := by
    apply overallCMp_eq (gridVal N i) y groups _ (by simpa using hlen)
    intro j hj hj'
    have hg := hb groups[j] (List.getElem_mem hj)
    have hja : j < ms.length := by omega
    simp only [List.getElem_map]
    exact ⟨hg.1, hg.2, (hms j hj hja).2.1, (hms j hj hja).2.2⟩
  rw [hcm, ← objEO_eq]
  refine (optimal_EO_any_grid flip obj hobj N groups fit yBest hfit i hi y ?_).2
  intro j hj
  have hja : j < ms.length := by omega
  obtain ⟨hv, h1, h2⟩ := hms j hj hja
  obtain ⟨M, hMv, hMx, hMy⟩ := opMix_to_mixture flip eoXMetric eoYMetric groups[j] ms[j] hv
  exact ⟨M, hMv, hMx.trans h1, hMy.trans h2⟩

/-- the case `N ≥ 1` of `optimal_EO_ops_any_grid` -/
theorem optimal_EO_ops (flip : Bool) (obj : Metric) (hobj : obj ∈ objectivesEO) (N : Nat) (groups : List (List Row))
    (fit : Fit) (yBest : Rat) (hN : 1 ≤ N)
    (hfit : fitEO flip obj N groups none = some (fit, yBest))
    (i : Nat) (hi : i ≤ N) (y : Rat) (ms : List OpMix) (hlen : ms.length = groups.length)
    (hms : ∀ j (hj : j < groups.length) (hj' : j < ms.length),
      ms[j].Valid flip ∧ eoXMetric.eval (expCM ms[j].prob groups[j]) = gridVal N i ∧
      eoYMetric.eval (expCM ms[j].prob groups[j]) = y) :
    obj.eval (overallCMp groups (ms.map OpMix.prob)) ≤ obj.eval (overallCM groups fit.rules) :=
  optimal_EO_ops_any_grid flip obj hobj N groups fit yBest hfit i hi y ms hlen hms

/-- **ge_constant for equalized odds**: the fitted rule's overall objective is at least that of the all-negative and of the
    all-positive constant classifier (overall objective of the whole training set predicted constantly 0 resp. 1) -/
theorem ge_constant_EO (flip : Bool) (obj : Metric) (hobj : obj ∈ objectivesEO) (N : Nat) (groups : List (List Row))
    (fit : Fit) (yBest : Rat) (hN : 1 ≤ N)
    (hfit : fitEO flip obj N groups none = some (fit, yBest)) :
    obj.eval (overallCMp groups (groups.map (fun _ => fun _ => (0 : Rat)))) ≤ fit.objective ∧
    obj.eval (overallCMp groups (groups.map (fun _ => fun _ => (1 : Rat)))) ≤ fit.objective := by
  obtain ⟨hb, _, _, _⟩ := C04.parity_EO flip obj N groups none fit yBest hN hfit
  -- the constant `c` has FPR = TPR = `c` in every group, and `(c, c)` is a corner of every group's ROC sweep
  have key : ∀ (c : Rat) (i : Nat), i ≤ N → gridVal N i = c →
      (∀ g ∈ groups, ∃ p ∈ rawPoints flip eoXMetric eoYMetric g, p.x = c ∧ p.y = c) →
      obj.eval (overallCMp groups (groups.map (fun _ => fun _ => c))) ≤ fit.objective := by
    intro c i hi hgi hP
    subst hgi
    rw [overallCMp_eq _ _ groups _ (List.length_map _) fun j hj hj' => by
      have hg := hb _ (List.getElem_mem hj)
      rw [List.getElem_map]; exact ⟨hg.1, hg.2, const_rates _ _ hg.1 hg.2⟩, ← objEO_eq]
    refine (optimal_EO flip obj hobj N groups fit yBest hN hfit i hi _ fun j hj => ?_).2
    obtain ⟨p, hp, hpx, hpy⟩ := hP _ (List.getElem_mem hj)
    obtain ⟨hv, hmx, hmy⟩ := Mixture.single hp
    exact ⟨_, hv, hmx.trans hpx, hmy.trans hpy⟩
  have hc := fun g hg => roc_corners flip g (hb g hg).1 (hb g hg).2
  exact ⟨key 0 0 (Nat.zero_le N) (gridVal_zero N) fun g hg =>
      let ⟨p, hp, _, _, hx, hy, _, _⟩ := hc g hg; ⟨p, hp, hx, hy⟩,
    key 1 N (le_refl N) (gridVal_self hN) fun g hg => let ⟨_, _, p, hp, _, _, hx, hy⟩ := hc g hg; ⟨p, hp, hx, hy⟩⟩

/-! ### "... the fitted rule ATTAINS the maximum": the fitted rule is itself a member of the comparison class -/

/-- the fitted Bunch of one group written as a randomisation over thresholdings: the two interpolated operations, and for
    equalized odds the constant `prediction_constant = c` drawn with probability `p_ignore`, i.e. "predict 1" (`> -inf`)
    with weight `p_ignore * c` and "predict 0" (`> +inf`) with weight `p_ignore * (1 - c)` -/
def ruleOps (r : Rule) : OpMix :=
  match r.ign with
  | none => [(r.p0, r.op0), (r.p1, r.op1)]
  | some (pi, c) =>
    [((1 - pi) * r.p0, r.op0), ((1 - pi) * r.p1, r.op1), (pi * c, ⟨true, .ninf⟩), (pi * (1 - c), ⟨true, .pinf⟩)]

/-- ... and it predicts 1 with exactly the probability `_pmf_predict` reports -/
theorem ruleOps_prob (r : Rule) : (ruleOps r).prob = ruleProb r := by
  funext s
  rw [src_ruleProb]
  unfold ruleOps OpMix.prob
  rcases hr : r.ign with _ | ⟨pi, c⟩
  · simp only [List.map_cons, List.map_nil, List.sum_cons, List.sum_nil]; ring
  · have h1 : ind ((⟨true, .ninf⟩ : Op).apply s) = 1 := rfl
    have h0 : ind ((⟨true, .pinf⟩ : Op).apply s) = 0 := rfl
    simp only [List.map_cons, List.map_nil, List.sum_cons, List.sum_nil, h1, h0]
    ring

/-- ... and it is a member of the comparison class under the conditions that make the Bunch a valid rule
    (`ThresholdPredict.toPmfRule_valid`), provided its two operations are admitted -/
theorem _root_.Threshold.ruleOps_valid {flip : Bool} (r : Rule) (h0 : 0 ≤ r.p0) (h1 : 0 ≤ r.p1) (hs : r.p0 + r.p1 = 1)
    (ho0 : r.op0.gt = true ∨ flip = true) (ho1 : r.op1.gt = true ∨ flip = true)
    (hign : ∀ pi c, r.ign = some (pi, c) → 0 ≤ pi ∧ pi ≤ 1 ∧ 0 ≤ c ∧ c ≤ 1) : (ruleOps r).Valid flip := by
  unfold ruleOps
  rcases hr : r.ign with _ | ⟨pi, c⟩
  · exact ⟨List.forall_mem_cons.mpr ⟨⟨h0, ho0⟩, List.forall_mem_cons.mpr ⟨⟨h1, ho1⟩,
      fun _ h => absurd h List.not_mem_nil⟩⟩, by simp [OpMix.weight, hs]⟩
  · obtain ⟨a, b, c0, c1⟩ := hign pi c hr
    have hq := sub_nonneg.mpr b
    refine ⟨List.forall_mem_cons.mpr ⟨⟨mul_nonneg hq h0, ho0⟩, List.forall_mem_cons.mpr
      ⟨⟨mul_nonneg hq h1, ho1⟩, List.forall_mem_cons.mpr ⟨⟨mul_nonneg a c0, Or.inl rfl⟩,
        List.forall_mem_cons.mpr ⟨⟨mul_nonneg a (sub_nonneg.mpr c1), Or.inl rfl⟩,
          fun _ h => absurd h List.not_mem_nil⟩⟩⟩⟩, ?_⟩
    simp only [OpMix.weight, List.map_cons, List.map_nil, List.sum_cons, List.sum_nil, eq_sub_of_add_eq' hs]
    ring

/-- **attainment, simple constraints**: the fitted rules form a member of the comparison class of `optimal_simple_ops` —
    valid randomisations over (flip-allowed) thresholdings, common constraint value `iBest / N` computed from the rows — and
    the class objective of this member IS `fit.objective`.  With `optimal_simple_ops`: the fitted rule attains the maximum. -/
theorem fitted_rule_attains_simple_any_grid (flip : Bool) (xm ym : Metric) (N : Nat) (groups : List (List Row)) (force : Option Nat)
    (fit : Fit) (hx : IsConstraintMetric xm)
    (hfit : fitSimple flip xm ym N groups force = some fit) :
    (fit.rules.map ruleOps).length = groups.length ∧ fit.iBest ≤ N ∧
    (∀ j (hj : j < groups.length) (hj' : j < fit.rules.length),
      (ruleOps fit.rules[j]).Valid flip ∧
      xm.eval (expCM (ruleOps fit.rules[j]).prob groups[j]) = gridVal N fit.iBest) ∧
    opsObjective ym groups (fit.rules.map ruleOps) = fit.objective := by
  obtain ⟨_, hiN, hrl, hpar⟩ := C04.parity_simple_any_grid flip xm ym N groups force fit hx hfit
  obtain ⟨_, _, hrules, hrow⟩ := fitSimple_sound hx hfit
  refine ⟨by rw [List.length_map]; exact hrl, hiN, fun j hj hj' => ?_, ?_⟩
  · have hjb : j < fit.interps.length := hrow.1 ▸ hj
    obtain ⟨H, gc, hs⟩ := hrow.2 j hj hjb
    obtain ⟨ho0, ho1⟩ := interp_ops_allowed gc hs
    refine ⟨?_, by rw [ruleOps_prob]; exact (hpar j hj hj').1⟩
    rw [getElem_of_eq_map hrules j hj' hjb]
    exact ruleOps_valid _ hs.p0_nonneg hs.p1_nonneg hs.sum_one ho0 ho1 fun _ _ h => by cases h
  · rw [objective_attained_simple_any_grid flip xm ym N groups force fit hx hfit]
    unfold opsObjective
    refine zipWith_sum_eq groups _ _ (fit.rules.map ruleOps) fit.rules (by rw [List.length_map]; exact hrl) hrl
      fun j hj hja hjb => ?_
    rw [List.getElem_map, ruleOps_prob]
    rfl

/-- the case `N ≥ 1` of `fitted_rule_attains_simple_any_grid` -/
theorem fitted_rule_attains_simple (flip : Bool) (xm ym : Metric) (N : Nat) (groups : List (List Row)) (force : Option Nat)
    (fit : Fit) (hN : 1 ≤ N) (hx : IsConstraintMetric xm)
    (hfit : fitSimple flip xm ym N groups force = some fit) :
    (fit.rules.map ruleOps).length = groups.length ∧ fit.iBest ≤ N ∧
    (∀ j (hj : j < groups.length) (hj' : j < fit.rules.length),
      (ruleOps fit.rules[j]).Valid flip ∧
      xm.eval (expCM (ruleOps fit.rules[j]).prob groups[j]) = gridVal N fit.iBest) ∧
    opsObjective ym groups (fit.rules.map ruleOps) = fit.objective :=
  fitted_rule_attains_simple_any_grid flip xm ym N groups force fit hx hfit

/-- **attainment, equalized odds**: every fitted Bunch (interpolation + `p_ignore` towards the constant `x_best`) is a valid
    randomisation over thresholdings with expected FPR `x_best` and TPR `y_best` from the rows, and the overall objective of
    this family is `fit.objective` -/
theorem fitted_rule_attains_EO_any_grid (flip : Bool) (obj : Metric) (N : Nat) (groups : List (List Row)) (force : Option Nat)
    (fit : Fit) (yBest : Rat)
    (hfit : fitEO flip obj N groups force = some (fit, yBest)) :
    (∀ j (hj : j < groups.length) (hj' : j < fit.rules.length),
      (ruleOps fit.rules[j]).Valid flip ∧
      eoXMetric.eval (expCM (ruleOps fit.rules[j]).prob groups[j]) = gridVal N fit.iBest ∧
      eoYMetric.eval (expCM (ruleOps fit.rules[j]).prob groups[j]) = yBest) ∧
    obj.eval (overallCMp groups ((fit.rules.map ruleOps).map OpMix.prob)) = fit.objective := by
  obtain ⟨_, hiN, hrl, hpar⟩ := C04.parity_EO_any_grid flip obj N groups force fit yBest hfit
  obtain ⟨_, _, hrules, hrow, _⟩ := fitEO_sound hfit
  refine ⟨fun j hj hj' => ?_, ?_⟩
  · have hjb : j < fit.interps.length := hrow.1 ▸ hj
    obtain ⟨H, gc, hs⟩ := hrow.2 j hj hjb
    obtain ⟨ho0, ho1⟩ := interp_ops_allowed gc hs
    obtain ⟨ex, ey, pi, c, hign, hp0, hp1, hcv⟩ := hpar j hj hj'
    refine ⟨?_, by rw [ruleOps_prob]; exact ex, by rw [ruleOps_prob]; exact ey⟩
    rw [getElem_of_eq_map hrules j hj' hjb] at hign ⊢
    cases hign
    exact ruleOps_valid _ hs.p0_nonneg hs.p1_nonneg hs.sum_one ho0 ho1 fun _ _ h => by
      cases h; exact ⟨hp0, hp1, gridVal_nonneg N fit.iBest, gridVal_le_one hiN⟩
  · rw [objective_attained_EO_any_grid flip obj N groups force fit yBest hfit, overallCM_eq_overallCMp]
    simp only [List.map_map, Function.comp_def, ruleOps_prob]

/-- the case `N ≥ 1` of `fitted_rule_attains_EO_any_grid` -/
theorem fitted_rule_attains_EO (flip : Bool) (obj : Metric) (N : Nat) (groups : List (List Row)) (force : Option Nat)
    (fit : Fit) (yBest : Rat) (hN : 1 ≤ N)
    (hfit : fitEO flip obj N groups force = some (fit, yBest)) :
    (∀ j (hj : j < groups.length) (hj' : j < fit.rules.length),
      (ruleOps fit.rules[j]).Valid flip ∧
      eoXMetric.eval (expCM (ruleOps fit.rules[j]).prob groups[j]) = gridVal N fit.iBest ∧
      eoYMetric.eval (expCM (ruleOps fit.rules[j]).prob groups[j]) = yBest) ∧
    obj.eval (overallCMp groups ((fit.rules.map ruleOps).map OpMix.prob)) = fit.objective :=
  fitted_rule_attains_EO_any_grid flip obj N groups force fit yBest hfit

/-! ### Non-vacuity -/

def gA : List Row := [⟨1, true⟩, ⟨1, true⟩, ⟨1/2, false⟩, ⟨1/2, true⟩, ⟨0, false⟩]
def gB : List Row := [⟨1, true⟩, ⟨3/4, false⟩, ⟨1/2, true⟩, ⟨1/4, false⟩, ⟨1/4, false⟩, ⟨0, false⟩]
def gC : List Row := [⟨1, true⟩, ⟨1, true⟩, ⟨1, false⟩, ⟨0, false⟩, ⟨0, true⟩, ⟨0, false⟩]
def ex : List (List Row) := [gA, gB, gC]

-- the fit of `optimal_simple` exists, picks an interior grid point and beats both constant classifiers strictly
example : (fitSimple true .false_positive_rate .accuracy_score 5 ex none).map (fun f => (f.iBest, f.objective)) =
    some (1, 63/85) := by decide +kernel
example : constObjective .accuracy_score ex ⟨true, .pinf⟩ = 9/17 ∧
    constObjective .accuracy_score ex ⟨true, .ninf⟩ = 8/17 := by decide +kernel
-- a competing family: every group thresholded at "> -inf" (x = 1 = grid[5]) is a valid family with objective 8/17
example : mixObjective ex (ex.map (fun g => [((1 : Rat), (⟨1, Metric.eval .accuracy_score (confusion ⟨true, .ninf⟩ g),
    ⟨true, .ninf⟩⟩ : Pt))])) = 8/17 := by decide +kernel
example : Metric.accuracy_score ∈ objectivesEO ∧ Metric.balanced_accuracy_score ∈ objectivesEO := by decide +kernel
example : (fitEO false .accuracy_score 4 ex none).map (fun f => (f.1.iBest, f.2, f.1.objective)) =
    some (1, 1/2, 43/68) := by decide +kernel
-- the hull of gA has three edges and supports all 4 tradeoff points
example : (tradeoffPoints false .false_positive_rate .true_positive_rate gA).map
    (fun pts => ((upperHull pts).length, pts.length, supportsAll (upperHull pts) pts)) = some (4, 4, true) := by
  decide +kernel

-- arg-max tie rule: two uninformative groups, every grid point has balanced accuracy 1/2 (grid index 3 forced: same
-- objective); the fit picks the FIRST one, index 0
def tie : List (List Row) := [[⟨1, true⟩, ⟨1, false⟩], [⟨0, true⟩, ⟨0, false⟩, ⟨0, true⟩]]
example : (fitSimple false .selection_rate .balanced_accuracy_score 4 tie none).map (fun f => (f.iBest, f.objective)) =
    some (0, 1/2) ∧
    (fitSimple false .selection_rate .balanced_accuracy_score 4 tie (some 3)).map (fun f => (f.iBest, f.objective)) =
    some (3, 1/2) := by decide +kernel

-- hypotheses of `optimal_simple_ops` / `optimal_EO_ops` met SIMULTANEOUSLY by a randomised, non-constant
-- competitor on the 3-group example with ties: toss a fair coin between "all negative" and "all positive" ...
def mHalf : OpMix := [(1/2, ⟨true, .pinf⟩), (1/2, ⟨true, .ninf⟩)]
-- ... or, with flip, mix a threshold ON a training score (1/2) with a flipped thresholding
def mFlip : OpMix := [(1/4, ⟨true, .fin (1/2)⟩), (3/4, ⟨false, .fin (3/4)⟩)]
example : mHalf.Valid false ∧ mFlip.Valid true ∧ ¬ mFlip.Valid false := by
  refine ⟨⟨by decide +kernel, by decide +kernel⟩, ⟨by decide +kernel, by decide +kernel⟩, fun h => ?_⟩
  have := (h.1 (3/4, ⟨false, .fin (3/4)⟩) (by simp [mFlip])).2
  simp at this
example : (fitSimple false .selection_rate .accuracy_score 2 ex none).map (fun f => (f.iBest, f.objective)) =
    some (1, 13/17) := by decide +kernel
example : ∀ g ∈ ex, Metric.eval .selection_rate (expCM mHalf.prob g) = gridVal 2 1 := by decide +kernel
example : opsObjective .accuracy_score ex [mHalf, mHalf, mHalf] = 1/2 := by decide +kernel
-- equalized odds: the same family has FPR = TPR = 1/2 = grid[2] of 4 in every group; its overall accuracy 1/2 < 43/68
example : ∀ g ∈ ex, Metric.eval eoXMetric (expCM mHalf.prob g) = gridVal 4 2 ∧
    Metric.eval eoYMetric (expCM mHalf.prob g) = 1/2 := by decide +kernel
example : Metric.eval .accuracy_score (overallCMp ex ([mHalf, mHalf, mHalf].map OpMix.prob)) = 1/2 := by decide +kernel
-- a rule of the class that is NOT a tradeoff point itself (threshold on a score, flipped part): its metric pair from the rows
example : (Metric.eval .false_positive_rate (expCM mFlip.prob gB), Metric.eval .true_positive_rate (expCM mFlip.prob gB)) =
    (5/8, 1/2) := by decide +kernel

-- attainment: the fitted family, written as randomisations over thresholdings, has class objective = fit.objective
example : (fitSimple false .selection_rate .accuracy_score 2 ex none).map
    (fun f => opsObjective .accuracy_score ex (f.rules.map ruleOps)) = some (13/17) := by decide +kernel
example : (fitEO false .accuracy_score 4 ex none).map (fun f =>
      (f.1.rules.map (fun r => (ruleOps r).weight),
       Metric.eval .accuracy_score (overallCMp ex ((f.1.rules.map ruleOps).map OpMix.prob)))) =
    some ([1, 1, 1], 43/68) := by decide +kernel

-- `*_any_grid` at N = 0 (the one-point grid `[0.]`): the fit succeeds, sits at index 0, and the hypotheses of
-- `optimal_simple_ops_any_grid` are met by the all-negative rule (selection rate 0 = gridVal 0 0) in every group
example : (fitSimple false .selection_rate .accuracy_score 0 ex none).map (fun f => (f.iBest, f.rules.length)) =
    some (0, 3) := by decide +kernel
example : (fitEO false .accuracy_score 0 ex none).map (fun f => (f.1.iBest, f.2)) = some (0, 0) := by decide +kernel
example : ∀ g ∈ ex, Metric.eval .selection_rate (expCM (OpMix.prob [(1, ⟨true, .pinf⟩)]) g) = gridVal 0 0 := by
  decide +kernel

end C05
