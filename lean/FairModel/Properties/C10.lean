/-
C10 — randomised predictors sample from the probability mass function they report.
Property theorems only; helper lemmas live in `Lemmas/Pmf.lean`.

What is random is an input of the model (`u`, the number `RandomState` drew); "frequencies over
seeds match" is therefore stated as: the set of `u ∈ [0,1)` on which an outcome is produced is an
interval whose length is the reported probability.  The uniformity of the generator is trusted.

The hypotheses on a fitted rule (`Rule.Valid`) are a decidable predicate (`Rule.valid`, see `valid_iff`) that the
driver evaluates on every fitted model the harness produces; for the models of `Model/Threshold.lean` they are
DERIVED from the fitting code (`fitted_rules_valid_simple / _EO`), so the `fitted_*` theorems below carry no
hypothesis beyond "the fit succeeded".

CLAUSE → THEOREM TABLE (property text in properties.jsonl)
  1  reported probabilities are a valid distribution per row (in [0,1], summing to 1)
       thresholder : `thresholder_pmf_range` (any dict of valid rules, seen or unseen group, any score),
                     `fitted_pmf_is_distribution_simple / _EO` (every fitted model, NO further hypothesis),
                     `thresholder_pmf_range_slack` (float slack on p0 + p1)
       EG          : `eg_pmf_range`, `eg_pmf_range_slack`, `eg_pmf_row_distribution` (row `(1 - p, p)`); the sum
                     hypothesis is needed: `eg_pmf_range_needs_sum`.  HYPOTHESES, not derived here:
                     `weights_` is a probability vector over distinct predictor ids and the stored classifiers output
                     values in [0,1]; evaluated by the harness on every fitted model (relation `C10.eg_pmf_range.hyp`);
                     that the EG loop produces such weights is C08's subject.
  2  EG: positive probability = `weights_`-weighted mixture of the stored predictors' outputs
       `eg_pmf_is_mixture`, `eg_pmf_order_irrelevant`; the mask, the `.dot` pairing, the `[1 − p, p]` columns, the
       column `[:, 1]`, the `>=` and the `* 1` of `_pmf_predict` / `predict` are LIFTED (`Generated/EgPredict.lean`) and
       the model computes with them: `eg_mask_lifted`, `eg_dot_lifted`, `eg_pmf_row_lifted`, `eg_predict_label_lifted`,
       `eg_predict_deterministic`
  3  thresholder: depends only on the row's score and group
       `pmf_depends_only_on_score_group`, `thresholder_selects_group`, `thresholder_unseen_group`
       (the model is row-wise BY CONSTRUCTION; what ties the real mask assignment to it is the correspondence
        relation `C10.pmf_depends_only_on_score_group`: permuted / duplicated query rows in another container)
  4  thresholder, without flip: never decreases as the score increases
       `pmf_monotone_noflip` (hypotheses), `fitted_pmf_monotone_noflip_simple / _EO` (every model fitted with
       flip = False); sharpness `flip_not_monotone`
  5  predict returns labels in {0,1}
       `bernoulli_is_label`, `predict_rowwise`
  6  regression moments: the value of ONE STORED predictor, chosen with its OWN weight
       `eg_regression_own_weight` (code = id-aligned draw, pairing lifted), `eg_regression_byid_own_weight`
       (interval of length `weights_[t]`), `eg_regression_returns_stored_value` (never the 0 placeholder of a
       zero-weight predictor), `choice_own_weight`, `choice_total`; old positional code refuted:
       `eg_regression_positional_counterexample`; `eg_regression_own_weight_partial` = the clause for positional code
  7  frequencies over independent seeds match the probabilities — PARTIAL BY NATURE (RNG trusted)
       `bernoulli_iff` (label 1 exactly on u ≤ p: measure p of [0,1) for 0 ≤ p < 1), `choice_own_weight`;
       harness: exact replay of RandomState draws + exact binomial tests + pooled Hoeffding test
  8  reproducible for a fixed random_state
       the model is a FUNCTION of (reported probabilities, draws): `predict_rowwise`, `predict_row_independent`,
       `predict_draw_count`, `bernoulli_reproducible` (congruence — trivial by design); that equal seeds give
       equal draws is RandomState behaviour (trusted), observed by relation `C10.bernoulli_reproducible`
  9  deterministic where the probability is 0 or 1
       `bernoulli_deterministic_one` (all u < 1), `bernoulli_deterministic_zero` (all u > 0; u = 0 — probability
       2⁻⁵³ — gives label 1 because the code compares with `>=`: `example : bernoulli 0 0 = 1`),
       regression: `choice_deterministic`
  Totalisation: `preds.getD t 0` / `weightOf … = 0` defaults are reached only for a predictor id outside
  `0..T-1` (pandas would raise KeyError); `fit` fills `weights_` for exactly the ids `0..T-1`, and the harness
  reports any other index as `C10.eg_pmf_range.hyp`.  `choice` returns an `Option` (no default).
-/
import FairModel.Lemmas.Pmf
import FairModel.Properties.C04

namespace C10
open Pmf

/-! ### InterpolatedThresholder / ThresholdOptimizer -/

/-- what the text LIFTED on every run from `_threshold_operation.py` / `_interpolated_thresholder.py`
    (`Generated/ThresholderSrc.lean`, over which `Model/Pmf.lean` is defined) has to say for the theorems below:
    strict comparisons with the threshold on the right, the interpolation and `p_ignore` mixing expressions, start value 0,
    returned row `[1 - p, p]`, column 1 compared with the draw by `p >= u` -/
theorem src_predict_path (s t p0 o0 p1 o1 pi c v p u : Rat) :
    (ThresholderSrc.opGt s t = true ↔ t < s) ∧ (ThresholderSrc.opLt s t = true ↔ s < t) ∧
    ThresholderSrc.interp p0 o0 p1 o1 = p0 * o0 + p1 * o1 ∧
    ThresholderSrc.withIgnore pi c v = pi * c + (1 - pi) * v ∧
    ThresholderSrc.initialProb s = 0 ∧ ThresholderSrc.col0 p = 1 - p ∧ ThresholderSrc.col1 p = p ∧
    ThresholderSrc.probColumn = 1 ∧ (ThresholderSrc.drawsOne p u = true ↔ u ≤ p) :=
  ⟨src_opGt s t, src_opLt s t, src_interp p0 o0 p1 o1, src_withIgnore pi c v, src_initialProb s, (src_cols p).1,
   (src_cols p).2, src_probColumn, src_drawsOne p u⟩

/-- the decidable predicate the driver evaluates is exactly the hypothesis used below -/
theorem valid_decides (eps : Rat) (r : Rule) : r.valid eps = true ↔ r.Valid eps := valid_iff eps r

/-- an equalized-odds style rule with ±inf thresholds -/
def exRule : Rule := ⟨3/4, ⟨.gt, .fin (1/2)⟩, 1/4, ⟨.gt, .pinf⟩, some (1/5, 3/8)⟩
def exDict : List (String × Rule) :=
  [("a", exRule), ("b", ⟨0, ⟨.gt, .ninf⟩, 1, ⟨.gt, .fin (1/4)⟩, none⟩)]

/-- non-vacuity (`thresholder_rule_range`, `thresholder_pmf_range`, `pmf_monotone_noflip`): a two-group dict with a
    genuinely interpolating rule (p0 = 3/4, p_ignore = 1/5), ±inf thresholds, meets ALL hypotheses at once, and the
    value at an interior score is strictly between 0 and 1 -/
example : (∀ e ∈ exDict, e.2.Valid 0) ∧ (∀ e ∈ exDict, e.2.allGt = true) ∧ ((exDict.map (·.1)).Nodup) ∧
    0 < thrPositive exDict "a" (5/8) ∧ thrPositive exDict "a" (5/8) < 1 ∧
    thrPositive exDict "a" (1/4) < thrPositive exDict "a" (5/8) := by
  refine ⟨?_, by decide +kernel, by decide +kernel, by decide +kernel, by decide +kernel, by decide +kernel⟩
  intro e he
  rw [← valid_iff]
  revert e
  decide +kernel

/-- one rule: `p_ignore*c + (1-p_ignore)*(p0*op0(s) + p1*op1(s))` is a probability -/
theorem thresholder_rule_range (r : Rule) (s : Rat) (h : r.Valid 0) :
    0 ≤ r.positive s ∧ r.positive s ≤ 1 :=
  ⟨positive_nonneg 0 r s h, (positive_le 0 (le_refl 0) r s h).trans_eq (add_zero 1)⟩

/-- **the reported row `[1-p, p]` is a valid distribution**, for every dict of valid rules, every
    group (seen at fit time or not) and every score -/
theorem thresholder_pmf_range (dict : List (String × Rule)) (g : String) (s : Rat)
    (h : ∀ e ∈ dict, e.2.Valid 0) :
    0 ≤ (pmfRow (thrPositive dict g s)).2 ∧ (pmfRow (thrPositive dict g s)).2 ≤ 1 ∧
    0 ≤ (pmfRow (thrPositive dict g s)).1 ∧ (pmfRow (thrPositive dict g s)).1 ≤ 1 ∧
    (pmfRow (thrPositive dict g s)).1 + (pmfRow (thrPositive dict g s)).2 = 1 := by
  have hp : 0 ≤ thrPositive dict g s ∧ thrPositive dict g s ≤ 1 := by
    rcases thrPositive_cases dict g s with h0 | ⟨e, he, _, h1⟩
    · rw [h0]; norm_num
    · rw [h1]; exact thresholder_rule_range e.2 s (h e he)
  simp only [pmfRow, (src_cols _).1, (src_cols _).2]
  exact ⟨hp.1, hp.2, sub_nonneg.mpr hp.2, sub_le_self _ hp.1, sub_add_cancel _ _⟩

/-- the same with the rounding slack of the fitted floats (`p0 = 1 - p1` up to `eps`) -/
theorem thresholder_pmf_range_slack (eps : Rat) (heps : 0 ≤ eps) (dict : List (String × Rule))
    (g : String) (s : Rat) (h : ∀ e ∈ dict, e.2.Valid eps) :
    0 ≤ thrPositive dict g s ∧ thrPositive dict g s ≤ 1 + eps := by
  rcases thrPositive_cases dict g s with h0 | ⟨e, he, _, h1⟩
  · rw [h0]; exact ⟨le_refl 0, add_nonneg zero_le_one heps⟩
  · rw [h1]; exact ⟨positive_nonneg eps e.2 s (h e he), positive_le eps heps e.2 s (h e he)⟩

/-- the rule applied to a row is the rule stored under the row's own group key -/
theorem thresholder_selects_group (dict : List (String × Rule)) (g : String) (r : Rule) (s : Rat)
    (hnd : (dict.map (·.1)).Nodup) (hm : (g, r) ∈ dict) : thrPositive dict g s = r.positive s :=
  thrPositive_of_mem dict g r s hnd hm

/-- a group that has no rule keeps the initial `0.0` -/
theorem thresholder_unseen_group (dict : List (String × Rule)) (g : String) (s : Rat)
    (h : ∀ e ∈ dict, g ≠ e.1) : thrPositive dict g s = 0 := by
  unfold thrPositive
  rw [foldl_select (fun r => r.positive s), List.filter_eq_nil_iff.mpr fun e he => by simpa using h e he]
  exact src_initialProb s

/-- **the pmf of a row depends only on its (group, score)**: neither on the other rows of the query
    set nor on its position -/
theorem pmf_depends_only_on_score_group (dict : List (String × Rule))
    (rows rows' : List (String × Rat)) (i j : Nat) (hi : i < rows.length) (hj : j < rows'.length)
    (h : rows[i] = rows'[j]) :
    (thrPmf dict rows)[i]'(by simpa [thrPmf] using hi) = (thrPmf dict rows')[j]'(by simpa [thrPmf] using hj) := by
  simp [thrPmf, h]

/-- **without flip the positive probability never decreases as the score increases**
    (both operations are `>` thresholds; valid weights) -/
theorem pmf_monotone_noflip (eps : Rat) (dict : List (String × Rule)) (g : String) (s s' : Rat)
    (hv : ∀ e ∈ dict, e.2.Valid eps) (hgt : ∀ e ∈ dict, e.2.allGt = true) (hs : s ≤ s') :
    thrPositive dict g s ≤ thrPositive dict g s' := by
  unfold thrPositive
  rw [foldl_select (fun r => r.positive s), foldl_select (fun r => r.positive s'), src_initialProb, src_initialProb]
  cases h : (dict.filter (fun e => g = e.1)).getLast? with
  | none => exact le_refl 0
  | some e =>
    have he := (List.mem_filter.mp (List.mem_of_getLast? h)).1
    exact positive_mono eps e.2 s s' (hv e he) (hgt e he) hs

/-- with a flipped (`<`) operation monotonicity genuinely fails -/
def flippedRule : Rule := ⟨1, ⟨.lt, .fin (1/2)⟩, 0, ⟨.gt, .fin (1/2)⟩, none⟩
theorem flip_not_monotone :
    flippedRule.Valid 0 ∧ ¬ (thrPositive [("a", flippedRule)] "a" 0 ≤ thrPositive [("a", flippedRule)] "a" 1) := by
  constructor
  · rw [← valid_iff]; decide +kernel
  · decide +kernel

/-! ### the hypotheses above are MET by every model `ThresholdOptimizer.fit` produces

`ThresholdPredict.dictOf names fit.rules` is the `interpolation_dict` stored by the fit (`Model/Threshold.lean`), with one
Bunch per sensitive-feature value.  So for fitted models the range / monotonicity theorems hold unconditionally. -/

open Threshold ThresholdGen ThresholdPredict in
/-- every Bunch stored by a successful fit for a simple constraint is a valid rule, and all its operations are `>`
    when `flip = False` -/
theorem fitted_rules_valid_simple (flip : Bool) (xm ym : Metric) (N : Nat) (groups : List (List Row))
    (force : Option Nat) (fit : Fit) (names : List String) (hN : 1 ≤ N) (hx : IsConstraintMetric xm)
    (hfit : fitSimple flip xm ym N groups force = some fit) :
    ∀ e ∈ dictOf names fit.rules, e.2.Valid 0 ∧ (flip = false → e.2.allGt = true) := by
  obtain ⟨_, _, hrules, hrow⟩ := fitSimple_sound hx hfit
  intro e he
  obtain ⟨j, _, hj', hej⟩ := exists_of_mem_dictOf he
  have hjb : j < fit.interps.length := by rwa [hrules, List.length_map] at hj'
  obtain ⟨H, gc, hs⟩ := hrow.2 j (hrow.1 ▸ hjb) hjb
  rw [hej, getElem_of_eq_map hrules j hj' hjb]
  exact ⟨valid_simple hs, fun hf => toPmfRule_allGt _ hf (interp_ops_allowed gc hs).1 (interp_ops_allowed gc hs).2⟩

open Threshold ThresholdGen ThresholdPredict in
/-- the same for equalized odds: additionally `p_ignore ∈ [0,1]` and `prediction_constant = x_best ∈ [0,1]` -/
theorem fitted_rules_valid_EO (flip : Bool) (obj : Metric) (N : Nat) (groups : List (List Row))
    (force : Option Nat) (fit : Fit) (yBest : Rat) (names : List String) (hN : 1 ≤ N)
    (hfit : fitEO flip obj N groups force = some (fit, yBest)) :
    ∀ e ∈ dictOf names fit.rules, e.2.Valid 0 ∧ (flip = false → e.2.allGt = true) := by
  obtain ⟨_, hiN, hrl, hpar⟩ := C04.parity_EO flip obj N groups force fit yBest hN hfit
  obtain ⟨_, _, hrules, hrow, _⟩ := fitEO_sound hfit
  intro e he
  obtain ⟨j, _, hj', hej⟩ := exists_of_mem_dictOf he
  have hjb : j < fit.interps.length := by rwa [hrules, List.length_map] at hj'
  obtain ⟨H, gc, hs⟩ := hrow.2 j (hrow.1 ▸ hjb) hjb
  obtain ⟨pi, c, hign, hp0, hp1, hcv⟩ := (hpar j (hrow.1 ▸ hjb) hj').2.2
  rw [hej]
  rw [getElem_of_eq_map hrules j hj' hjb] at hign ⊢
  cases hign
  exact ⟨valid_eo hs _ _ ⟨hp0, hp1⟩ ⟨gridVal_nonneg N fit.iBest, gridVal_le_one hiN⟩,
    fun hf => toPmfRule_allGt _ hf (interp_ops_allowed gc hs).1 (interp_ops_allowed gc hs).2⟩

open Threshold ThresholdGen ThresholdPredict in
/-- **end to end**: whatever was fitted (simple constraint or equalized odds), whatever the query rows (training rows,
    unseen scores, scores equal to a threshold, unseen sensitive-feature values), `_pmf_predict` of the fitted model
    returns rows `[1 - p, p]` with `0 ≤ p ≤ 1` -/
theorem fitted_pmf_is_distribution (names : List String) (fit : Fit)
    (hv : ∀ e ∈ dictOf names fit.rules, e.2.Valid 0) (rows : List (String × Rat)) :
    ∀ row ∈ predictPmf names fit rows, 0 ≤ row.2 ∧ row.2 ≤ 1 ∧ 0 ≤ row.1 ∧ row.1 ≤ 1 ∧ row.1 + row.2 = 1 := by
  intro row hrow
  unfold predictPmf thrPmf at hrow
  obtain ⟨q, _, rfl⟩ := List.mem_map.mp hrow
  exact thresholder_pmf_range (dictOf names fit.rules) q.1 q.2 hv

open Threshold ThresholdGen ThresholdPredict in
/-- clause 1 for every model fitted with a single-metric constraint — no hypothesis beyond "the fit succeeded" -/
theorem fitted_pmf_is_distribution_simple (flip : Bool) (xm ym : Metric) (N : Nat) (groups : List (List Row))
    (force : Option Nat) (fit : Fit) (names : List String) (hN : 1 ≤ N) (hx : IsConstraintMetric xm)
    (hfit : fitSimple flip xm ym N groups force = some fit) (rows : List (String × Rat)) :
    ∀ row ∈ predictPmf names fit rows, 0 ≤ row.2 ∧ row.2 ≤ 1 ∧ 0 ≤ row.1 ∧ row.1 ≤ 1 ∧ row.1 + row.2 = 1 :=
  fitted_pmf_is_distribution names fit
    (fun e he => (fitted_rules_valid_simple flip xm ym N groups force fit names hN hx hfit e he).1) rows

open Threshold ThresholdGen ThresholdPredict in
/-- ... and for every equalized-odds fit -/
theorem fitted_pmf_is_distribution_EO (flip : Bool) (obj : Metric) (N : Nat) (groups : List (List Row))
    (force : Option Nat) (fit : Fit) (yBest : Rat) (names : List String) (hN : 1 ≤ N)
    (hfit : fitEO flip obj N groups force = some (fit, yBest)) (rows : List (String × Rat)) :
    ∀ row ∈ predictPmf names fit rows, 0 ≤ row.2 ∧ row.2 ≤ 1 ∧ 0 ≤ row.1 ∧ row.1 ≤ 1 ∧ row.1 + row.2 = 1 :=
  fitted_pmf_is_distribution names fit
    (fun e he => (fitted_rules_valid_EO flip obj N groups force fit yBest names hN hfit e he).1) rows

open Threshold ThresholdGen ThresholdPredict in
/-- clause 4 for every model fitted with `flip = False` (single-metric constraint): for every group key (seen or not)
    the reported positive probability is non-decreasing in the score — no further hypothesis -/
theorem fitted_pmf_monotone_noflip_simple (xm ym : Metric) (N : Nat) (groups : List (List Row))
    (force : Option Nat) (fit : Fit) (names : List String) (hN : 1 ≤ N) (hx : IsConstraintMetric xm)
    (hfit : fitSimple false xm ym N groups force = some fit) (g : String) (s s' : Rat) (hs : s ≤ s') :
    thrPositive (dictOf names fit.rules) g s ≤ thrPositive (dictOf names fit.rules) g s' := by
  have h := fitted_rules_valid_simple false xm ym N groups force fit names hN hx hfit
  exact pmf_monotone_noflip 0 _ g s s' (fun e he => (h e he).1) (fun e he => (h e he).2 rfl) hs

open Threshold ThresholdGen ThresholdPredict in
/-- ... and for every equalized-odds model fitted with `flip = False` (the `p_ignore` mixing keeps monotonicity) -/
theorem fitted_pmf_monotone_noflip_EO (obj : Metric) (N : Nat) (groups : List (List Row))
    (force : Option Nat) (fit : Fit) (yBest : Rat) (names : List String) (hN : 1 ≤ N)
    (hfit : fitEO false obj N groups force = some (fit, yBest)) (g : String) (s s' : Rat) (hs : s ≤ s') :
    thrPositive (dictOf names fit.rules) g s ≤ thrPositive (dictOf names fit.rules) g s' := by
  have h := fitted_rules_valid_EO false obj N groups force fit yBest names hN hfit
  exact pmf_monotone_noflip 0 _ g s s' (fun e he => (h e he).1) (fun e he => (h e he).2 rfl) hs

open Threshold ThresholdGen ThresholdPredict in
/-- non-vacuity of the `fitted_*` theorems: the 3-group example of C04 (ties, a vertical hull segment) fits under a
    simple constraint without flip and under equalized odds with flip; the stored dicts are valid, the no-flip one
    has only `>` operations, and both are genuinely randomised (0 < p < 1) at a training score -/
example : (fitSimple false .selection_rate .balanced_accuracy_score 3 C04.ex none).map (fun f =>
      ((dictOf ["a", "b", "c"] f.rules).all (fun e => e.2.valid 0 && e.2.allGt),
       decide (0 < thrPositive (dictOf ["a", "b", "c"] f.rules) "b" (1/2) ∧
               thrPositive (dictOf ["a", "b", "c"] f.rules) "b" (1/2) < 1))) = some (true, true) := by
  decide +kernel
open Threshold ThresholdGen ThresholdPredict in
example : (fitEO true .accuracy_score 4 C04.ex none).map (fun f =>
      ((dictOf ["a", "b", "c"] f.1.rules).all (fun e => e.2.valid 0),
       decide (0 < thrPositive (dictOf ["a", "b", "c"] f.1.rules) "a" (1/2) ∧
               thrPositive (dictOf ["a", "b", "c"] f.1.rules) "a" (1/2) < 1))) = some (true, true) := by
  decide +kernel

/-! ### `predict`: labels row by row from the draws -/

open Threshold ThresholdPredict in
/-- **for ANY sequence of draws** the `i`-th label of `predict` is the Bernoulli rule `[p_i ≥ u_i]` applied to the `i`-th
    row's own reported probability and the `i`-th draw: rows are independent given the draws -/
theorem predict_rowwise (names : List String) (fit : Fit) (rows : List (String × Rat)) (us : List Rat)
    (i : Nat) (hi : i < rows.length) (hu : i < us.length) (h : i < (predictLabels names fit rows us).length) :
    (predictLabels names fit rows us)[i] =
      bernoulli (thrPositive (dictOf names fit.rules) rows[i].1 rows[i].2) us[i] :=
  predictLabels_get names fit rows us i hi hu h

open Threshold ThresholdPredict in
/-- ... so the label of a row depends only on its own (group, score) and its own draw, not on the rest of the query
    set or on the row's position -/
theorem predict_row_independent (names : List String) (fit : Fit) (rows rows' : List (String × Rat))
    (us us' : List Rat) (i j : Nat) (hi : i < rows.length) (hu : i < us.length) (hj : j < rows'.length)
    (hu' : j < us'.length) (hrow : rows[i] = rows'[j]) (hdraw : us[i] = us'[j]) :
    (predictLabels names fit rows us)[i]'(by rw [predictLabels_length]; omega) =
    (predictLabels names fit rows' us')[j]'(by rw [predictLabels_length]; omega) := by
  rw [predict_rowwise names fit rows us i hi hu, predict_rowwise names fit rows' us' j hj hu', hrow, hdraw]

open Threshold ThresholdPredict in
/-- one `predict` call on `n` rows consumes exactly `n` draws (`rand(len(positive_probs))`) and returns `n` labels; two
    calls on the same rows consume the same number, whatever the seed -/
theorem predict_draw_count (names : List String) (fit : Fit) (rows : List (String × Rat)) (us : List Rat)
    (hus : us.length = drawsConsumed rows) :
    drawsConsumed rows = rows.length ∧ (predictLabels names fit rows us).length = rows.length := by
  refine ⟨rfl, ?_⟩
  rw [predictLabels_length, hus]; simp [drawsConsumed]

/-! ### ExponentiatedGradient, classification -/

/-- the reported positive probability is the `weights_`-weighted mixture of the stored predictors'
    outputs, aligned by predictor id -/
theorem eg_pmf_is_mixture (preds : List Rat) (weights : List (Nat × Rat))
    (hnd : (weights.map (·.1)).Nodup) :
    egPositive preds weights = (weights.map (fun e => preds.getD e.1 0 * e.2)).sum :=
  egPositive_eq_sum preds weights hnd

/-- ... so the order in which `weights_` lists the predictors is irrelevant -/
theorem eg_pmf_order_irrelevant (preds : List Rat) (w w' : List (Nat × Rat))
    (hnd : (w.map (·.1)).Nodup) (hperm : w.Perm w') : egPositive preds w = egPositive preds w' := by
  have hnd' : (w'.map (·.1)).Nodup := (hperm.map _).nodup_iff.mp hnd
  rw [egPositive_eq_sum preds w hnd, egPositive_eq_sum preds w' hnd']
  exact (hperm.map _).sum_eq

/-- a non-negative weight vector over predictors with outputs in [0,1] gives `0 ≤ p ≤ Σ weights_`, WITHOUT assuming the
    weights sum to exactly 1 (the LP step returns `weights_` that sum to 1 only up to the
    solver's tolerance; the harness evaluates `|Σ weights_ - 1| ≤ 1e-7`): `0 ≤ p ≤ Σ weights_ ≤ 1 + eps` -/
theorem eg_pmf_range_slack (preds : List Rat) (weights : List (Nat × Rat)) (eps : Rat)
    (hnd : (weights.map (·.1)).Nodup) (hw : ∀ e ∈ weights, 0 ≤ e.2)
    (hsum : (weights.map (·.2)).sum ≤ 1 + eps)
    (hp : ∀ e ∈ weights, 0 ≤ preds.getD e.1 0 ∧ preds.getD e.1 0 ≤ 1) :
    0 ≤ egPositive preds weights ∧ egPositive preds weights ≤ 1 + eps := by
  rw [egPositive_eq_sum preds weights hnd]
  have := sum_mul_le_sum_of_le_one (weights.map (fun e => (preds.getD e.1 0, e.2))) (by
    intro x hx
    obtain ⟨e, he, rfl⟩ := List.mem_map.mp hx
    exact ⟨(hp e he).1, (hp e he).2, hw e he⟩)
  simp only [List.map_map, Function.comp_def] at this
  exact ⟨this.1, le_trans this.2 hsum⟩

/-- **a probability vector over predictors with outputs in [0,1] (in particular 0/1) gives a
    probability** -/
theorem eg_pmf_range (preds : List Rat) (weights : List (Nat × Rat))
    (hnd : (weights.map (·.1)).Nodup) (hw : ∀ e ∈ weights, 0 ≤ e.2)
    (hsum : (weights.map (·.2)).sum = 1)
    (hp : ∀ e ∈ weights, 0 ≤ preds.getD e.1 0 ∧ preds.getD e.1 0 ≤ 1) :
    0 ≤ egPositive preds weights ∧ egPositive preds weights ≤ 1 := by
  have := eg_pmf_range_slack preds weights 0 hnd hw (hsum.le.trans (le_add_of_nonneg_right le_rfl)) hp
  rwa [add_zero] at this

/-- the hypothesis `Σ weights_ = 1` of `eg_pmf_range` is NEEDED (the model function, like the code, just forms the dot
    product): weights summing to 3/2 give the "probability" 3/2.  The harness therefore evaluates the hypothesis on every
    fitted model (`C10.eg_pmf_range.hyp`) -/
theorem eg_pmf_range_needs_sum :
    (∀ e ∈ [((0 : Nat), (3/4 : Rat)), (1, 3/4)], 0 ≤ e.2) ∧ egPositive [1, 1] [(0, 3/4), (1, 3/4)] = 3/2 := by
  decide +kernel

/-- the reported row `(1 - p, p)` of `ExponentiatedGradient._pmf_predict` is a valid distribution under the same
    hypotheses.  (The column expression `np.concatenate((1 - positive_probs, positive_probs), axis=1)` is lifted:
    `eg_pmf_row_lifted` below; the harness also compares both reported columns with `1 - p` and `p`.) -/
theorem eg_pmf_row_distribution (preds : List Rat) (weights : List (Nat × Rat))
    (hnd : (weights.map (·.1)).Nodup) (hw : ∀ e ∈ weights, 0 ≤ e.2)
    (hsum : (weights.map (·.2)).sum = 1)
    (hp : ∀ e ∈ weights, 0 ≤ preds.getD e.1 0 ∧ preds.getD e.1 0 ≤ 1) :
    0 ≤ 1 - egPositive preds weights ∧ 1 - egPositive preds weights ≤ 1 ∧
    0 ≤ egPositive preds weights ∧ egPositive preds weights ≤ 1 ∧
    (1 - egPositive preds weights) + egPositive preds weights = 1 := by
  obtain ⟨h0, h1⟩ := eg_pmf_range preds weights hnd hw hsum hp
  exact ⟨sub_nonneg.mpr h1, sub_le_self _ h0, h0, h1, sub_add_cancel _ _⟩

/-- non-vacuity (`eg_pmf_is_mixture`, `eg_pmf_range`, `eg_pmf_row_distribution`): three stored 0/1 predictors, `weights_`
    listed in an order that is NOT the id order, one zero weight; all hypotheses hold at once, every id is inside the
    predictor list (no `getD` default is used) and the mixture is strictly between 0 and 1 -/
example :
    let preds : List Rat := [1, 0, 1, 1]
    let w : List (Nat × Rat) := [(0, 1/2), (3, 0), (2, 1/4), (1, 1/4)]
    (w.map (·.1)).Nodup ∧ (∀ e ∈ w, 0 ≤ e.2) ∧ (w.map (·.2)).sum = 1 ∧ (∀ e ∈ w, e.1 < preds.length) ∧
    (∀ e ∈ w, 0 ≤ preds.getD e.1 0 ∧ preds.getD e.1 0 ≤ 1) ∧ egPositive preds w = 3/4 := by
  decide +kernel

/-! ### ExponentiatedGradient: the LIFTED `_pmf_predict` / `predict` text (`Generated/EgPredict.lean`)

`Pmf.maskedPred`, `egPositive`, `egPmfRow`, `egLabel` are computed with the zero-weight mask, the `.dot` pairing, the two
returned columns, the column index `[:, 1]`, the comparison and the `* 1` lifted from the source on every run.  The
theorems below state what that text means; an edit of any of these fragments changes the generated definitions and the
corresponding theorem (and `eg_pmf_is_mixture` … through `Lemmas/Pmf.lean:egPositive_eq_sum`) stops checking. -/

/-- the zero-weight mask: a stored predictor whose weight is exactly 0 contributes the column `0`, every other one its own
    output — so the mask never changes the mixture (`eg_pmf_is_mixture`) and only saves evaluating unused predictors -/
theorem eg_mask_lifted (preds : List Rat) (weights : List (Nat × Rat)) (t : Nat) :
    maskedPred preds weights t = (if weightOf weights t = 0 then 0 else preds.getD t 0) ∧
    maskedPred preds weights t * weightOf weights t = preds.getD t 0 * weightOf weights t := by
  unfold maskedPred EgPredict.egColumn
  refine ⟨rfl, ?_⟩
  by_cases h : weightOf weights t = 0 <;> simp [h]

/-- `pred[self.weights_.index].dot(self.weights_)` pairs every weight with the column of ITS OWN predictor id, also when
    `weights_` does not list the ids in order (the LP step appends ids; `eg_pmf_order_irrelevant`) -/
theorem eg_dot_lifted (preds : List Rat) (weights : List (Nat × Rat)) :
    egPositive preds weights = (weights.map (fun e => maskedPred preds weights e.1 * e.2)).sum := by
  unfold egPositive
  rw [if_pos (by rfl : EgPredict.dotById = true)]

/-- the reported row is `[1 − p, p]` with `p` the mixture: the two columns sum to one for EVERY input, column 1 is the
    positive probability -/
theorem eg_pmf_row_lifted (preds : List Rat) (weights : List (Nat × Rat)) :
    egPmfRow preds weights = (1 - egPositive preds weights, egPositive preds weights) ∧
    (egPmfRow preds weights).1 + (egPmfRow preds weights).2 = 1 := by
  unfold egPmfRow EgPredict.col0 EgPredict.col1
  exact ⟨rfl, by ring⟩

/-- `predict` (classification): `positive_probs = _pmf_predict(X)[:, 1]`, label `(positive_probs >= u) * 1` — the label
    is 1 exactly when the row's uniform draw is at most the REPORTED POSITIVE probability (column 1, not column 0), and
    0 otherwise: for `u` uniform on [0,1) the label is 1 with probability `p` (0 ≤ p < 1).  It is the same rule as the
    thresholder's `bernoulli`, which the driver runs on the reported column. -/
theorem eg_predict_label_lifted (preds : List Rat) (weights : List (Nat × Rat)) (u : Rat) :
    (egLabel preds weights u = 1 ↔ u ≤ egPositive preds weights) ∧
    (egLabel preds weights u = 0 ∨ egLabel preds weights u = 1) ∧
    egLabel preds weights u = bernoulli (egPositive preds weights) u := by
  have hrow := (eg_pmf_row_lifted preds weights).1
  have key : egLabel preds weights u = if u ≤ egPositive preds weights then 1 else 0 := by
    unfold egLabel EgPredict.positiveCol EgPredict.drawsOne EgPredict.labelScale
    rw [hrow]
    simp only [ge_iff_le, decide_eq_true_eq]
  by_cases h : u ≤ egPositive preds weights
  · rw [key, if_pos h, (bernoulli_eq_one_iff _ _).mpr h]
    exact ⟨iff_of_true rfl h, Or.inr rfl, rfl⟩
  · rw [key, if_neg h, (bernoulli_zero_or_one _ u).resolve_right fun h1 => h ((bernoulli_eq_one_iff _ _).mp h1)]
    exact ⟨iff_of_false Nat.zero_ne_one h, Or.inl rfl, rfl⟩

/-- hence `predict` is deterministic where the reported probability is 0 or 1 (u in (0,1)), and labels are in {0,1} -/
theorem eg_predict_deterministic (preds : List Rat) (weights : List (Nat × Rat)) (u : Rat) (h0 : 0 < u) (h1 : u < 1) :
    (egPositive preds weights = 1 → egLabel preds weights u = 1) ∧
    (egPositive preds weights = 0 → egLabel preds weights u = 0) := by
  obtain ⟨hiff, hor, _⟩ := eg_predict_label_lifted preds weights u
  constructor
  · intro hp; exact hiff.mpr (by rw [hp]; exact le_of_lt h1)
  · intro hp
    rcases hor with h | h
    · exact h
    · have := hiff.mp h; rw [hp] at this; exact absurd h0 (not_lt.mpr this)

example : egPmfRow [1, 0, 1] [(0, 1/2), (2, 1/4), (1, 1/4)] = (1/4, 3/4) ∧
    egLabel [1, 0, 1] [(0, 1/2), (2, 1/4), (1, 1/4)] (1/2) = 1 ∧ egLabel [1, 0, 1] [(0, 1/2), (2, 1/4), (1, 1/4)] (7/8) = 0 := by
  decide +kernel

/-! ### the Bernoulli draw `(p >= u) * 1` -/

theorem bernoulli_is_label (p u : Rat) : bernoulli p u = 0 ∨ bernoulli p u = 1 :=
  bernoulli_zero_or_one p u

/-- label 1 is produced exactly on `u ∈ [0, p]`: for `0 ≤ p ≤ 1` a set of measure `p` in `[0,1)` -/
theorem bernoulli_iff (p u : Rat) : bernoulli p u = 1 ↔ u ≤ p := bernoulli_eq_one_iff p u

/-- reproducible: the label is a function of the reported probability and the drawn number -/
theorem bernoulli_reproducible (p p' u u' : Rat) (hp : p = p') (hu : u = u') :
    bernoulli p u = bernoulli p' u' := by rw [hp, hu]

/-- **deterministic where the probability is 1** (every `u < 1`, in fact every `u ≤ 1`) -/
theorem bernoulli_deterministic_one (u : Rat) (hu : u < 1) : bernoulli 1 u = 1 :=
  (bernoulli_eq_one_iff 1 u).mpr (le_of_lt hu)

/-- **deterministic where the probability is 0** for every `u > 0`.  (`u = 0`, which `rand()` returns
    with probability 2⁻⁵³, gives label 1 because the code compares with `>=`: see the example.) -/
theorem bernoulli_deterministic_zero (u : Rat) (hu : 0 < u) : bernoulli 0 u = 0 :=
  (bernoulli_zero_or_one 0 u).resolve_right fun h => absurd ((bernoulli_eq_one_iff 0 u).mp h) (not_le.mpr hu)

/-! ### `RandomState.choice(values, p=probs)` -/

/-- **position `i` is returned exactly on `u ∈ [c, c + probs[i])`, `c = probs[0]+…+probs[i-1]`** —
    an interval of length `probs[i]`.  So the VALUE at position `i` is drawn with the probability at
    position `i`: values and probabilities must be aligned. -/
theorem choice_own_weight (probs : List Rat) (hp : ∀ p ∈ probs, 0 ≤ p) (u : Rat) (hu : 0 ≤ u)
    (i : Nat) (hi : i < probs.length) :
    choiceIdx probs u = i ↔ (probs.take i).sum ≤ u ∧ u < (probs.take i).sum + probs[i] := by
  have := choiceIdxFrom_eq_iff probs hp 0 u hu i hi
  simp only [zero_add] at this
  unfold choiceIdx
  rw [this, List.sum_take_succ probs i hi]

/-- a probability vector always yields a value for `u ∈ [0,1)` -/
theorem choice_total (values probs : List Rat) (hlen : values.length = probs.length)
    (hsum : probs.sum = 1) (u : Rat) (hu0 : 0 ≤ u) (hu1 : u < 1) :
    ∃ v, choice values probs u = some v := by
  have : choiceIdx probs u < probs.length := by
    unfold choiceIdx
    apply choiceIdxFrom_lt probs 0 u hu0
    rwa [hsum, zero_add]
  rw [← hlen] at this
  exact ⟨values[choiceIdx probs u], List.getElem?_eq_getElem this⟩

/-- **deterministic where a probability is 1**: in a probability vector with `probs[i] = 1` position `i` is returned for
    EVERY draw `u ∈ [0,1)` -/
theorem choice_deterministic (probs : List Rat) (hp : ∀ p ∈ probs, 0 ≤ p) (hsum : probs.sum = 1)
    (i : Nat) (hi : i < probs.length) (h1 : probs[i] = 1) (u : Rat) (hu0 : 0 ≤ u) (hu1 : u < 1) :
    choiceIdx probs u = i := by
  rw [choice_own_weight probs hp u hu0 i hi, take_sum_zero_of_one probs hp hsum i hi h1, h1, zero_add]
  exact ⟨hu0, hu1⟩

/-- the chosen position always carries a positive probability (a zero-probability value is never returned) -/
theorem choice_positive_weight (probs : List Rat) (hp : ∀ p ∈ probs, 0 ≤ p) (hsum : probs.sum = 1)
    (u : Rat) (hu0 : 0 ≤ u) (hu1 : u < 1) :
    ∃ h : choiceIdx probs u < probs.length, 0 < probs[choiceIdx probs u] :=
  choiceIdx_prob_pos probs hp u hu0 (by rw [hsum]; exact hu1)

/-- non-vacuity (`choice_own_weight`, `choice_total`, `choice_positive_weight`, `choice_deterministic`): a probability
    vector with a zero entry in the middle; the draw 1/2 falls on the boundary and selects position 2 (never 1) -/
example : (∀ p ∈ ([1/2, 0, 1/2] : List Rat), 0 ≤ p) ∧ ([1/2, 0, 1/2] : List Rat).sum = 1 ∧
    choiceIdx [1/2, 0, 1/2] (1/2) = 2 ∧ choiceIdx [1/2, 0, 1/2] (1/4) = 0 ∧
    choiceIdx [0, 1, 0] (3/4) = 1 ∧ choiceIdx [0, 1, 0] 0 = 1 := by decide +kernel

/-! ### ExponentiatedGradient, regression moments -/

/-- what the property demands, proved for the id-aligned draw: predictor `t`'s (masked) value is
    returned exactly on an interval of length `weights_[t]` -/
theorem eg_regression_byid_own_weight (preds : List Rat) (weights : List (Nat × Rat))
    (hw : ∀ t, 0 ≤ weightOf weights t) (u : Rat) (hu : 0 ≤ u) (t : Nat) (ht : t < preds.length) :
    choiceIdx ((List.range preds.length).map (weightOf weights)) u = t ↔
      (((List.range preds.length).map (weightOf weights)).take t).sum ≤ u ∧
      u < (((List.range preds.length).map (weightOf weights)).take t).sum + weightOf weights t := by
  have hp : ∀ p ∈ (List.range preds.length).map (weightOf weights), 0 ≤ p := by
    intro p hp
    obtain ⟨k, _, rfl⟩ := List.mem_map.mp hp
    exact hw k
  have hlen : t < ((List.range preds.length).map (weightOf weights)).length := by
    rwa [List.length_map, List.length_range]
  have := choice_own_weight _ hp u hu t hlen
  rwa [List.getElem_map, List.getElem_range] at this

/-- the regression clause of C10 for the POSITIONAL pairing: `predict` returns the value of stored predictor `t`
    with probability `weights_[t]`, i.e.  `egRegPredict = egRegPredictById`, under the decidable hypothesis `aligned weights` (`weights_.index = 0..T-1` in this
    order), which the driver evaluates on every fitted regression model; without it the equation is FALSE, see
    `eg_regression_positional_counterexample`. -/
theorem eg_regression_own_weight_partial (preds : List Rat) (weights : List (Nat × Rat))
    (hal : aligned weights = true) (hlen : preds.length = weights.length) (u : Rat) :
    egRegPredict preds weights u = egRegPredictById preds weights u := by
  unfold egRegPredict egRegPredictById
  rw [hlen, aligned_weights weights hal]

/-- The regression clause for the function the driver runs as "the code" (`egRegPredictCode`, whose pairing
    is lifted from `ExponentiatedGradient.predict` on every run): it is the id-aligned draw — and therefore
    has the own-weight property `eg_regression_byid_own_weight` — as soon as EITHER the source re-orders
    the weights by predictor id (`EgPredict.regressionDrawById`, generated) OR the fitted `weights_.index`
    is `0..T-1` (decidable, evaluated per fitted model). -/
theorem eg_regression_code_own_weight (preds : List Rat) (weights : List (Nat × Rat))
    (h : EgPredict.regressionDrawById = true ∨ (aligned weights = true ∧ preds.length = weights.length))
    (u : Rat) : egRegPredictCode preds weights u = egRegPredictById preds weights u := by
  unfold egRegPredictCode
  rcases h with h | ⟨h1, h2⟩
  · simp [h]
  · split
    · rfl
    · exact eg_regression_own_weight_partial preds weights h1 h2 u

/-- **Regression clause, full strength, for the code as it is now** (`predict` hands `choice` the weights
    re-indexed by `pred.columns`; known finding F7 was the positional pairing).  The pairing is read from the source on every run; if
    the positional pairing comes back, `by decide` below no longer closes and this theorem is reported broken. -/
theorem eg_regression_own_weight (preds : List Rat) (weights : List (Nat × Rat)) (u : Rat) :
    egRegPredictCode preds weights u = egRegPredictById preds weights u :=
  eg_regression_code_own_weight preds weights (Or.inl (by decide)) u

/-- **"the value of one stored predictor"**: for non-negative weights and every draw below their total (every
    `u ∈ [0,1)` for a probability vector) `predict` returns `preds[t]` for a stored predictor `t` with POSITIVE weight —
    never the `0.0` placeholder column `_pmf_predict` writes for a zero-weight predictor, never nothing -/
theorem eg_regression_returns_stored_value (preds : List Rat) (weights : List (Nat × Rat))
    (hw : ∀ t, 0 ≤ weightOf weights t) (u : Rat) (hu0 : 0 ≤ u)
    (hu1 : u < ((List.range preds.length).map (weightOf weights)).sum) :
    ∃ t, ∃ ht : t < preds.length, 0 < weightOf weights t ∧ egRegPredictCode preds weights u = some preds[t] := by
  rw [eg_regression_own_weight]
  have hp : ∀ p ∈ (List.range preds.length).map (weightOf weights), 0 ≤ p := by
    intro p hp
    obtain ⟨k, _, rfl⟩ := List.mem_map.mp hp
    exact hw k
  obtain ⟨hlt, hpos⟩ := choiceIdx_prob_pos _ hp u hu0 hu1
  have ht : choiceIdx ((List.range preds.length).map (weightOf weights)) u < preds.length := by simpa using hlt
  simp only [List.getElem_map, List.getElem_range] at hpos
  refine ⟨_, ht, hpos, ?_⟩
  unfold egRegPredictById choice
  rw [List.getElem?_eq_getElem (by simpa using ht)]
  simp only [List.getElem_map, List.getElem_range, maskedPred_eq_ite, if_neg (ne_of_gt hpos), List.getD,
    List.getElem?_eq_getElem ht, Option.getD_some]

/-- non-vacuity (`eg_regression_byid_own_weight`, `eg_regression_returns_stored_value`): the F7 shape — `weights_.index`
    = [0, 1, 3, 2], predictor 2 has weight 0 — meets the hypotheses; the draw 3/4 returns predictor 3's value 8,
    not the placeholder -/
example :
    let w : List (Nat × Rat) := [(0, 1/3), (1, 1/3), (3, 1/3), (2, 0)]
    (∀ t < 4, 0 ≤ weightOf w t) ∧ ((List.range 4).map (weightOf w)).sum = 1 ∧ weightOf w 2 = 0 ∧
    egRegPredictCode [5, 6, 7, 8] w (3/4) = some 8 ∧ egRegPredictCode [5, 6, 7, 8] w 0 = some 5 := by
  decide +kernel

/-- **F7: the positional pairing `p=self.weights_` does not have the own-weight property.**  A fitted model reachable with
    `run_linprog_step=False` has `weights_` = {0: 1/3, 1: 1/3, 3: 1/3, 2: 0} in THIS index order
    (predictor 2 was found inside `eval_gap`, never played, and is appended last).  For every
    `u ∈ [2/3, 1)` the code returns the zero placeholder of predictor 2 — a number no stored predictor
    outputs — although `weights_[2] = 0`, and it never returns predictor 3's value, although
    `weights_[3] = 1/3`; the id-aligned draw returns predictor 3's value on that interval. -/
theorem eg_regression_positional_counterexample (a b c d u : Rat) (h1 : 2/3 ≤ u) (h2 : u < 1) :
    let w : List (Nat × Rat) := [(0, 1/3), (1, 1/3), (3, 1/3), (2, 0)]
    egRegPredict [a, b, c, d] w u = some 0 ∧ egRegPredictById [a, b, c, d] w u = some d := by
  intro w
  -- positional pairing: cdf 1/3, 2/3, 1, 1, the draw lands on position 2; by id: cdf 1/3, 2/3, 2/3, 1, position 3
  have hpos : choiceIdx [1/3, 1/3, 1/3, 0] u = 2 := by
    rw [choiceIdx, choiceIdxFrom_cons_pos _ (le_trans (by norm_num) h1),
      choiceIdxFrom_cons_pos _ (le_trans (by norm_num) h1),
      choiceIdxFrom_cons_neg _ (not_le.mpr (lt_of_lt_of_le h2 (by norm_num)))]
  have hid : choiceIdx [1/3, 1/3, 0, 1/3] u = 3 := by
    rw [choiceIdx, choiceIdxFrom_cons_pos _ (le_trans (by norm_num) h1),
      choiceIdxFrom_cons_pos _ (le_trans (by norm_num) h1), choiceIdxFrom_cons_pos _ (le_trans (by norm_num) h1),
      choiceIdxFrom_cons_neg _ (not_le.mpr (lt_of_lt_of_le h2 (by norm_num)))]
  constructor
  · show ((List.range 4).map (maskedPred [a, b, c, d] w))[choiceIdx [1/3, 1/3, 1/3, 0] u]? = some 0
    rw [hpos]
    show some (maskedPred [a, b, c, d] w 2) = some 0
    rw [maskedPred_eq_ite, if_pos (by decide +kernel)]
  · show ((List.range 4).map (maskedPred [a, b, c, d] w))[choiceIdx ((List.range 4).map (weightOf w)) u]? = some d
    rw [show (List.range 4).map (weightOf w) = [1/3, 1/3, 0, 1/3] from by decide +kernel, hid]
    show some (maskedPred [a, b, c, d] w 3) = some d
    rw [maskedPred_eq_ite, if_neg (by decide +kernel)]
    rfl

/-! Non-vacuity: concrete fitted-model shapes meet the hypotheses (evaluated by the kernel). -/

example : exRule.valid 0 = true := by decide +kernel
example : exDict.all (fun e => e.2.valid 0 && e.2.allGt) = true := by decide +kernel
example : thrPositive exDict "a" (5/8) = 1/5 * (3/8) + (1 - 1/5) * (3/4) := by decide +kernel
example : thrPositive exDict "b" (1/4) = 0 := by decide +kernel
example : thrPositive exDict "c" 1 = 0 := by decide +kernel
example : egPositive [1, 0, 1] [(0, 1/2), (2, 1/4), (1, 1/4)] = 3/4 := by decide +kernel
example : bernoulli 0 0 = 1 := by decide +kernel
example : choice [10, 20, 30] [1/2, 0, 1/2] (1/2) = some 30 := by decide +kernel
example : aligned [(0, 1/3), (1, 1/3), (3, 1/3), (2, 0)] = false := by decide +kernel
example : egRegPredict [5, 6, 7, 8] [(0, 1/3), (1, 1/3), (3, 1/3), (2, 0)] (3/4) = some 0 := by decide +kernel
example : egRegPredictById [5, 6, 7, 8] [(0, 1/3), (1, 1/3), (3, 1/3), (2, 0)] (3/4) = some 8 := by decide +kernel

end C10
