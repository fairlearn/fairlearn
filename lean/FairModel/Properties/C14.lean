/-
C14 — base rate metrics are weighted confusion-matrix ratios for any binary encoding.
Property theorems; helper lemmas live in `Lemmas/BaseMetrics.lean`, `Lemmas/BaseMetricsSrc.lean` and
`Lemmas/SqueezeSrc.lean`.  `selectionRate_spec`, `meanPrediction_spec`, `meanPrediction_between` and the two
`*_zero_total_is_totalisation` witnesses of the table are in `Lemmas/BaseMetrics.lean` (namespace `BaseMetrics`).

CLAUSE → THEOREM TABLE ("src_" = the same clause for the functions TRANSLATED from
_base_metrics.py, which is what the driver ops `bms.*` evaluate; the hand model's ops `rate`, `selrate`,
`meanpred`, `count` evaluate `rate`, `selectionRate`, `meanPrediction`, `count`)

 1 "TPR/FNR/FPR/TNR equal the (weighted) confusion-matrix ratios"
      rate_is_class_fraction (each rate = weight of one cell / weight of the WHOLE true class, public level, a genuine
      quotient when the class has a row: rate_class_weight_pos), rateOf_eq_class_fraction; src_rate_is_class_fraction   FULL
   "for labels in {0,1}, {-1,1}"                default_encodings_accepted, default_restricted_iff                       FULL
   "or any two values with pos_label given"     two_values_accepted, src_labels_pos_last, accepted_pos;
                                                rejected otherwise: too_many_rejected, foreign_pos_rejected              FULL
 2 "return scalars"                             the rates: correspondence only (relation C14.scalar_result); see clause 5
   "in [0,1]"                                   rate_in_unit_interval, rate_public_in_unit_interval, src_rate_in_unit_interval  FULL
 3 "TPR+FNR = 1 when a positive row exists … (both terms are 0 otherwise)", same for TNR+FPR
      tpr_add_fnr / tnr_add_fpr (in terms of the confusion-matrix row total), rowTot_pos_of_row,
      tpr_add_fnr_public / tnr_add_fpr_public (public level, in terms of "a row of that class exists", positive
      weights), rowTot_ne_zero_iff; src_tpr_add_fnr, src_tnr_add_fpr, src_tpr_add_fnr_row                               FULL
 4 "exchange roles when pos_label is switched to the other class"
      pos_label_swap, pos_label_swap_public (two observed values), pos_label_swap_single (ONE observed value, the
      other class unobserved — the quantifier includes single-valued vectors), src_pos_label_swap(_single)              FULL
 5 "selection_rate is the weighted fraction of predictions equal to pos_label"
      selectionRate_def, selectionRate_spec (division-free, unique), selectionRate_in_unit_interval(_pos),
      src_selection_rate_def/_spec/_in_unit_interval, src_selection_rate_empty                                          FULL
   "mean_prediction the weighted mean prediction"  meanPrediction_def, meanPrediction_spec (division-free, unique),
      meanPrediction_between, meanPrediction_unit, src_mean_prediction_def/_spec                                       FULL
   "count the number of rows"                    count_def, src_count_eq_model, src_count_inconsistent                   FULL
   "each returned as a scalar"                   src_selection_rate_scalar, src_mean_prediction_scalar over the SHAPE-level
      translation (Generated/SqueezeSrc.lean) of the bodies and of `_convert_to_ndarray_and_squeeze`: src_squeeze_vector,
      src_squeeze_column, src_squeeze_never_scalar, src_selection_rate_empty_shape; `count` returns `len(...)`, a Python
      int (C14.scalar_result); the primitives' shapes are tied to numpy by the ops `nds.*` (C14.shape_model)            FULL

TOTALISATION (points where Lean's `x / 0 = 0` or a default would otherwise decide; each replayed on fairlearn):
  * `ratio n 0 = 0` in the rates is sklearn's `nan_to_num` of an empty confusion-matrix row (real: 0.0) — modelled,
    not an artefact; it is the "(both terms are 0 otherwise)" branch.
  * ALL weights zero: sklearn raises ValueError("Sample weights must contain at least one non-zero number"), the
    model answers `ok 0` (`rate_all_zero_weights_is_totalisation`). Outside the quantifier (positive weights); the
    public-level theorems carry `PosW`.
  * `selectionRate` / `meanPrediction` at total weight 0 (and `meanPrediction []`): numpy gives NaN, Lean gives 0
    (`selectionRate_zero_total_is_totalisation`, `meanPrediction_zero_total_is_totalisation`);
    `selectionRate_in_unit_interval` (hypothesis `NonNegW`) is true AT that point only by totalisation — the guarded
    statement is `selectionRate_in_unit_interval_pos` / `selectionRate_spec`.
  * a label equal to the sentinel `np.iinfo(np.int64).min`: the model's confusion matrix counts the row twice
    (`sentinel_label_deviates`: model TPR 1/2, fairlearn 1.0). `pos_label_swap_single` excludes it explicitly.
  * `getD i 0` on the ravelled matrix in the translation: the label list always has two entries
    (`src_labels_eq_model`), so the default is never taken; `zip` truncation in `dot` / `cmCount`: all statements are
    over the columns of ONE row list (equal lengths); unequal lengths raise in numpy/sklearn; the ops `rate` /
    `selrate` refuse them (`mkRows` answers `bad-op`), the `bms.*` ops pass the arrays on unchecked.
-/
import FairModel.Lemmas.BaseMetrics
import FairModel.Lemmas.BaseMetricsSrc
import FairModel.Lemmas.SqueezeSrc

namespace C14
open BaseMetrics

/-- every row weight is non-negative (the property quantifies over positive weights) -/
def NonNegW (rows : List Row) : Prop := ∀ r ∈ rows, 0 ≤ r.w

instance (rows : List Row) : Decidable (NonNegW rows) := by unfold NonNegW; infer_instance

/-! ### clause 1: each rate is a class-conditional weighted fraction; which label sets are accepted -/

/-- the true class a rate conditions on … -/
def trueClass (k : Kind) (neg pos : Int) : Int := match k with | .tpr => pos | .fnr => pos | .fpr => neg | .tnr => neg
/-- … and the predicted class of the cell of the confusion matrix it reads -/
def predClass (k : Kind) (neg pos : Int) : Int := match k with | .tpr => pos | .fnr => neg | .fpr => pos | .tnr => neg

/-- Clause 1 on the level of the confusion matrix: each rate is
    (weight of the rows with true class c and predicted class d) / (weight of ALL rows with true class c),
    with sklearn's 0 for an empty class — provided every prediction is one of the two labels. -/
theorem rateOf_eq_class_fraction (k : Kind) (rows : List Row) (neg pos : Int) (hnp : neg ≠ pos)
    (hyp : ∀ r ∈ rows, r.yp = neg ∨ r.yp = pos) :
    rateOf k rows neg pos =
      ratio (cell rows (trueClass k neg pos) (predClass k neg pos))
            (wsum (fun r => r.yt == trueClass k neg pos) rows) := by
  cases k <;>
    simp only [rateOf, tprOf, fnrOf, fprOf, tnrOf, trueClass, predClass,
      rowTot_eq_class_weight rows neg pos _ hnp hyp]

/-- Clause 1 at the level of the public functions, for ANY accepted labelling (default encodings or
    `pos_label` given): the call returns the class-conditional weighted fraction w.r.t. the label pair
    `_get_labels_for_confusion_matrix` chose.  `neg ≠ pos` excludes a single observed label that is the sentinel
    itself (`sentinel_label_deviates`). -/
theorem rate_is_class_fraction (k : Kind) (rows : List Row) (p : Option Int) (neg pos : Int)
    (hl : labelsForCM (allLabels rows) p = .ok (neg, pos)) (hnp : neg ≠ pos) :
    rate k rows p =
      .ok (ratio (cell rows (trueClass k neg pos) (predClass k neg pos))
                 (wsum (fun r => r.yt == trueClass k neg pos) rows)) := by
  rw [rate_of_labels k hl, rateOf_eq_class_fraction k rows neg pos hnp (labelsForCM_ok_pred hl)]

/-- … and the quotient is a genuine one (non-zero denominator) as soon as the class has a row
    (positive weights): nothing in `rate_is_class_fraction` is then decided by `ratio _ 0 = 0`. -/
theorem rate_class_weight_pos (rows : List Row) (c : Int) (hw : PosW rows) (r : Row) (hr : r ∈ rows)
    (hc : r.yt = c) : 0 < wsum (fun r => r.yt == c) rows :=
  wsum_pos_of_mem _ rows hw.nonneg r hr (by simp [hc]) (hw r hr)

/-- Clause 1, accepted encodings: any two observed values with `pos_label` one of them … -/
theorem two_values_accepted (rows : List Row) (a b : Int) (hu : uniqueSorted (allLabels rows) = [a, b])
    (k : Kind) :
    rate k rows (some b) = .ok (rateOf k rows a b) ∧ rate k rows (some a) = .ok (rateOf k rows b a) := by
  obtain ⟨h1, h2⟩ := labelsForCM_two (allLabels rows) a b hu
  exact ⟨rate_of_labels k h2, rate_of_labels k h1⟩

/-- … and `pos_label=None` on {0,1} and {-1,1} (positive label 1), incl. single-valued vectors -/
theorem default_encodings_accepted (rows : List Row) (k : Kind) :
    (uniqueSorted (allLabels rows) = [0, 1] → rate k rows none = .ok (rateOf k rows 0 1)) ∧
    (uniqueSorted (allLabels rows) = [-1, 1] → rate k rows none = .ok (rateOf k rows (-1) 1)) ∧
    (uniqueSorted (allLabels rows) = [0] → rate k rows none = .ok (rateOf k rows 0 1)) ∧
    (uniqueSorted (allLabels rows) = [-1] → rate k rows none = .ok (rateOf k rows (-1) 1)) ∧
    (uniqueSorted (allLabels rows) = [1] → rate k rows none = .ok (rateOf k rows int64Min 1)) := by
  obtain ⟨h1, h2, h3, h4, h5⟩ := labelsForCM_default (allLabels rows)
  exact ⟨fun hu => rate_of_labels k (h1 hu), fun hu => rate_of_labels k (h2 hu), fun hu => rate_of_labels k (h3 hu),
    fun hu => rate_of_labels k (h4 hu), fun hu => rate_of_labels k (h5 hu)⟩

/-- `pos_label=None` is rejected as "restricted" exactly when the labels are neither inside {0,1} nor
    inside {-1,1} -/
theorem default_restricted_iff (k : Kind) (rows : List Row) :
    rate k rows none = .error .restricted ↔
      ¬ ((∀ x ∈ allLabels rows, x = 0 ∨ x = 1) ∨ (∀ x ∈ allLabels rows, x = -1 ∨ x = 1)) := by
  rw [← labelsForCM_none_restricted_iff]
  unfold rate
  cases h : labelsForCM (allLabels rows) none with
  | error e => simp
  | ok np => simp

/-- label handling: more than two distinct values are rejected, whatever `pos_label` is
    (unless the pos_label=None rule already rejected the input) -/
theorem too_many_rejected (labels : List Int) (p : Option Int) (x y z : Int) (rest : List Int)
    (hu : uniqueSorted labels = x :: y :: z :: rest) :
    ∃ e, labelsForCM labels p = .error e := by
  unfold labelsForCM
  simp only [hu]
  cases p with
  | some q => exact ⟨_, rfl⟩
  | none => dsimp only; split <;> exact ⟨_, rfl⟩

/-- a `pos_label` that is not one of two observed values is rejected -/
theorem foreign_pos_rejected (labels : List Int) (p a b : Int)
    (hu : uniqueSorted labels = [a, b]) (ha : p ≠ a) (hb : p ≠ b) :
    labelsForCM labels (some p) = .error .needPos := by
  simp [labelsForCM, hu, ha, hb]

/-- accepted inputs: the returned positive label is the requested one -/
theorem accepted_pos (labels : List Int) (p neg pos : Int)
    (h : labelsForCM labels (some p) = .ok (neg, pos)) : pos = p := by
  unfold labelsForCM at h
  simp only at h
  split at h
  · split at h <;> cases h <;> rfl
  · split at h
    · cases h; symm; assumption
    · split at h
      · cases h; symm; assumption
      · cases h
  · cases h

/-! ### clause 2: the rates lie in [0,1] -/

theorem cell_nonneg (rows : List Row) (hw : NonNegW rows) (a b : Int) : 0 ≤ cell rows a b :=
  wsum_nonneg _ rows hw

/-- All four rates are in [0,1] for any labels, any (non-negative) weights. -/
theorem rate_in_unit_interval (k : Kind) (rows : List Row) (neg pos : Int) (hw : NonNegW rows) :
    0 ≤ rateOf k rows neg pos ∧ rateOf k rows neg pos ≤ 1 := by
  have c := cell_nonneg rows hw
  cases k
  · exact ratio_right_unit (c pos neg) (c pos pos)
  · exact ratio_left_unit (c pos neg) (c pos pos)
  · exact ratio_right_unit (c neg neg) (c neg pos)
  · exact ratio_left_unit (c neg neg) (c neg pos)

/-- ... and so is whatever the public function returns when it does not raise. -/
theorem rate_public_in_unit_interval (k : Kind) (rows : List Row) (p : Option Int) (v : Rat)
    (hw : NonNegW rows) (h : rate k rows p = .ok v) : 0 ≤ v ∧ v ≤ 1 := by
  unfold rate at h
  split at h
  · cases h
  · cases h; exact rate_in_unit_interval k rows _ _ hw

/-! ### clause 3: TPR + FNR = 1 and TNR + FPR = 1 on a non-empty class, both 0 otherwise -/

/-- TPR + FNR = 1 when the positive row of the confusion matrix is non-empty, else both 0. -/
theorem tpr_add_fnr (rows : List Row) (neg pos : Int) :
    (rowTot rows neg pos pos ≠ 0 → tprOf rows neg pos + fnrOf rows neg pos = 1) ∧
    (rowTot rows neg pos pos = 0 → tprOf rows neg pos = 0 ∧ fnrOf rows neg pos = 0) :=
  ⟨fun h => (add_comm _ _).trans (ratio_add h),
   fun h => by rw [tprOf, fnrOf, h]; exact ⟨ratio_zero_den _, ratio_zero_den _⟩⟩

theorem tnr_add_fpr (rows : List Row) (neg pos : Int) :
    (rowTot rows neg pos neg ≠ 0 → tnrOf rows neg pos + fprOf rows neg pos = 1) ∧
    (rowTot rows neg pos neg = 0 → tnrOf rows neg pos = 0 ∧ fprOf rows neg pos = 0) :=
  ⟨fun h => ratio_add h, fun h => by rw [tnrOf, fprOf, h]; exact ⟨ratio_zero_den _, ratio_zero_den _⟩⟩

/-- "a positive row exists": a row with true label `a`, positive weight and a prediction in
    {neg,pos} makes the row total of class `a` non-zero (non-negative weights). -/
theorem rowTot_pos_of_row (rows : List Row) (neg pos a : Int) (hw : NonNegW rows)
    (r : Row) (hr : r ∈ rows) (hyt : r.yt = a) (hyp : r.yp = neg ∨ r.yp = pos) (hpos : 0 < r.w) :
    rowTot rows neg pos a ≠ 0 := by
  have c := cell_nonneg rows hw
  rcases hyp with h | h
  · exact ne_of_gt (add_pos_of_pos_of_nonneg (wsum_pos_of_mem _ rows hw r hr (by simp [hyt, h]) hpos) (c a pos))
  · exact ne_of_gt (add_pos_of_nonneg_of_pos (c a neg) (wsum_pos_of_mem _ rows hw r hr (by simp [hyt, h]) hpos))

/-- "a row of class `a` exists" ⇔ the confusion-matrix row of `a` is non-empty (positive weights, every
    prediction one of the two labels) -/
theorem rowTot_ne_zero_iff (rows : List Row) (neg pos a : Int) (hw : PosW rows)
    (hyp : ∀ r ∈ rows, r.yp = neg ∨ r.yp = pos) :
    rowTot rows neg pos a ≠ 0 ↔ ∃ r ∈ rows, r.yt = a := by
  constructor
  · intro h
    by_contra hno
    exact h (rowTot_eq_zero_of_no_true rows neg pos a fun r hr hra => hno ⟨r, hr, hra⟩)
  · rintro ⟨r, hr, hra⟩
    exact rowTot_pos_of_row rows neg pos a hw.nonneg r hr hra (hyp r hr) (hw r hr)

/-- Clause 3 at the level of the public functions, in the words of the property: whatever TPR and FNR
    return for the same arguments, they add up to 1 when a row of the positive class exists and are
    both 0 otherwise (positive weights; `pos` is the positive label the call uses). -/
theorem tpr_add_fnr_public (rows : List Row) (p : Option Int) (x y : Rat) (hw : PosW rows)
    (hx : rate .tpr rows p = .ok x) (hy : rate .fnr rows p = .ok y) :
    ∃ neg pos, labelsForCM (allLabels rows) p = .ok (neg, pos) ∧
      ((∃ r ∈ rows, r.yt = pos) → x + y = 1) ∧ ((∀ r ∈ rows, r.yt ≠ pos) → x = 0 ∧ y = 0) := by
  obtain ⟨neg, pos, hl, rfl, rfl⟩ := rate_ok_pair hx hy
  exact ⟨neg, pos, hl,
    fun he => (tpr_add_fnr rows neg pos).1 ((rowTot_ne_zero_iff rows neg pos pos hw (labelsForCM_ok_pred hl)).2 he),
    fun hno => (tpr_add_fnr rows neg pos).2 (rowTot_eq_zero_of_no_true rows neg pos pos hno)⟩

theorem tnr_add_fpr_public (rows : List Row) (p : Option Int) (x y : Rat) (hw : PosW rows)
    (hx : rate .tnr rows p = .ok x) (hy : rate .fpr rows p = .ok y) :
    ∃ neg pos, labelsForCM (allLabels rows) p = .ok (neg, pos) ∧
      ((∃ r ∈ rows, r.yt = neg) → x + y = 1) ∧ ((∀ r ∈ rows, r.yt ≠ neg) → x = 0 ∧ y = 0) := by
  obtain ⟨neg, pos, hl, rfl, rfl⟩ := rate_ok_pair hx hy
  exact ⟨neg, pos, hl,
    fun he => (tnr_add_fpr rows neg pos).1 ((rowTot_ne_zero_iff rows neg pos neg hw (labelsForCM_ok_pred hl)).2 he),
    fun hno => (tnr_add_fpr rows neg pos).2 (rowTot_eq_zero_of_no_true rows neg pos neg hno)⟩

/-! ### clause 4: switching `pos_label` exchanges the roles -/

/-- Switching `pos_label` to the other class exchanges TPR<->TNR and FPR<->FNR. -/
theorem pos_label_swap (rows : List Row) (a b : Int) :
    tprOf rows a b = tnrOf rows b a ∧ fprOf rows a b = fnrOf rows b a ∧
    tnrOf rows a b = tprOf rows b a ∧ fnrOf rows a b = fprOf rows b a := by
  simp only [tprOf, tnrOf, fprOf, fnrOf, rowTot]
  refine ⟨?_, ?_, ?_, ?_⟩ <;> rw [add_comm]

/-- the same at the level of the public functions, for any two-valued encoding -/
theorem pos_label_swap_public (rows : List Row) (a b : Int)
    (hu : uniqueSorted (allLabels rows) = [a, b]) :
    rate .tpr rows (some b) = rate .tnr rows (some a) ∧
    rate .fpr rows (some b) = rate .fnr rows (some a) ∧
    rate .tnr rows (some b) = rate .tpr rows (some a) ∧
    rate .fnr rows (some b) = rate .fpr rows (some a) := by
  obtain ⟨h1, h2⟩ := labelsForCM_two (allLabels rows) a b hu
  obtain ⟨e1, e2, e3, e4⟩ := pos_label_swap rows a b
  simp only [rate_of_labels _ h1, rate_of_labels _ h2, rateOf, e1, e2, e3, e4, and_self]

/-- Clause 4 for vectors with a SINGLE distinct value `a` (inside the property's quantifier): switching
    `pos_label` from `a` to any other value `b` exchanges the roles as well.  `a ≠ int64Min`: the sentinel
    the code pairs a single label with must not itself be the label (`sentinel_label_deviates`). -/
theorem pos_label_swap_single (rows : List Row) (a b : Int) (hu : uniqueSorted (allLabels rows) = [a])
    (hab : b ≠ a) (hs : a ≠ int64Min) :
    rate .tpr rows (some a) = rate .tnr rows (some b) ∧
    rate .fpr rows (some a) = rate .fnr rows (some b) ∧
    rate .tnr rows (some a) = rate .tpr rows (some b) ∧
    rate .fnr rows (some a) = rate .fpr rows (some b) := by
  have hall : ∀ r ∈ rows, r.yt = a ∧ r.yp = a := fun r hr => by
    have h : ∀ x ∈ allLabels rows, x = a := fun x hx =>
      List.mem_singleton.mp (hu ▸ (mem_uniqueSorted x _).mpr hx)
    exact ⟨h _ (List.mem_append_left _ (List.mem_map_of_mem hr)),
      h _ (List.mem_append_right _ (List.mem_map_of_mem hr))⟩
  have nt : ∀ c d, c ≠ a → cell rows c d = 0 := fun c d hc =>
    cell_eq_zero_of_no_true rows c d (fun r hr h => hc (by rw [← h, (hall r hr).1]))
  have np : ∀ c d, d ≠ a → cell rows c d = 0 := fun c d hd =>
    cell_eq_zero_of_no_pred rows c d (fun r hr h => hd (by rw [← h, (hall r hr).2]))
  have ha := (labelsForCM_single (allLabels rows) a hu a).trans (if_pos rfl)
  have hb := (labelsForCM_single (allLabels rows) a hu b).trans (if_neg hab.symm)
  -- only the cell (a, a) can be non-empty
  simp only [rate_of_labels _ ha, rate_of_labels _ hb, rateOf, tprOf, tnrOf, fprOf, fnrOf, rowTot,
    np a _ hs.symm, np a b hab, nt _ _ hs.symm, nt b _ hab, ratio_zero_num, add_zero, zero_add, and_self]

/-- MODEL DEVIATION, documented: if the single observed label IS the sentinel `np.iinfo(np.int64).min`,
    the model's 2×2 matrix over the label list `[int64Min, int64Min]` counts the row in both columns
    (TPR 1/2); sklearn maps the duplicated label to ONE index and fairlearn returns 1.0 (replayed).
    The harness never generates this label; `pos_label_swap_single` excludes it. -/
theorem sentinel_label_deviates :
    rate .tpr [⟨int64Min, int64Min, 1⟩] (some int64Min) = .ok (1/2) := by decide +kernel

/-! ### clause 5: selection_rate, mean_prediction, count; the all-zero-weights witness -/

/-- selection_rate is the weighted fraction of predictions equal to pos_label -/
theorem selectionRate_def (rows : List Row) (pos : Int) (hne : rows ≠ []) :
    selectionRate rows pos =
      .ok (((rows.filter (fun r => r.yp == pos)).map (·.w)).sum / (rows.map (·.w)).sum) := by
  cases rows with
  | nil => exact absurd rfl hne
  | cons r rs => simp [selectionRate, wsum, totalW]

theorem wsum_le_total (p : Row → Bool) (rows : List Row) (hw : NonNegW rows) :
    wsum p rows ≤ totalW rows :=
  (List.filter_sublist.map _).sum_le_sum fun _ ha =>
    let ⟨r, hr, e⟩ := List.mem_map.mp ha
    e ▸ hw r hr

theorem selectionRate_in_unit_interval (rows : List Row) (pos : Int) (v : Rat)
    (hw : NonNegW rows) (h : selectionRate rows pos = .ok v) : 0 ≤ v ∧ v ≤ 1 := by
  unfold selectionRate at h
  split at h
  · cases h
  · cases h
    have hn := wsum_nonneg (fun r => r.yp == pos) rows hw
    have hle := wsum_le_total (fun r => r.yp == pos) rows hw
    have ht : 0 ≤ totalW rows := le_trans hn hle
    exact ⟨div_nonneg hn ht, div_le_one_of_le₀ hle ht⟩

/-- `selection_rate` in [0,1] with a GENUINE quotient: positive weights, non-empty input.
    (`selectionRate_in_unit_interval` above also admits total weight 0, where its conclusion holds only
    because Lean's `x / 0 = 0`; numpy returns NaN there.) -/
theorem selectionRate_in_unit_interval_pos (rows : List Row) (pos : Int) (hne : rows ≠ []) (hw : PosW rows) :
    ∃ v, selectionRate rows pos = .ok v ∧ 0 < totalW rows ∧
      v * totalW rows = wsum (fun r => r.yp == pos) rows ∧ 0 ≤ v ∧ v ≤ 1 := by
  obtain ⟨v, hv, hm, _⟩ := selectionRate_spec rows pos hne hw
  exact ⟨v, hv, totalW_pos rows hne hw, hm, selectionRate_in_unit_interval rows pos v hw.nonneg hv⟩

/-- mean_prediction is the weighted mean prediction -/
theorem meanPrediction_def (rows : List PRow) :
    meanPrediction rows = (rows.map (fun r => r.pred * r.w)).sum / (rows.map (·.w)).sum := rfl

/-- unit weights: mean_prediction is the plain mean -/
theorem meanPrediction_unit (rows : List PRow) (h1 : ∀ r ∈ rows, r.w = 1) :
    meanPrediction rows = (rows.map (·.pred)).sum / rows.length := by
  unfold meanPrediction
  have e1 : rows.map (fun r => r.pred * r.w) = rows.map (·.pred) :=
    List.map_congr_left fun r hr => by rw [h1 r hr, mul_one]
  have e2 : (rows.map (·.w)).sum = rows.length := by
    rw [List.map_congr_left (g := fun _ => (1 : Rat)) h1, List.map_const', List.sum_replicate, nsmul_eq_mul,
      mul_one]
  rw [e1, e2]

/-- count is the number of rows -/
theorem count_def (rows : List Row) : count rows = rows.length := rfl

/-- TOTALISATION WITNESS: with ALL weights zero the model answers 0 for every rate, sklearn raises
    `ValueError("Sample weights must contain at least one non-zero number")` (replayed:
    `true_positive_rate([1],[1],sample_weight=[0])`).  Outside the property's quantifier (positive weights);
    the public-level theorems carry `PosW`. -/
theorem rate_all_zero_weights_is_totalisation (k : Kind) (rows : List Row) (neg pos : Int)
    (h0 : ∀ r ∈ rows, r.w = 0) : rateOf k rows neg pos = 0 := by
  have hc : ∀ a b, cell rows a b = 0 := fun a b => List.sum_eq_zero fun x hx => by
    obtain ⟨r, hr, rfl⟩ := List.mem_map.mp hx
    exact h0 r (List.mem_of_mem_filter hr)
  cases k <;> simp [rateOf, tprOf, fnrOf, fprOf, tnrOf, rowTot, hc, ratio_zero_den]

/-! ### Tie to the source text

`Generated/BaseMetricsSrc.lean` is the statement-by-statement translation of the bodies of
`_get_labels_for_confusion_matrix`, the four rate functions, `count`, `mean_prediction` and
`selection_rate` (lifter `harness/lifters/base_metrics.py`, regenerated from /repo on every run).
The `src_*_eq_model` theorems identify the translated functions with the hand-written model — so
every theorem above (and those of C11 / C03 / C06 that use `BaseMetrics`) is a statement about the
source text — and the property clauses are restated directly for the translated functions.
Statements are over the columns `rows.map (·.yt)` etc. of an arbitrary row list: every call with
arrays of equal length is of this form. -/

section Source
open BaseMetricsSrc

/-- the y_true / y_pred / sample_weight arrays of a row list -/
abbrev colT (rows : List Row) : List Int := rows.map (·.yt)
abbrev colP (rows : List Row) : List Int := rows.map (·.yp)
abbrev colW (rows : List Row) : Option (List Rat) := some (rows.map (·.w))

theorem src_labels_eq_model (labels : List Int) (p : Option Int) :
    get_labels_for_confusion_matrix labels p = (labelsForCM labels p).map (fun np => [np.1, np.2]) :=
  BaseMetricsGen.labels_eq_model labels p

/-- the translated `true_positive_rate` … `true_negative_rate` are the model's `rate` -/
theorem src_rate_eq_model (k : Kind) (rows : List Row) (p : Option Int) :
    BaseMetricsGen.rate k (colT rows) (colP rows) (colW rows) p = rate k rows p :=
  BaseMetricsGen.rate_eq_model k rows p

theorem src_tpr_eq_model (rows : List Row) (p : Option Int) :
    true_positive_rate (colT rows) (colP rows) (colW rows) p = rate .tpr rows p := src_rate_eq_model .tpr rows p
theorem src_fnr_eq_model (rows : List Row) (p : Option Int) :
    false_negative_rate (colT rows) (colP rows) (colW rows) p = rate .fnr rows p := src_rate_eq_model .fnr rows p
theorem src_fpr_eq_model (rows : List Row) (p : Option Int) :
    false_positive_rate (colT rows) (colP rows) (colW rows) p = rate .fpr rows p := src_rate_eq_model .fpr rows p
theorem src_tnr_eq_model (rows : List Row) (p : Option Int) :
    true_negative_rate (colT rows) (colP rows) (colW rows) p = rate .tnr rows p := src_rate_eq_model .tnr rows p

/-- `sample_weight=None` in the translated functions is the all-ones weight vector -/
theorem src_rate_none_eq_model (k : Kind) (rows : List Row) (p : Option Int) :
    BaseMetricsGen.rate k (colT rows) (colP rows) none p = rate k (BaseMetricsGen.unitW rows) p :=
  BaseMetricsGen.rate_none_eq_model k rows p

theorem src_selection_rate_eq_model (rows : List Row) (pos : Int) :
    selection_rate (colT rows) (colP rows) pos (colW rows) = selectionRate rows pos :=
  BaseMetricsGen.selection_rate_eq_model rows pos

theorem src_selection_rate_none_eq_model (rows : List Row) (pos : Int) :
    selection_rate (colT rows) (colP rows) pos none = selectionRate (BaseMetricsGen.unitW rows) pos :=
  BaseMetricsGen.selection_rate_none_eq_model rows pos

theorem src_mean_prediction_eq_model (yt : List Rat) (rows : List PRow) :
    mean_prediction yt (rows.map (·.pred)) (some (rows.map (·.w))) = .ok (meanPrediction rows) :=
  BaseMetricsGen.mean_prediction_eq_model yt rows

theorem src_mean_prediction_none_eq_model (yt : List Rat) (rows : List PRow) :
    mean_prediction yt (rows.map (·.pred)) none = .ok (meanPrediction (BaseMetricsGen.unitP rows)) :=
  BaseMetricsGen.mean_prediction_none_eq_model yt rows

theorem src_count_eq_model (rows : List Row) :
    BaseMetricsSrc.count (colT rows) (colP rows) = .ok rows.length :=
  BaseMetricsGen.count_eq_model rows

/-- `count` on arrays of different length raises (sklearn `check_consistent_length`) -/
theorem src_count_inconsistent (yt yp : List Int) (h : yt.length ≠ yp.length) :
    BaseMetricsSrc.count yt yp = .error .inconsistent := by
  simp [BaseMetricsSrc.count, h, BaseMetricsGen.throw_eq, bind, Except.bind]

/-- Clause 1 for the translated functions -/
theorem src_rate_is_class_fraction (k : Kind) (rows : List Row) (p : Option Int) (neg pos : Int)
    (hl : get_labels_for_confusion_matrix (allLabels rows) p = .ok [neg, pos]) (hnp : neg ≠ pos) :
    BaseMetricsGen.rate k (colT rows) (colP rows) (colW rows) p =
      .ok (ratio (cell rows (trueClass k neg pos) (predClass k neg pos))
                 (wsum (fun r => r.yt == trueClass k neg pos) rows)) := by
  rw [src_rate_eq_model]
  apply rate_is_class_fraction k rows p neg pos _ hnp
  rw [src_labels_eq_model] at hl
  cases h : labelsForCM (allLabels rows) p with
  | error e => simp [h, Except.map] at hl
  | ok np =>
    obtain ⟨n', p'⟩ := np
    simp only [h, Except.map, Except.ok.injEq, List.cons.injEq, and_true] at hl
    rw [hl.1, hl.2]

/-- whatever a translated rate function returns is in [0,1] -/
theorem src_rate_in_unit_interval (k : Kind) (rows : List Row) (p : Option Int) (v : Rat)
    (hw : NonNegW rows) (h : BaseMetricsGen.rate k (colT rows) (colP rows) (colW rows) p = .ok v) :
    0 ≤ v ∧ v ≤ 1 := by
  rw [src_rate_eq_model] at h
  exact rate_public_in_unit_interval k rows p v hw h

/-- translated TPR + FNR = 1 when the positive confusion-matrix row is non-empty, else both are 0;
    `(neg, pos)` are the labels the translated `_get_labels_for_confusion_matrix` returns -/
theorem src_tpr_add_fnr (rows : List Row) (p : Option Int) (a b : Rat)
    (ha : true_positive_rate (colT rows) (colP rows) (colW rows) p = .ok a)
    (hb : false_negative_rate (colT rows) (colP rows) (colW rows) p = .ok b) :
    ∃ neg pos, get_labels_for_confusion_matrix (allLabels rows) p = .ok [neg, pos] ∧
      (rowTot rows neg pos pos ≠ 0 → a + b = 1) ∧ (rowTot rows neg pos pos = 0 → a = 0 ∧ b = 0) := by
  rw [src_tpr_eq_model] at ha; rw [src_fnr_eq_model] at hb
  obtain ⟨neg, pos, hl, rfl, rfl⟩ := rate_ok_pair ha hb
  exact ⟨neg, pos, by rw [src_labels_eq_model, hl]; rfl, tpr_add_fnr rows neg pos⟩

theorem src_tnr_add_fpr (rows : List Row) (p : Option Int) (a b : Rat)
    (ha : true_negative_rate (colT rows) (colP rows) (colW rows) p = .ok a)
    (hb : false_positive_rate (colT rows) (colP rows) (colW rows) p = .ok b) :
    ∃ neg pos, get_labels_for_confusion_matrix (allLabels rows) p = .ok [neg, pos] ∧
      (rowTot rows neg pos neg ≠ 0 → a + b = 1) ∧ (rowTot rows neg pos neg = 0 → a = 0 ∧ b = 0) := by
  rw [src_tnr_eq_model] at ha; rw [src_fpr_eq_model] at hb
  obtain ⟨neg, pos, hl, rfl, rfl⟩ := rate_ok_pair ha hb
  exact ⟨neg, pos, by rw [src_labels_eq_model, hl]; rfl, tnr_add_fpr rows neg pos⟩

/-- Clause 3 for the translated functions in the words of the property (a row of the positive class
    exists / does not exist), positive weights -/
theorem src_tpr_add_fnr_row (rows : List Row) (p : Option Int) (a b : Rat) (hw : PosW rows)
    (ha : true_positive_rate (colT rows) (colP rows) (colW rows) p = .ok a)
    (hb : false_negative_rate (colT rows) (colP rows) (colW rows) p = .ok b) :
    ∃ neg pos, get_labels_for_confusion_matrix (allLabels rows) p = .ok [neg, pos] ∧
      ((∃ r ∈ rows, r.yt = pos) → a + b = 1) ∧ ((∀ r ∈ rows, r.yt ≠ pos) → a = 0 ∧ b = 0) := by
  rw [src_tpr_eq_model] at ha; rw [src_fnr_eq_model] at hb
  obtain ⟨neg, pos, hl, h1, h2⟩ := tpr_add_fnr_public rows p a b hw ha hb
  exact ⟨neg, pos, by rw [src_labels_eq_model, hl]; rfl, h1, h2⟩

theorem src_tnr_add_fpr_row (rows : List Row) (p : Option Int) (a b : Rat) (hw : PosW rows)
    (ha : true_negative_rate (colT rows) (colP rows) (colW rows) p = .ok a)
    (hb : false_positive_rate (colT rows) (colP rows) (colW rows) p = .ok b) :
    ∃ neg pos, get_labels_for_confusion_matrix (allLabels rows) p = .ok [neg, pos] ∧
      ((∃ r ∈ rows, r.yt = neg) → a + b = 1) ∧ ((∀ r ∈ rows, r.yt ≠ neg) → a = 0 ∧ b = 0) := by
  rw [src_tnr_eq_model] at ha; rw [src_fpr_eq_model] at hb
  obtain ⟨neg, pos, hl, h1, h2⟩ := tnr_add_fpr_public rows p a b hw ha hb
  exact ⟨neg, pos, by rw [src_labels_eq_model, hl]; rfl, h1, h2⟩

/-- switching `pos_label` exchanges the translated functions: TPR<->TNR, FPR<->FNR -/
theorem src_pos_label_swap (rows : List Row) (a b : Int) (hab : a < b)
    (hu : uniqueSorted (allLabels rows) = [a, b]) :
    true_positive_rate (colT rows) (colP rows) (colW rows) (some b) =
      true_negative_rate (colT rows) (colP rows) (colW rows) (some a) ∧
    false_positive_rate (colT rows) (colP rows) (colW rows) (some b) =
      false_negative_rate (colT rows) (colP rows) (colW rows) (some a) ∧
    true_negative_rate (colT rows) (colP rows) (colW rows) (some b) =
      true_positive_rate (colT rows) (colP rows) (colW rows) (some a) ∧
    false_negative_rate (colT rows) (colP rows) (colW rows) (some b) =
      false_positive_rate (colT rows) (colP rows) (colW rows) (some a) := by
  simp only [src_tpr_eq_model, src_fnr_eq_model, src_fpr_eq_model, src_tnr_eq_model]
  exact pos_label_swap_public rows a b hu

/-- Clause 4, single observed value, for the translated functions -/
theorem src_pos_label_swap_single (rows : List Row) (a b : Int) (hu : uniqueSorted (allLabels rows) = [a])
    (hab : b ≠ a) (hs : a ≠ int64Min) :
    true_positive_rate (colT rows) (colP rows) (colW rows) (some a) =
      true_negative_rate (colT rows) (colP rows) (colW rows) (some b) ∧
    false_positive_rate (colT rows) (colP rows) (colW rows) (some a) =
      false_negative_rate (colT rows) (colP rows) (colW rows) (some b) ∧
    true_negative_rate (colT rows) (colP rows) (colW rows) (some a) =
      true_positive_rate (colT rows) (colP rows) (colW rows) (some b) ∧
    false_negative_rate (colT rows) (colP rows) (colW rows) (some a) =
      false_positive_rate (colT rows) (colP rows) (colW rows) (some b) := by
  simp only [src_tpr_eq_model, src_fnr_eq_model, src_fpr_eq_model, src_tnr_eq_model]
  exact pos_label_swap_single rows a b hu hab hs

/-- translated `_get_labels_for_confusion_matrix`: accepted inputs give `[neg, pos]` with the
    requested positive label LAST -/
theorem src_labels_pos_last (labels : List Int) (p : Int) (l : List Int)
    (h : get_labels_for_confusion_matrix labels (some p) = .ok l) : ∃ neg, l = [neg, p] := by
  rw [src_labels_eq_model] at h
  cases hl : labelsForCM labels (some p) with
  | error e => simp [hl, Except.map] at h
  | ok np =>
    obtain ⟨neg, pos⟩ := np
    have := accepted_pos labels p neg pos hl
    simp only [hl, Except.map, Except.ok.injEq] at h
    exact ⟨neg, by rw [← h, this]⟩

/-- translated `selection_rate` is the weighted fraction of predictions equal to `pos_label` -/
theorem src_selection_rate_def (rows : List Row) (pos : Int) (hne : rows ≠ []) :
    selection_rate (colT rows) (colP rows) pos (colW rows) =
      .ok (((rows.filter (fun r => r.yp == pos)).map (·.w)).sum / (rows.map (·.w)).sum) := by
  rw [src_selection_rate_eq_model]; exact selectionRate_def rows pos hne

/-- Clause 5 for the translated `selection_rate`: division-free and unique, in [0,1] -/
theorem src_selection_rate_spec (rows : List Row) (pos : Int) (hne : rows ≠ []) (hw : PosW rows) :
    ∃ v, selection_rate (colT rows) (colP rows) pos (colW rows) = .ok v ∧ 0 < totalW rows ∧
      v * totalW rows = wsum (fun r => r.yp == pos) rows ∧ 0 ≤ v ∧ v ≤ 1 := by
  rw [src_selection_rate_eq_model]; exact selectionRate_in_unit_interval_pos rows pos hne hw

theorem src_selection_rate_in_unit_interval (rows : List Row) (pos : Int) (v : Rat) (hw : NonNegW rows)
    (h : selection_rate (colT rows) (colP rows) pos (colW rows) = .ok v) : 0 ≤ v ∧ v ≤ 1 := by
  rw [src_selection_rate_eq_model] at h; exact selectionRate_in_unit_interval rows pos v hw h

/-- translated `selection_rate` rejects the empty input -/
theorem src_selection_rate_empty (pos : Int) (w : Option (List Rat)) :
    selection_rate [] [] pos w = .error .empty := by
  cases w <;> rfl

/-- translated `mean_prediction` is the weighted mean prediction -/
theorem src_mean_prediction_def (yt : List Rat) (rows : List PRow) :
    mean_prediction yt (rows.map (·.pred)) (some (rows.map (·.w))) =
      .ok ((rows.map (fun r => r.pred * r.w)).sum / (rows.map (·.w)).sum) := by
  rw [src_mean_prediction_eq_model]; rfl

/-- Clause 5 for the translated `mean_prediction`: THE number v with v·Σw = Σ pred·w, between the
    smallest and the largest prediction (positive weights, non-empty input) -/
theorem src_mean_prediction_spec (yt : List Rat) (rows : List PRow) (lo hi : Rat) (hne : rows ≠ [])
    (hw : PosP rows) (hb : ∀ r ∈ rows, lo ≤ r.pred ∧ r.pred ≤ hi) :
    ∃ v, mean_prediction yt (rows.map (·.pred)) (some (rows.map (·.w))) = .ok v ∧ 0 < totalP rows ∧
      v * totalP rows = (rows.map (fun r => r.pred * r.w)).sum ∧ lo ≤ v ∧ v ≤ hi := by
  refine ⟨meanPrediction rows, src_mean_prediction_eq_model yt rows, totalP_pos rows hne hw,
    (meanPrediction_spec rows hne hw).1, meanPrediction_between rows lo hi hne hw hb⟩

end Source

/-! ### Joint non-vacuity: for every theorem with hypotheses, ONE concrete non-trivial input that
meets ALL of them, on the interesting branch (both classes present, weights ≠ 1, denominators ≠ 0, or the
empty-class branch where that is the point). -/
/-- weighted, both classes, both predictions, every cell non-empty -/
def exW : List Row := [⟨1, 1, 2⟩, ⟨1, 0, 1⟩, ⟨0, 1, 1/2⟩, ⟨0, 0, 3⟩, ⟨1, 1, 3/4⟩]
/-- two arbitrary values (3 = negative, 7 = positive), weighted -/
def ex37 : List Row := [⟨7, 7, 2⟩, ⟨7, 3, 1⟩, ⟨3, 7, 5⟩, ⟨3, 3, 3⟩]
/-- no positive row (true labels all 0) but positive predictions: the "both 0 otherwise" branch -/
def exNoPos : List Row := [⟨0, 1, 2⟩, ⟨0, 0, 1⟩]
/-- a single distinct value -/
def exSingle : List Row := [⟨7, 7, 2⟩, ⟨7, 7, 1/2⟩]
def exP : List PRow := [⟨1, 2⟩, ⟨0, 1⟩, ⟨3/4, 1/2⟩]

-- rate_in_unit_interval / rate_public_in_unit_interval / src_rate_in_unit_interval
example : NonNegW exW ∧ rate .fpr exW none = .ok (1/7) ∧
    BaseMetricsGen.rate .fpr (colT exW) (colP exW) (colW exW) none = .ok (1/7) := by decide +kernel
-- tpr_add_fnr / tnr_add_fpr: both branches
example : rowTot exW 0 1 1 ≠ 0 ∧ rowTot exW 0 1 0 ≠ 0 ∧ tprOf exW 0 1 = 11/15 ∧ fnrOf exW 0 1 = 4/15 := by
  decide +kernel
example : rowTot exNoPos 0 1 1 = 0 ∧ rowTot exNoPos 0 1 0 ≠ 0 := by decide +kernel
-- rowTot_pos_of_row
example : NonNegW exW ∧ (⟨1, 0, 1⟩ : Row) ∈ exW ∧ (0 : Rat) < 1 := by decide +kernel
-- pos_label_swap_public / src_pos_label_swap / two_values_accepted: a non-{0,1} encoding
example : (3 : Int) < 7 ∧ uniqueSorted (allLabels ex37) = [3, 7] ∧
    rate .tpr ex37 (some 7) = .ok (2/3) ∧ rate .tnr ex37 (some 3) = .ok (2/3) ∧
    rate .fpr ex37 (some 7) = .ok (5/8) ∧ rate .fnr ex37 (some 3) = .ok (5/8) := by decide +kernel
-- pos_label_swap_single / src_pos_label_swap_single
example : uniqueSorted (allLabels exSingle) = [7] ∧ (3 : Int) ≠ 7 ∧ (7 : Int) ≠ int64Min ∧
    rate .tpr exSingle (some 7) = .ok 1 ∧ rate .tnr exSingle (some 3) = .ok 1 ∧
    rate .fnr exSingle (some 7) = .ok 0 ∧ rate .fpr exSingle (some 3) = .ok 0 := by decide +kernel
-- too_many_rejected / foreign_pos_rejected / accepted_pos / src_labels_pos_last
example : uniqueSorted [3, 9, 7, 3] = 3 :: 7 :: 9 :: [] ∧ labelsForCM [3, 9, 7, 3] (some 3) = .error .tooMany := by
  decide +kernel
example : uniqueSorted [3, 7, 3] = [3, 7] ∧ (9 : Int) ≠ 3 ∧ (9 : Int) ≠ 7 ∧
    labelsForCM [3, 7, 3] (some 9) = .error .needPos := by decide +kernel
example : labelsForCM [3, 7, 3] (some 3) = .ok (7, 3) ∧
    BaseMetricsSrc.get_labels_for_confusion_matrix [3, 7, 3] (some 3) = .ok [7, 3] := by decide +kernel
-- default_encodings_accepted / default_restricted_iff
example : uniqueSorted (allLabels exW) = [0, 1] ∧ rate .tpr exW none = .ok (11/15) := by decide +kernel
example : uniqueSorted (allLabels [⟨-1, 1, 2⟩, ⟨1, 1, 1⟩]) = [-1, 1] ∧
    rate .tnr [⟨-1, 1, 2⟩, ⟨1, 1, 1⟩] none = .ok 0 := by decide +kernel
example : rate .tpr ex37 none = .error .restricted := by decide +kernel
-- rate_is_class_fraction / src_rate_is_class_fraction / rate_class_weight_pos: genuine quotient 11/4 ÷ 15/4
example : labelsForCM (allLabels exW) none = .ok (0, 1) ∧ (0 : Int) ≠ 1 ∧ PosW exW ∧
    cell exW 1 1 = 11/4 ∧ wsum (fun r => r.yt == 1) exW = 15/4 ∧
    BaseMetricsSrc.get_labels_for_confusion_matrix (allLabels exW) none = .ok [0, 1] := by decide +kernel
-- rowTot_ne_zero_iff / tpr_add_fnr_public / tnr_add_fpr_public / src_*_row: the "exists" branch …
example : PosW exW ∧ rate .tpr exW none = .ok (11/15) ∧ rate .fnr exW none = .ok (4/15) ∧
    labelsForCM (allLabels exW) none = .ok (0, 1) ∧ (⟨1, 0, 1⟩ : Row) ∈ exW := by decide +kernel
-- … and the "otherwise" branch: no positive row, TPR = FNR = 0 although positive PREDICTIONS exist
example : PosW exNoPos ∧ rate .tpr exNoPos none = .ok 0 ∧ rate .fnr exNoPos none = .ok 0 ∧
    labelsForCM (allLabels exNoPos) none = .ok (0, 1) ∧ (∀ r ∈ exNoPos, r.yt ≠ 1) ∧
    rate .tnr exNoPos none = .ok (1/3) ∧ rate .fpr exNoPos none = .ok (2/3) := by decide +kernel
-- selectionRate_def / _spec / _in_unit_interval(_pos) / src_selection_rate_*
example : exW ≠ [] ∧ PosW exW ∧ NonNegW exW ∧ selectionRate exW 1 = .ok (13/29) ∧
    BaseMetricsSrc.selection_rate (colT exW) (colP exW) 1 (colW exW) = .ok (13/29) := by decide +kernel
-- selectionRate_zero_total_is_totalisation: the only way to total weight 0 is a non-positive weight
example : ([⟨1, 1, 0⟩] : List Row) ≠ [] ∧ totalW [⟨1, 1, 0⟩] = 0 ∧ NonNegW [⟨1, 1, 0⟩] ∧ ¬ PosW [⟨1, 1, 0⟩] := by
  decide +kernel
-- meanPrediction_unit / _spec / _between / src_mean_prediction_spec
example : exP ≠ [] ∧ PosP exP ∧ (∀ r ∈ exP, (0 : Rat) ≤ r.pred ∧ r.pred ≤ 1) ∧ meanPrediction exP = 19/28 := by
  decide +kernel
example : (∀ r ∈ ([⟨1, 1⟩, ⟨0, 1⟩, ⟨1/2, 1⟩] : List PRow), r.w = 1) ∧
    meanPrediction [⟨1, 1⟩, ⟨0, 1⟩, ⟨1/2, 1⟩] = 1/2 := by decide +kernel
-- src_count_inconsistent
example : BaseMetricsSrc.count [1, 0] [1] = .error .inconsistent ∧ BaseMetricsSrc.count [1, 0] [1, 1] = .ok 2 := by
  decide +kernel
-- the empty input is rejected by the rates exactly as fairlearn does ("no more than two unique y values")
example : rate .tpr [] none = .error .tooMany ∧
    BaseMetricsSrc.true_positive_rate [] [] none none = .error .tooMany := by decide +kernel

/-! Non-vacuity: concrete inputs meeting the hypotheses, evaluated by the kernel. -/
def ex1 : List Row := [⟨1, 1, 2⟩, ⟨1, 0, 1⟩, ⟨0, 1, 1⟩, ⟨0, 0, 3⟩]
example : rate .tpr ex1 none = .ok (2/3) := by decide +kernel
example : rate .fnr ex1 none = .ok (1/3) := by decide +kernel
example : rate .tnr ex1 (some 0) = .ok (2/3) := by decide +kernel
example : uniqueSorted (allLabels ex1) = [0, 1] := by decide +kernel
example : selectionRate [⟨1, 1, 2⟩] 1 = .ok 1 := by decide +kernel
example : labelsForCM [5, 7] none = .error .restricted := by decide +kernel
example : BaseMetricsSrc.true_positive_rate (colT ex1) (colP ex1) (colW ex1) none = .ok (2/3) := by decide +kernel
example : BaseMetricsSrc.false_negative_rate (colT ex1) (colP ex1) none (some 0) = .ok (1/2) := by decide +kernel
example : BaseMetricsSrc.get_labels_for_confusion_matrix [7, 7] (some 7) = .ok [int64Min, 7] := by decide +kernel
example : BaseMetricsSrc.get_labels_for_confusion_matrix [3, 7, 3] (some 3) = .ok [7, 3] := by decide +kernel
example : BaseMetricsSrc.selection_rate [1] [1] 1 (some [2]) = .ok 1 := by decide +kernel

/-! ### "returns a scalar": the shape-level translation (`Generated/SqueezeSrc.lean`)

`harness/lifters/base_metrics.py::lift_squeeze` translates `_convert_to_ndarray_and_squeeze`
(fairlearn/utils/_input_manipulations.py: `np.asarray`, the `size == 0` / `size > 1` / else branches with
`np.squeeze` / `reshape(1)`) and the bodies of `selection_rate` / `mean_prediction` into functions on numpy SHAPES
(`Model/NdShape.lean`).  `[]` is the 0-d shape — what numpy returns as a scalar. -/
section Shapes
open NdShape SqueezeSrc

/-- a vector of ANY length keeps its shape, also the empty and the ONE-ELEMENT vector.  (Defect F1, DESIGN.md
    section 5: with `np.squeeze` in the last branch a one-element vector becomes 0-d and `len()` raises.)  This is
    what the value-level translation assumes when it reads `_convert_to_ndarray_and_squeeze(v)` of a vector as `v`. -/
theorem src_squeeze_vector (n : Nat) : convert_to_ndarray_and_squeeze_shape [n] = .ok [n] := conv_vec n

/-- a single-column / single-row 2-d input (a one-column DataFrame) becomes the vector -/
theorem src_squeeze_column (n : Nat) (hn : 0 < n) :
    convert_to_ndarray_and_squeeze_shape [n, 1] = .ok [n] ∧ convert_to_ndarray_and_squeeze_shape [1, n] = .ok [n] := by
  have hsq : 1 < n → npSqueeze [n, 1] = [n] ∧ npSqueeze [1, n] = [n] := fun h => by
    have hne : n ≠ 1 := by omega
    simp [npSqueeze, hne]
  exact ⟨conv_of_size (by simp [size]) hn fun h => (hsq h).1, conv_of_size (by simp [size]) hn fun h => (hsq h).2⟩

/-- the helper never hands out a 0-d array ("a special case to stop single element arrays being converted to scalars"),
    whatever the input shape: the result has at least one dimension -/
theorem src_squeeze_never_scalar (s r : Shape) (h : convert_to_ndarray_and_squeeze_shape s = .ok r) : r ≠ [] := by
  rw [conv_eq] at h
  by_cases h0 : size s = 0
  · simp only [h0, if_true, Except.ok.injEq] at h
    subst h; exact size_zero_ne_nil s h0
  · by_cases h1 : size s > 1
    · simp only [h0, if_false, h1, if_true, Except.ok.injEq] at h
      subst h; exact squeeze_ne_nil s h1
    · simp only [h0, if_false, h1, npReshape] at h
      split at h
      · simp only [Except.ok.injEq] at h; subst h; simp
      · simp at h

/-- **"selection_rate … returned as a scalar"**: for predictions of any length n ≥ 1 (vector or single column), without
    weights or with a weight vector (column) of the same length, the translated body returns the 0-d shape -/
theorem src_selection_rate_scalar (n : Nat) (hn : 0 < n) (yt : Shape) :
    selection_rate_shape yt [n] none = .ok [] ∧ selection_rate_shape yt [n] (some [n]) = .ok [] ∧
    selection_rate_shape yt [n, 1] (some [n, 1]) = .ok [] := by
  have h0 : (n == 0) = false := by simp; omega
  refine ⟨?_, ?_, ?_⟩ <;>
    simp [selection_rate_shape, conv_vec, (src_squeeze_column n hn).1, npBroadcast, npLen, npDot, npSum, h0,
      bind, Except.bind]

/-- … and an empty prediction vector raises (`ValueError`, the "Empty y_pred" guard) -/
theorem src_selection_rate_empty_shape (yt : Shape) (w : Option Shape) :
    selection_rate_shape yt [0] w = .error .valueError := by
  cases w <;> simp [selection_rate_shape, conv_vec, npBroadcast, npLen, bind, Except.bind, throw, throwThe,
    MonadExceptOf.throw]

/-- **"mean_prediction … returned as a scalar"** -/
theorem src_mean_prediction_scalar (n : Nat) (yt : Shape) :
    mean_prediction_shape yt [n] none = .ok [] ∧ mean_prediction_shape yt [n] (some [n]) = .ok [] := by
  constructor <;>
    simp [mean_prediction_shape, conv_vec, npBroadcast, npLen, npDot, npSum, bind, Except.bind]

-- non-vacuity / the interesting points: one element stays a vector; a 1x1 matrix and a 0-d input become `[1]`
example : convert_to_ndarray_and_squeeze_shape [1] = .ok [1] ∧ convert_to_ndarray_and_squeeze_shape [1, 1] = .ok [1] ∧
    convert_to_ndarray_and_squeeze_shape [] = .ok [1] ∧ convert_to_ndarray_and_squeeze_shape [0] = .ok [0] ∧
    convert_to_ndarray_and_squeeze_shape [3, 1, 2] = .ok [3, 2] := by decide +kernel
example : selection_rate_shape [1] [1] (some [1]) = .ok [] ∧ mean_prediction_shape [1] [1] none = .ok [] := by decide +kernel
-- a 2-d prediction matrix (outside the quantifier: label VECTORS) does not slip through as a scalar: `np.dot` raises
example : selection_rate_shape [3, 2] [3, 2] none = .error .valueError := by decide +kernel

end Shapes

end C14
