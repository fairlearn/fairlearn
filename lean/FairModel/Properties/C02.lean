/-
C02 — MetricFrame aggregates are the documented functions of by_group and overall.
Property theorems, with the definitions their statements and witnesses need (`wmean`, `negTable`, `exT`, `exF`,
`exRows`) and a few facts about `wmean` and the cache calls from which several of them follow
(`eval_*_eq_wmean`, `wmean_of_nonneg`, `wmean_frame_finite`, `wmean_overall_between`, `src_cache_calls`).
Model: `Model/Aggregate.lean` (written in terms of the GENERATED
`AggregateSpec`: grouping functions and `ratio_sub_one` lifted from `_disaggregated_result.py`).

Everything is per control stratum `c ∈ strata t` ("within every control-feature combination"):
`vals t c` are the values of the sensitive-feature groups of that stratum (NaN = empty group,
skipped), `overallAt t c` the overall value of the stratum.  `valueAt r c = some x` means "the call
did not raise and its entry for stratum `c` is `x`".  Tables are arbitrary (any number of strata and
groups, NaN cells anywhere); `FiniteCells` only excludes ±inf / non-scalar metric values.

FINDINGS (proved here, reproduced on real fairlearn by harness/props/c02.py):
  F8  `ratio(between_groups) ≤ 1` is FALSE when every group value is negative
      (`ratio_gt_one_of_all_negative`, witness `ratio_le_one_false`); the true statement is
      `ratio_between_le_one_partial` (hypothesis: the group maximum is not negative).
  F8b `ratio(to_overall)` uses `ratio_sub_one r`, which equals `min r (1/r)` exactly when
      `r ∉ (-1,0)` (`ratioSubOne_eq_min_iff`); for a negative quotient in (-1,0) it keeps `r`.

CLAUSE → THEOREM TABLE (every theorem is per control stratum `c ∈ strata t` = "within every
control-feature combination"; `t` is an ARBITRARY table unless stated, and `ofFrame_finite` /
`wmean_frame_finite` discharge the side conditions for the tables MetricFrame builds from data)
  group_min / group_max = min / max of the non-empty groups   groupMin_spec, groupMax_spec, groupMin_le_groupMax,
                                                               groupMin_groupMax_cases (NaN together)
  difference(between_groups) = group_max − group_min           difference_between_eq, difference_between_nan
  difference(to_overall) = largest |group − overall|           difference_overall_eq, difference_overall_nan
  ratio(between_groups) = group_min / group_max                ratio_between_eq (IEEE quotient of ANY two extended values),
                                                               ratio_between_cases (which of NaN / −inf / number; never +inf)
  ratio(to_overall) = smallest min(r, 1/r), r = group/overall  ratio_overall_eq + ratioSubOne_eq_min_of_nonneg / _pinf_eq_min / _ninf_nan_eq_min;
      FALSE of the code for r ∈ (−1,0) (F8b)                   ratioSubOne_eq_min_iff, ratioSubOne_ne_min_of_neg (witness for every such r)
  errors='raise' = errors='coerce' on scalar metrics           raise_eq_coerce; non-scalar: raise_fails_coerce_answers, frame_raise_fails_iff,
                                                               frame_coerce_answers, frame_difference_overall_errors
  difference ≥ 0                                               difference_nonneg, difference_cases (NaN or number ≥ 0, never ±inf)
  ratio ≤ 1   to_overall                                       ratio_overall_le_one, ratio_overall_leOne (all tables, extended values)
              between_groups: FALSE (F8)                       ratio_le_one_false, ratio_gt_one_of_all_negative;
                 PARTIAL: some group value ≥ 0                 ratio_between_le_one_partial, ratio_between_leOne
  ratio ≥ 0 for non-negative metrics                           ratio_between_nonneg, ratio_overall_nonneg
  between_groups difference ≤ 2 × to_overall difference        between_le_two_overall
  overall between the group extremes: to_overall ≤ between     overall_le_between; ratio(to_overall) ≥ ratio(between_groups):
                                                               ratio_overall_ge_between (false without the hypothesis:
                                                               ratio_overall_ge_between_needs_between), for weighted means
                                                               ratio_overall_ge_between_of_weighted_mean
  weighted-mean metrics: to_overall ≤ between_groups           overall_le_between_of_weighted_mean_data (ANY dataset, weights ≥ 0, no side
                                                               conditions; through C01.stratum_partition), wmean_overall_between;
                                                               weights > 0, side conditions assumed: overall_le_between_of_weighted_mean;
                                                               selection rate / accuracy / mean prediction ARE such means:
                                                               selrate_frame_is_wmean (through `Aggregate.ofFrame_congr`), named_metrics_are_wmean,
                                                               eval_*_eq_wmean
  callable-vs-dict / several metric columns                    frame_*_col, frame_all_results_col (column j of the frame = the single-metric model);
  result cache keyed by (method, errors), accessor defaults,   src_populate_eq_model, src_group_min_eq_model, src_group_max_eq_model,
  callable-vs-dict unwrapping (`_extract_result`)              src_difference_eq_model, src_ratio_eq_model, src_cache_explicit_calls,
                                                               src_cache_default_calls, src_extract_documented (LIFTED: Generated/PopulateSrc.lean
                                                               interpreted by Model/AggregateCache.lean, + FrameSrc.extract_result)
  zero denominators / all-equal groups                         ratio_between_cases, single_group, ratio_between_eq_one_iff, difference_*_eq_zero_iff
  the model IS the lifted source text                          applyGroupingGen_eq_model, differenceGen_eq_model, ratioGen_eq_model
NOT COVERED by theorems with a `FiniteCells` hypothesis: metric values ±inf (the model computes them in IEEE
arithmetic and `ratio_between_eq`, `ratio_overall_eq`, `ratio_overall_leOne`, `raise_eq_coerce` hold for them, the
order/bounds theorems do not speak about them; the generator does not produce ±inf cells).
-/
import FairModel.Lemmas.Aggregate
import FairModel.Lemmas.AggregateGen
import FairModel.Lemmas.AggregateCache
import FairModel.Lemmas.AggregateFrame
import FairModel.Lemmas.AggregateData
import FairModel.Lemmas.WeightedMean
import FairModel.Lemmas.FiniteCellsDec
import FairModel.Properties.C01
import FairModel.Model.MetricPool

namespace C02
open Aggregate XR Frame

/-! ### group_min / group_max -/

/-- group_min is NaN iff the stratum has no non-empty group, otherwise the value of some group
    that is a lower bound of all (non-empty) group values -/
theorem groupMin_spec (e : Errors) (t : Tables) (hs : e = .coerce ∨ hasNonscalar t = false)
    (hf : FiniteCells t) (c : Key) (hc : c ∈ strata t) :
    ∃ x, valueAt (groupMin e t) c = some x ∧
      ((fins (vals t c) = [] ∧ x = nan) ∨
       (∃ m, x = fin m ∧ m ∈ fins (vals t c) ∧ ∀ q ∈ fins (vals t c), m ≤ q)) :=
  ⟨_, groupMin_at hs hc, minSkip_spec (finNan_vals hf c)⟩

theorem groupMax_spec (e : Errors) (t : Tables) (hs : e = .coerce ∨ hasNonscalar t = false)
    (hf : FiniteCells t) (c : Key) (hc : c ∈ strata t) :
    ∃ x, valueAt (groupMax e t) c = some x ∧
      ((fins (vals t c) = [] ∧ x = nan) ∨
       (∃ m, x = fin m ∧ m ∈ fins (vals t c) ∧ ∀ q ∈ fins (vals t c), q ≤ m)) :=
  ⟨_, groupMax_at hs hc, maxSkip_spec (finNan_vals hf c)⟩

theorem groupMin_le_groupMax (e : Errors) (t : Tables) (hs : e = .coerce ∨ hasNonscalar t = false)
    (hf : FiniteCells t) (c : Key) (hc : c ∈ strata t) (m M : Rat)
    (hm : valueAt (groupMin e t) c = some (fin m)) (hM : valueAt (groupMax e t) c = some (fin M)) :
    m ≤ M := by
  have hfn := finNan_vals hf c
  rw [groupMin_at hs hc, Option.some.injEq] at hm
  rw [groupMax_at hs hc, Option.some.injEq] at hM
  exact (minSkip_eq_fin hfn hm).2 M (maxSkip_eq_fin hfn hM).1

/-- group_min ≤ group_max and both are NaN together -/
theorem groupMin_groupMax_cases (e : Errors) (t : Tables) (hs : e = .coerce ∨ hasNonscalar t = false)
    (hf : FiniteCells t) (c : Key) (hc : c ∈ strata t) :
    (valueAt (groupMin e t) c = some nan ∧ valueAt (groupMax e t) c = some nan) ∨
    ∃ m M, valueAt (groupMin e t) c = some (fin m) ∧ valueAt (groupMax e t) c = some (fin M) ∧ m ≤ M := by
  rw [groupMin_at hs hc, groupMax_at hs hc]
  rcases min_max_together (finNan_vals hf c) with ⟨h1, h2⟩ | ⟨m, M, h1, h2, hle⟩
  · exact .inl ⟨congrArg some h1, congrArg some h2⟩
  · exact .inr ⟨m, M, congrArg some h1, congrArg some h2, hle⟩

/-! ### difference -/

/-- between_groups: difference = group_max - group_min -/
theorem difference_between_eq (e : Errors) (t : Tables) (hs : e = .coerce ∨ hasNonscalar t = false)
    (hf : FiniteCells t) (c : Key) (hc : c ∈ strata t) (m M : Rat)
    (hm : valueAt (groupMin e t) c = some (fin m)) (hM : valueAt (groupMax e t) c = some (fin M)) :
    valueAt (difference .between e t) c = some (fin (M - m)) := by
  rw [groupMin_at hs hc, Option.some.injEq] at hm
  rw [groupMax_at hs hc, Option.some.injEq] at hM
  rw [difference_between_at hs hc, hm, diffOf_min (finNan_vals hf c) hm hM]

/-- ... and NaN when the stratum has no non-empty group -/
theorem difference_between_nan (e : Errors) (t : Tables) (hs : e = .coerce ∨ hasNonscalar t = false)
    (c : Key) (hc : c ∈ strata t) (hm : valueAt (groupMin e t) c = some nan) :
    valueAt (difference .between e t) c = some nan := by
  rw [groupMin_at hs hc, Option.some.injEq] at hm
  rw [difference_between_at hs hc, hm, diffOf_nan]

/-- to_overall: difference = the largest |group - overall| (attained by a group; the overall value
    is the one of the SAME control stratum), NaN iff no non-empty group -/
theorem difference_overall_eq (e : Errors) (t : Tables) (hs : hasNonscalar t = false)
    (hf : FiniteCells t) (c : Key) (hc : c ∈ strata t) (o : Rat) (ho : overallAt t c = fin o) :
    ∃ x, valueAt (difference .toOverall e t) c = some x ∧
      ((fins (vals t c) = [] ∧ x = nan) ∨
       (∃ D, x = fin D ∧ (∃ q ∈ fins (vals t c), D = |q - o|) ∧ ∀ q ∈ fins (vals t c), |q - o| ≤ D)) := by
  refine ⟨_, difference_overall_at hs hc, ?_⟩
  rw [ho]
  exact diffOf_spec (finNan_vals hf c) o

theorem difference_overall_nan (e : Errors) (t : Tables) (hs : hasNonscalar t = false)
    (c : Key) (hc : c ∈ strata t) (ho : overallAt t c = nan) :
    valueAt (difference .toOverall e t) c = some nan := by
  rw [difference_overall_at hs hc, ho, diffOf_nan]

/-- difference (both methods) on a finite scalar table is NaN or a finite number ≥ 0 — never ±inf -/
theorem difference_cases (m : Method) (e : Errors) (t : Tables) (hs : hasNonscalar t = false)
    (hf : FiniteCells t) (c : Key) (hc : c ∈ strata t) :
    ∃ x, valueAt (difference m e t) c = some x ∧ (x = nan ∨ ∃ d, x = fin d ∧ 0 ≤ d) := by
  have hfn := finNan_vals hf c
  cases m with
  | between => exact ⟨_, difference_between_at (.inr hs) hc, diffOf_nan_or_nonneg hfn (minSkip_finNan hfn)⟩
  | toOverall => exact ⟨_, difference_overall_at hs hc, diffOf_nan_or_nonneg hfn (overallAt_finNan hf c)⟩

/-- difference ≥ 0, both methods -/
theorem difference_nonneg (m : Method) (e : Errors) (t : Tables) (hs : hasNonscalar t = false)
    (hf : FiniteCells t) (c : Key) (hc : c ∈ strata t) (d : Rat)
    (hd : valueAt (difference m e t) c = some (fin d)) : 0 ≤ d := by
  obtain ⟨x, hx, h | ⟨d', h, hd'⟩⟩ := difference_cases m e t hs hf c hc <;> rw [hx, h] at hd <;> cases hd
  exact hd'

/-- the between_groups difference never exceeds twice the to_overall difference -/
theorem between_le_two_overall (e : Errors) (t : Tables) (hs : hasNonscalar t = false)
    (hf : FiniteCells t) (c : Key) (hc : c ∈ strata t) (db dov : Rat)
    (hb : valueAt (difference .between e t) c = some (fin db))
    (ho : valueAt (difference .toOverall e t) c = some (fin dov)) : db ≤ 2 * dov := by
  have hfn := finNan_vals hf c
  rw [difference_between_at (.inr hs) hc, Option.some.injEq] at hb
  rw [difference_overall_at hs hc, Option.some.injEq] at ho
  obtain ⟨m, hm⟩ := fin_of_diffOf_eq_fin (minSkip_finNan hfn) hb
  obtain ⟨o, ho'⟩ := fin_of_diffOf_eq_fin (overallAt_finNan hf c) ho
  rw [hm] at hb; rw [ho'] at ho
  -- `|q - m| ≤ |q - o| + |o - m|` for the group `q` farthest from the minimum `m`, itself a group value
  obtain ⟨⟨q, hq, rfl⟩, _⟩ := diffOf_eq_fin hfn hb
  obtain ⟨_, hle⟩ := diffOf_eq_fin hfn ho
  rw [two_mul]
  refine (abs_sub_le q o m).trans (add_le_add (hle q hq) ?_)
  rw [abs_sub_comm]; exact hle m (minSkip_eq_fin hfn hm).1

/-- if the overall value of the stratum lies between the group minimum and maximum, the
    to_overall difference never exceeds the between_groups difference -/
theorem overall_le_between (e : Errors) (t : Tables) (hs : hasNonscalar t = false)
    (hf : FiniteCells t) (c : Key) (hc : c ∈ strata t) (m M o db dov : Rat)
    (hm : valueAt (groupMin e t) c = some (fin m)) (hM : valueAt (groupMax e t) c = some (fin M))
    (ho : overallAt t c = fin o) (hmo : m ≤ o) (hoM : o ≤ M)
    (hb : valueAt (difference .between e t) c = some (fin db))
    (hov : valueAt (difference .toOverall e t) c = some (fin dov)) : dov ≤ db := by
  rw [difference_between_eq e t (.inr hs) hf c hc m M hm hM, Option.some.injEq, fin.injEq] at hb
  rw [groupMin_at (.inr hs) hc, Option.some.injEq] at hm
  rw [groupMax_at (.inr hs) hc, Option.some.injEq] at hM
  rw [difference_overall_at hs hc, ho, Option.some.injEq] at hov
  exact hb ▸ diffOf_le_range (finNan_vals hf c) hm hM hmo hoM hov

/-! ### ratio -/

/-- between_groups: ratio = group_min / group_max (IEEE division: 0/0 = NaN, x/0 = ±inf) -/
theorem ratio_between_eq (e : Errors) (t : Tables) (hs : e = .coerce ∨ hasNonscalar t = false)
    (c : Key) (hc : c ∈ strata t) (a b : XR)
    (ha : valueAt (groupMin e t) c = some a) (hb : valueAt (groupMax e t) c = some b) :
    valueAt (ratio .between e t) c = some (XR.div a b) := by
  rw [groupMin_at hs hc, Option.some.injEq] at ha
  rw [groupMax_at hs hc, Option.some.injEq] at hb
  rw [ratio_between_at hs hc, ha, hb]

/-- to_overall: ratio = the smallest `ratio_sub_one (group / overall)` over the non-empty groups -/
theorem ratio_overall_eq (e : Errors) (t : Tables) (hs : hasNonscalar t = false)
    (c : Key) (hc : c ∈ strata t) :
    valueAt (ratio .toOverall e t) c =
      some (minSkip ((vals t c).map (fun v => AggregateSpec.ratioSubOne (XR.div v (overallAt t c))))) :=
  ratio_overall_at hs hc

/-- `ratio_sub_one r = min(r, 1/r)` for every finite non-negative quotient (incl. 0; +inf is the next theorem) ... -/
theorem ratioSubOne_eq_min_of_nonneg (r : Rat) (hr : 0 ≤ r) :
    AggregateSpec.ratioSubOne (fin r) = minSkip2 (fin r) (XR.div (fin 1) (fin r)) := by
  rcases hr.eq_or_lt with rfl | hpos
  · rfl
  · rw [minSkip2_fin_one_div hpos.ne', ratioSubOne_fin]
    by_cases h1 : 1 < r
    · rw [if_pos h1, min_eq_right ((one_div_lt_self_of_pos hpos).mpr h1).le]
    · rw [if_neg h1, min_eq_left (not_lt.mp (mt (one_div_lt_self_of_pos hpos).mp h1))]

theorem ratioSubOne_pinf_eq_min :
    AggregateSpec.ratioSubOne pinf = minSkip2 pinf (XR.div (fin 1) pinf) := by decide +kernel

/-- the equation also holds for the two remaining extended quotients (-inf: group < 0 = overall;
    NaN: 0/0 or an empty group) -/
theorem ratioSubOne_ninf_nan_eq_min :
    AggregateSpec.ratioSubOne ninf = minSkip2 ninf (XR.div (fin 1) ninf) ∧
    AggregateSpec.ratioSubOne nan = minSkip2 nan (XR.div (fin 1) nan) := by decide +kernel

/-- ... and, for finite quotients, EXACTLY when `r ∉ (-1, 0)` (finding F8b: a negative quotient
    in (-1,0) is kept as `r` although `1/r` is smaller) -/
theorem ratioSubOne_eq_min_iff (r : Rat) :
    AggregateSpec.ratioSubOne (fin r) = minSkip2 (fin r) (XR.div (fin 1) (fin r)) ↔ ¬ (-1 < r ∧ r < 0) := by
  rcases lt_or_ge r 0 with hneg | hr
  · -- `ratio_sub_one` keeps a negative `r`, which is the smaller of `r`, `1/r` iff `r ≤ -1`
    rw [ratioSubOne_fin, if_neg (not_lt.mpr (hneg.le.trans zero_le_one)), minSkip2_fin_one_div hneg.ne,
      fin.injEq, eq_comm, min_eq_left_iff, ← not_lt, one_div_lt_self_of_neg hneg]
    exact ⟨fun h hc => h hc.1, fun h hc => h ⟨hc, hneg⟩⟩
  · exact ⟨fun _ h => absurd h.2 hr.not_gt, fun _ => ratioSubOne_eq_min_of_nonneg r hr⟩

/-- F8b (name cited by known_findings.json): for EVERY quotient r ∈ (-1,0) the code's `ratio_sub_one`
    returns `r`, while `min(r, 1/r) = 1/r < r` -/
theorem ratioSubOne_ne_min_of_neg (r : Rat) (h1 : -1 < r) (h0 : r < 0) :
    AggregateSpec.ratioSubOne (fin r) = fin r ∧
    minSkip2 (fin r) (XR.div (fin 1) (fin r)) = fin (1 / r) ∧ 1 / r < r := by
  have hlt := (one_div_lt_self_of_neg h0).mpr h1
  exact ⟨by rw [ratioSubOne_fin, if_neg (not_lt.mpr (h0.le.trans zero_le_one))],
    by rw [minSkip2_fin_one_div h0.ne, min_eq_right hlt.le], hlt⟩

/-- to_overall ratio ≤ 1, unconditionally (it may be NaN = undefined, or -inf) -/
theorem ratio_overall_le_one (e : Errors) (t : Tables) (hs : hasNonscalar t = false)
    (c : Key) (hc : c ∈ strata t) (r : Rat)
    (hr : valueAt (ratio .toOverall e t) c = some (fin r)) : r ≤ 1 := by
  rw [ratio_overall_at hs hc, Option.some.injEq] at hr
  exact leOne_fin.mp (hr ▸ ratioOverallOf_leOne _ _)

/-- ratio(to_overall) is NaN, -inf, or a finite number ≤ 1 — NEVER +inf and never a finite number > 1;
    for every table (±inf cells included), every stratum. -/
theorem ratio_overall_leOne (e : Errors) (t : Tables) (hs : hasNonscalar t = false)
    (c : Key) (hc : c ∈ strata t) :
    ∃ x, valueAt (ratio .toOverall e t) c = some x ∧ LeOne x :=
  ⟨_, ratio_overall_at hs hc, ratioOverallOf_leOne _ _⟩

/-- ratio(between_groups) on a finite table, ALL cases: NaN iff no non-empty group or min = max = 0
    (0/0); -inf iff max = 0 > min; otherwise the exact quotient min/max.  Never +inf. -/
theorem ratio_between_cases (e : Errors) (t : Tables) (hs : e = .coerce ∨ hasNonscalar t = false)
    (hf : FiniteCells t) (c : Key) (hc : c ∈ strata t) :
    (fins (vals t c) = [] ∧ valueAt (ratio .between e t) c = some nan) ∨
    ∃ m M, valueAt (groupMin e t) c = some (fin m) ∧ valueAt (groupMax e t) c = some (fin M) ∧ m ≤ M ∧
      ((M = 0 ∧ m = 0 ∧ valueAt (ratio .between e t) c = some nan) ∨
       (M = 0 ∧ m < 0 ∧ valueAt (ratio .between e t) c = some ninf) ∨
       (M ≠ 0 ∧ valueAt (ratio .between e t) c = some (fin (m / M)))) := by
  rw [ratio_between_at hs hc, groupMin_at hs hc, groupMax_at hs hc]
  rcases extremes_spec (finNan_vals hf c) with ⟨h0, h1, h2⟩ | ⟨m, M, h1, h2, _, hMmem, hb⟩ <;> rw [h1, h2]
  · exact .inl ⟨h0, rfl⟩
  · refine .inr ⟨m, M, rfl, rfl, (hb M hMmem).1, ?_⟩
    simpa only [Option.some.injEq] using div_min_max_cases (hb M hMmem).1

/-- "ratio ≤ 1" for between_groups at full strength on extended values: unless EVERY non-empty group
    value is negative (F8), the result is NaN, -inf or a finite number ≤ 1. -/
theorem ratio_between_leOne (e : Errors) (t : Tables) (hs : e = .coerce ∨ hasNonscalar t = false)
    (hf : FiniteCells t) (c : Key) (hc : c ∈ strata t) (hnn : ∃ q ∈ fins (vals t c), 0 ≤ q) :
    ∃ x, valueAt (ratio .between e t) c = some x ∧ LeOne x := by
  obtain ⟨q, hq, hq0⟩ := hnn
  refine ⟨_, ratio_between_at hs hc, ?_⟩
  rcases extremes_spec (finNan_vals hf c) with ⟨h0, _⟩ | ⟨m, M, hm, hM, _, hMmem, hb⟩
  · rw [h0] at hq; cases hq
  · rw [hm, hM]
    rcases div_min_max_cases (hb M hMmem).1 with ⟨_, _, h⟩ | ⟨_, _, h⟩ | ⟨h0, h⟩ <;> rw [h]
    · exact .inl rfl
    · exact .inr (.inl rfl)
    · exact leOne_fin.mpr ((div_le_one (lt_of_le_of_ne (hq0.trans (hb q hq).2) h0.symm)).mpr (hb M hMmem).1)

/-- between_groups ratio ≤ 1 PROVIDED the group maximum is not negative.
    (Full statement "ratio ≤ 1" is false: see `ratio_gt_one_of_all_negative`.) -/
theorem ratio_between_le_one_partial (e : Errors) (t : Tables) (hs : e = .coerce ∨ hasNonscalar t = false)
    (hf : FiniteCells t) (c : Key) (hc : c ∈ strata t) (M r : Rat)
    (hM : valueAt (groupMax e t) c = some (fin M)) (hnn : 0 ≤ M)
    (hr : valueAt (ratio .between e t) c = some (fin r)) : r ≤ 1 := by
  rw [groupMax_at hs hc, Option.some.injEq] at hM
  obtain ⟨x, hx, h⟩ :=
    ratio_between_leOne e t hs hf c hc ⟨M, (maxSkip_eq_fin (finNan_vals hf c) hM).1, hnn⟩
  rw [hx, Option.some.injEq] at hr
  exact leOne_fin.mp (hr ▸ h)

/-- F8, general form (name cited by known_findings.json): if every group value of the stratum is
    negative and they are not all equal (min < max < 0), the between_groups ratio is min/max and it
    EXCEEDS 1. -/
theorem ratio_gt_one_of_all_negative (e : Errors) (t : Tables)
    (hs : e = .coerce ∨ hasNonscalar t = false) (c : Key) (hc : c ∈ strata t) (m M : Rat)
    (hm : valueAt (groupMin e t) c = some (fin m)) (hM : valueAt (groupMax e t) c = some (fin M))
    (hneg : M < 0) (hlt : m < M) :
    valueAt (ratio .between e t) c = some (fin (m / M)) ∧ 1 < m / M := by
  constructor
  · rw [ratio_between_eq e t hs c hc _ _ hm hM, div_fin_of_ne m hneg.ne]
  · rw [lt_div_iff_of_neg hneg, one_mul]; exact hlt

/-- F8, concrete witness: groups -3 and -2 give ratio 3/2 -/
def negTable : Tables := ⟨0, [(["a"], .scalar (fin (-3))), (["b"], .scalar (fin (-2)))], [([], .scalar (fin (-5/2)))], false⟩

theorem ratio_le_one_false :
    ¬ (∀ (t : Tables) (c : Key) (r : Rat), hasNonscalar t = false → c ∈ strata t →
        valueAt (ratio .between .coerce t) c = some (fin r) → r ≤ 1) := by
  intro h
  have := h negTable [] (3/2) (by decide +kernel) (by decide +kernel) (by decide +kernel)
  norm_num at this

/-- ratio ≥ 0 on non-negative tables, both methods -/
theorem ratio_between_nonneg (e : Errors) (t : Tables) (hs : e = .coerce ∨ hasNonscalar t = false)
    (hf : FiniteCells t) (c : Key) (hc : c ∈ strata t) (hnn : ∀ q ∈ fins (vals t c), 0 ≤ q) (r : Rat)
    (hr : valueAt (ratio .between e t) c = some (fin r)) : 0 ≤ r := by
  rw [ratio_between_at hs hc, Option.some.injEq] at hr
  rcases extremes_spec (finNan_vals hf c) with ⟨_, h1, _⟩ | ⟨m, M, h1, h2, hmem, hMmem, _⟩
  · rw [h1] at hr; cases hr
  · rw [h1, h2] at hr
    exact nonNeg_fin.mp (hr ▸ div_nonneg_fin (hnn m hmem) (hnn M hMmem))

theorem ratio_overall_nonneg (e : Errors) (t : Tables) (hs : hasNonscalar t = false)
    (hf : FiniteCells t) (c : Key) (hc : c ∈ strata t) (hnn : ∀ q ∈ fins (vals t c), 0 ≤ q)
    (o : Rat) (ho : overallAt t c = fin o) (hon : 0 ≤ o) (r : Rat)
    (hr : valueAt (ratio .toOverall e t) c = some (fin r)) : 0 ≤ r := by
  rw [ratio_overall_at hs hc, ho, Option.some.injEq] at hr
  exact nonNeg_fin.mp (hr ▸ ratioOverallOf_nonneg (finNan_vals hf c) hnn hon)

/-! ### errors='raise' and errors='coerce' agree on scalar frames -/

theorem raise_eq_coerce (t : Tables) (hs : hasNonscalar t = false) :
    groupMin .raise t = groupMin .coerce t ∧ groupMax .raise t = groupMax .coerce t ∧
    (∀ m, difference m .raise t = difference m .coerce t) ∧
    (∀ m, ratio m .raise t = ratio m .coerce t) := by
  have hg : ∀ g, applyGrouping g .raise t = applyGrouping g .coerce t := by
    intro g
    rw [applyGrouping_eq (e := .raise) (Or.inr hs), applyGrouping_eq (e := .coerce) (Or.inl rfl)]
  refine ⟨hg _, hg _, ?_, ?_⟩
  · intro m; cases m
    · simp only [difference, hg]
    · rfl
  · intro m; cases m
    · simp only [ratio, hg]
    · rfl

/-- with a non-scalar cell somewhere, errors='raise' fails while 'coerce' still answers -/
theorem raise_fails_coerce_answers (g : Grouping) (t : Tables) (hs : hasNonscalar t = true) :
    applyGrouping g .raise t = none ∧ (applyGrouping g .coerce t).isSome := by
  constructor
  · simp [applyGrouping, hs]
  · simp [applyGrouping]

/-! ### when the disparities vanish -/

/-- between_groups difference = 0 iff the stratum has a non-empty group and all non-empty groups have
    the same value -/
theorem difference_between_eq_zero_iff (e : Errors) (t : Tables) (hs : e = .coerce ∨ hasNonscalar t = false)
    (hf : FiniteCells t) (c : Key) (hc : c ∈ strata t) :
    valueAt (difference .between e t) c = some (fin 0) ↔
      (fins (vals t c) ≠ [] ∧ ∀ p ∈ fins (vals t c), ∀ q ∈ fins (vals t c), p = q) := by
  have hfn := finNan_vals hf c
  rw [difference_between_at hs hc, Option.some.injEq]
  rcases extremes_spec hfn with ⟨h0, h1, _⟩ | ⟨m, M, h1, h2, hmem, hMmem, hb⟩
  · rw [h1, diffOf_nan]; exact ⟨nofun, fun h => absurd h0 h.1⟩
  · rw [h1, diffOf_min hfn h1 h2, fin.injEq, sub_eq_zero]
    refine ⟨fun h => ⟨List.ne_nil_of_mem hmem, fun p hp q hq => ?_⟩, fun h => h.2 M hMmem m hmem⟩
    -- every value lies between the minimum and the maximum, which coincide
    exact le_antisymm ((hb p hp).2.trans (h.le.trans (hb q hq).1)) ((hb q hq).2.trans (h.le.trans (hb p hp).1))

/-- to_overall difference = 0 iff the stratum has a non-empty group and every non-empty group equals
    the overall value of the stratum -/
theorem difference_overall_eq_zero_iff (e : Errors) (t : Tables) (hs : hasNonscalar t = false)
    (hf : FiniteCells t) (c : Key) (hc : c ∈ strata t) (o : Rat) (ho : overallAt t c = fin o) :
    valueAt (difference .toOverall e t) c = some (fin 0) ↔
      (fins (vals t c) ≠ [] ∧ ∀ q ∈ fins (vals t c), q = o) := by
  rw [difference_overall_at hs hc, ho, Option.some.injEq]
  exact diffOf_eq_zero_iff (finNan_vals hf c) o

/-- between_groups ratio = 1 iff the stratum has a non-empty group, all non-empty groups have the
    same value, and that value is not zero (0/0 is NaN) -/
theorem ratio_between_eq_one_iff (e : Errors) (t : Tables) (hs : e = .coerce ∨ hasNonscalar t = false)
    (hf : FiniteCells t) (c : Key) (hc : c ∈ strata t) :
    valueAt (ratio .between e t) c = some (fin 1) ↔
      ∃ v, v ≠ 0 ∧ fins (vals t c) ≠ [] ∧ ∀ q ∈ fins (vals t c), q = v := by
  rw [ratio_between_at hs hc, Option.some.injEq]
  rcases extremes_spec (finNan_vals hf c) with ⟨h0, h1, _⟩ | ⟨m, M, h1, h2, hmem, hMmem, hb⟩
  · rw [h1]; exact ⟨nofun, fun ⟨_, _, hne, _⟩ => absurd h0 hne⟩
  · rw [h1, h2, div_eq_fin_iff]
    constructor
    · rintro ⟨hM0, hq⟩
      obtain rfl := (div_eq_one_iff_eq hM0).mp hq
      exact ⟨m, hM0, List.ne_nil_of_mem hmem, fun q hq => le_antisymm (hb q hq).2 (hb q hq).1⟩
    · rintro ⟨v, hv, _, hall⟩
      rw [hall m hmem, hall M hMmem]; exact ⟨hv, div_self hv⟩

/-- exactly one non-empty group `v` in the stratum: between_groups difference 0, ratio 1 — or NaN when
    `v = 0` (0/0) -/
theorem single_group (e : Errors) (t : Tables) (hs : e = .coerce ∨ hasNonscalar t = false)
    (hf : FiniteCells t) (c : Key) (hc : c ∈ strata t) (v : Rat) (hv : fins (vals t c) = [v]) :
    valueAt (groupMin e t) c = some (fin v) ∧ valueAt (groupMax e t) c = some (fin v) ∧
    valueAt (difference .between e t) c = some (fin 0) ∧
    valueAt (ratio .between e t) c = some (if v = 0 then nan else fin 1) := by
  have hfn := finNan_vals hf c
  obtain ⟨h1, h2⟩ := single_min_max hfn hv
  refine ⟨by rw [groupMin_at hs hc, h1], by rw [groupMax_at hs hc, h2], ?_, ?_⟩
  · rw [difference_between_at hs hc, h1, diffOf_min hfn h1 h2, sub_self]
  · rw [ratio_between_at hs hc, h1, h2]
    by_cases h0 : v = 0
    · rw [if_pos h0, h0, div_zero_zero]
    · rw [if_neg h0, div_fin_of_ne v h0, div_self h0]

/-! ### the tables MetricFrame builds from data, for ANY metric function `f`

`ofFrame ncf nsf f rows` is `DisaggregatedResult.create` (model of C01).  Every theorem above is about
an arbitrary `Tables`, hence applies to it; the two side conditions `FiniteCells` / `hasNonscalar = false`
follow from a property of `f` alone: -/

/-- If the metric returns a finite number or NaN on every sub-list of the data, the frame built from
    ANY dataset satisfies both side conditions of the theorems of this file. -/
theorem ofFrame_finite {α : Type} (ncf nsf : Nat) (hn : 0 < ncf + nsf) (f : List α → Cell)
    (rows : List (Row α))
    (hfin : ∀ ds : List α, (∀ d ∈ ds, ∃ r ∈ rows, r.dat = d) →
      f ds = .scalar nan ∨ ∃ q, f ds = .scalar (fin q)) :
    FiniteCells (ofFrame ncf nsf f rows) ∧ hasNonscalar (ofFrame ncf nsf f rows) = false := by
  have hfc : FiniteCells (ofFrame ncf nsf f rows) := by
    refine ⟨fun e he => ?_, fun e he => ?_⟩
    · rw [C01.applyFunctions_cell Cell.nan Row.key (ncf + nsf) hn f rows e.1 e.2 he]
      split
      exacts [.inl rfl, hfin _ fun d hd => mem_rows_of_mem_slice hd]
    · rcases ofFrame_overall_cell ncf nsf f rows e he with ⟨_, rfl⟩ | ⟨_, h⟩
      · exact hfin _ fun d hd => List.mem_map.mp hd
      · rw [h]
        split
        exacts [.inl rfl, hfin _ fun d hd => mem_rows_of_mem_slice hd]
  exact ⟨hfc, hasNonscalar_of_finiteCells hfc rfl⟩

/-! ### weighted-mean metrics: the overall value lies between the group extremes

Weights are NON-NEGATIVE: a group (or stratum) of total weight 0 has the value 0/0 = NaN and is skipped by
every aggregate (replayed on fairlearn: selection_rate and mean_prediction with `sample_weight=[0,0,1,1]`,
groups a a b b), and the two side conditions `hasNonscalar = false` / `FiniteCells` are PROVED for the frame. -/

open MetricPool in
/-- a sample-weighted mean of a per-row quantity `q` (weights `p0`): selection rate
    (`q = [pred = 1]`), accuracy (`q = [y = pred]`), mean prediction (`q = pred`), ... -/
def wmean (q : Dat → Rat) (ds : List Dat) : Cell :=
  quot (sumBy (fun d => q d * d.p0) ds) (sumBy (·.p0) ds)

open MetricPool in
theorem eval_selrate_eq_wmean (ds : List Dat) (hne : ds ≠ []) :
    eval .selrate ds = wmean (fun d => if d.pred = 1 then 1 else 0) ds := by
  simp only [eval, selRateCell, wmean, List.isEmpty_iff, hne, if_false, ite_mul, one_mul, zero_mul]

open MetricPool in
theorem eval_accuracy_eq_wmean (ds : List Dat) :
    eval .accuracy ds = wmean (fun d => if d.y = d.pred then 1 else 0) ds := by
  simp only [eval, wmean, ite_mul, one_mul, zero_mul]

open MetricPool in
theorem eval_meanpred_eq_wmean (ds : List Dat) : eval .meanpred ds = wmean (·.pred) ds := rfl

open MetricPool in
theorem wmean_of_nonneg (q : Dat → Rat) (ds : List Dat) (hw : ∀ d ∈ ds, 0 ≤ d.p0) :
    wmean q ds = if WeightedMean.den (·.p0) ds = 0 then Cell.nan
      else .scalar (fin (WeightedMean.num q (·.p0) ds / WeightedMean.den (·.p0) ds)) := by
  show Cell.scalar (XR.div (fin (WeightedMean.num q (·.p0) ds)) (fin (WeightedMean.den (·.p0) ds))) = _
  by_cases hd : WeightedMean.den (·.p0) ds = 0
  · rw [if_pos hd, hd, WeightedMean.num_eq_zero_of_den_zero q (·.p0) ds hw hd]; rfl
  · rw [if_neg hd, div_fin_of_ne _ hd]

open MetricPool in
/-- the frame of a weighted-mean metric built from ANY dataset with non-negative weights satisfies the
    side conditions of all theorems of this file -/
theorem wmean_frame_finite (q : Dat → Rat) (ncf nsf : Nat) (hn : 0 < ncf + nsf)
    (rows : List (Row Dat)) (hw : ∀ r ∈ rows, 0 ≤ r.dat.p0) :
    FiniteCells (ofFrame ncf nsf (wmean q) rows) ∧ hasNonscalar (ofFrame ncf nsf (wmean q) rows) = false :=
  ofFrame_finite ncf nsf hn (wmean q) rows fun ds hsub => by
    rw [wmean_of_nonneg q ds fun d hd => let ⟨r, hr, e⟩ := hsub d hd; e ▸ hw r hr]
    split
    exacts [.inl rfl, .inr ⟨_, rfl⟩]

open MetricPool in
/-- the overall value of every stratum lies between the smallest and the largest DEFINED group value of
    that stratum (groups of total weight 0 are NaN and skipped). -/
theorem wmean_overall_between (q : Dat → Rat) (ncf nsf : Nat) (hn : 0 < ncf + nsf)
    (rows : List (Row Dat)) (hwf : WF ncf nsf rows) (hw : ∀ r ∈ rows, 0 ≤ r.dat.p0)
    (c : Key) (o m M : Rat)
    (ho : overallAt (ofFrame ncf nsf (wmean q) rows) c = fin o)
    (hm : minSkip (vals (ofFrame ncf nsf (wmean q) rows) c) = fin m)
    (hM : maxSkip (vals (ofFrame ncf nsf (wmean q) rows) c) = fin M) : m ≤ o ∧ o ≤ M := by
  have h0 : wmean q [] = Cell.nan := rfl
  have hfc := finNan_vals (wmean_frame_finite q ncf nsf hn rows hw).1 c
  obtain ⟨_, hlo⟩ := minSkip_eq_fin hfc hm
  obtain ⟨_, hhi⟩ := maxSkip_eq_fin hfc hM
  -- the overall value is the mean over all rows of the stratum ...
  rcases overallAt_ofFrame ncf nsf h0 hwf c with h | h <;> rw [h] at ho
  · cases ho
  obtain ⟨hd, rfl⟩ := div_eq_fin_iff.mp ho
  -- ... which are partitioned into the cells of the stratum, each a group value unless its weight is 0
  have hpart := (C01.stratum_partition Cell.nan ncf nsf hn (wmean q) rows hwf c).map (·.dat)
  rw [List.map_flatMap] at hpart
  refine WeightedMean.mean_between q (·.p0) _ _
    (fun k _ d hd => let ⟨r, hr, e⟩ := mem_rows_of_mem_slice hd; e ▸ hw r hr) m M (fun k hk hdk => ?_) hpart hd
  obtain ⟨hk, hpre⟩ := List.mem_filter.mp hk
  have hv := ofFrame_vals_mem ncf nsf hn h0 rows hk
  rw [eq_of_beq hpre, show coerce (wmean q (slice (rowsOf Row.key k rows))) = fin _ from div_fin_of_ne _ hdk] at hv
  exact ⟨hlo _ (mem_fins.mpr hv), hhi _ (mem_fins.mpr hv)⟩

open MetricPool in
/-- **The weighted-mean clause at full strength**: for a sample-weighted mean of a per-row quantity
    (selection rate, accuracy, mean prediction, …), on the frame built from ANY dataset with any number
    of sensitive / control features and NON-NEGATIVE weights, in every control stratum in which both
    differences are numbers: to_overall difference ≤ between_groups difference.  No side conditions. -/
theorem overall_le_between_of_weighted_mean_data (q : Dat → Rat) (ncf nsf : Nat) (hn : 0 < ncf + nsf)
    (rows : List (Row Dat)) (hwf : WF ncf nsf rows) (hw : ∀ r ∈ rows, 0 ≤ r.dat.p0)
    (e : Errors) (c : Key) (hc : c ∈ strata (ofFrame ncf nsf (wmean q) rows)) (db dov : Rat)
    (hb : valueAt (difference .between e (ofFrame ncf nsf (wmean q) rows)) c = some (fin db))
    (hov : valueAt (difference .toOverall e (ofFrame ncf nsf (wmean q) rows)) c = some (fin dov)) :
    dov ≤ db := by
  obtain ⟨hf, hs⟩ := wmean_frame_finite q ncf nsf hn rows hw
  have hfn := finNan_vals hf c
  rw [difference_between_at (.inr hs) hc, Option.some.injEq] at hb
  rw [difference_overall_at hs hc, Option.some.injEq] at hov
  obtain ⟨o, ho⟩ := fin_of_diffOf_eq_fin (overallAt_finNan hf c) hov
  rcases extremes_spec hfn with ⟨_, h1, _⟩ | ⟨m, M, h1, h2, _⟩
  · rw [h1, diffOf_nan] at hb; cases hb
  · obtain ⟨hmo, hoM⟩ := wmean_overall_between q ncf nsf hn rows hwf hw c o m M ho h1 h2
    rw [h1, diffOf_min hfn h1 h2, fin.injEq] at hb
    rw [ho] at hov
    exact hb ▸ diffOf_le_range hfn h1 h2 hmo hoM hov

open MetricPool in
/-- The same with positive weights and the two side conditions as hypotheses. -/
theorem overall_le_between_of_weighted_mean (q : Dat → Rat) (ncf nsf : Nat) (hn : 0 < ncf + nsf)
    (rows : List (Row Dat)) (hwf : WF ncf nsf rows) (hw : ∀ r ∈ rows, 0 < r.dat.p0)
    (e : Errors) (c : Key) (hc : c ∈ strata (ofFrame ncf nsf (wmean q) rows))
    (hs : hasNonscalar (ofFrame ncf nsf (wmean q) rows) = false)
    (hf : FiniteCells (ofFrame ncf nsf (wmean q) rows)) (db dov : Rat)
    (hb : valueAt (difference .between e (ofFrame ncf nsf (wmean q) rows)) c = some (fin db))
    (hov : valueAt (difference .toOverall e (ofFrame ncf nsf (wmean q) rows)) c = some (fin dov)) :
    dov ≤ db :=
  overall_le_between_of_weighted_mean_data q ncf nsf hn rows hwf (fun r hr => (hw r hr).le) e c hc db dov hb hov

open MetricPool in
/-- the metrics the property names are such weighted means (restated at the data level): the frames MetricFrame
    builds for accuracy / mean prediction ARE `wmean` frames (selection rate: `selrate_frame_is_wmean` below) -/
theorem named_metrics_are_wmean (ncf nsf : Nat) (rows : List (Row Dat)) :
    ofFrame ncf nsf (eval .accuracy) rows = ofFrame ncf nsf (wmean (fun d => if d.y = d.pred then 1 else 0)) rows ∧
    ofFrame ncf nsf (eval .meanpred) rows = ofFrame ncf nsf (wmean (·.pred)) rows :=
  ⟨congrArg (ofFrame ncf nsf · rows) (funext eval_accuracy_eq_wmean), rfl⟩

open MetricPool in
/-- … and so is the selection-rate frame of every non-empty dataset -/
theorem selrate_frame_is_wmean (ncf nsf : Nat) (rows : List (Row Dat)) (hne : rows ≠ []) :
    ofFrame ncf nsf (eval .selrate) rows = ofFrame ncf nsf (wmean (fun d => if d.pred = 1 then 1 else 0)) rows :=
  ofFrame_congr ncf nsf _ _ eval_selrate_eq_wmean rows hne

/-! ### ratio(to_overall) ≥ ratio(between_groups) -/

/-- on a stratum with non-negative group values whose overall value lies between the group minimum and
    maximum, the to_overall ratio is never smaller than the between_groups ratio -/
theorem ratio_overall_ge_between (e : Errors) (t : Tables) (hs : hasNonscalar t = false)
    (hf : FiniteCells t) (c : Key) (hc : c ∈ strata t) (hnn : ∀ q ∈ fins (vals t c), 0 ≤ q)
    (m M o rb ro : Rat) (hm : minSkip (vals t c) = fin m) (hM : maxSkip (vals t c) = fin M)
    (ho : overallAt t c = fin o) (hmo : m ≤ o) (hoM : o ≤ M)
    (hb : valueAt (ratio .between e t) c = some (fin rb))
    (hov : valueAt (ratio .toOverall e t) c = some (fin ro)) : rb ≤ ro := by
  rw [ratio_between_at (.inr hs) hc, hm, hM, Option.some.injEq] at hb
  rw [ratio_overall_at hs hc, ho, Option.some.injEq] at hov
  exact ratioOverallOf_ge_between (finNan_vals hf c) hnn hm hM hmo hoM hb hov

/-- the clause is FALSE without "overall between the extremes": groups 1, 2 with overall 4 give
    between = 1/2 but to_overall = 1/4 -/
theorem ratio_overall_ge_between_needs_between :
    ∃ t : Tables, hasNonscalar t = false ∧
      valueAt (ratio .between .coerce t) [] = some (fin (1/2)) ∧
      valueAt (ratio .toOverall .coerce t) [] = some (fin (1/4)) :=
  ⟨⟨0, [(["a"], .scalar (fin 1)), (["b"], .scalar (fin 2))], [([], .scalar (fin 4))], false⟩,
   by decide +kernel, by decide +kernel, by decide +kernel⟩

open MetricPool in
/-- Hence for NON-NEGATIVE weighted-mean metrics (selection rate, accuracy, mean prediction of
    non-negative predictions) with positive weights, on the tables MetricFrame builds from any
    dataset with any number of sensitive / control features: ratio(to_overall) ≥ ratio(between_groups)
    in every control stratum. -/
theorem ratio_overall_ge_between_of_weighted_mean (q : Dat → Rat) (ncf nsf : Nat) (hn : 0 < ncf + nsf)
    (rows : List (Row Dat)) (hwf : WF ncf nsf rows) (hw : ∀ r ∈ rows, 0 < r.dat.p0)
    (e : Errors) (c : Key) (hc : c ∈ strata (ofFrame ncf nsf (wmean q) rows))
    (hs : hasNonscalar (ofFrame ncf nsf (wmean q) rows) = false)
    (hf : FiniteCells (ofFrame ncf nsf (wmean q) rows))
    (hnn : ∀ v ∈ fins (vals (ofFrame ncf nsf (wmean q) rows) c), 0 ≤ v) (rb ro : Rat)
    (hb : valueAt (ratio .between e (ofFrame ncf nsf (wmean q) rows)) c = some (fin rb))
    (hov : valueAt (ratio .toOverall e (ofFrame ncf nsf (wmean q) rows)) c = some (fin ro)) :
    rb ≤ ro := by
  have hfn := finNan_vals hf c
  rw [ratio_between_at (.inr hs) hc, Option.some.injEq] at hb
  rw [ratio_overall_at hs hc, Option.some.injEq] at hov
  rcases overallAt_finNan hf c with ho | ⟨o, ho⟩ <;> rw [ho] at hov
  · rw [ratioOverallOf_nan] at hov; cases hov
  rcases extremes_spec hfn with ⟨_, h1, _⟩ | ⟨m, M, h1, h2, _⟩ <;> rw [h1] at hb
  · cases hb
  · obtain ⟨hmo, hoM⟩ :=
      wmean_overall_between q ncf nsf hn rows hwf (fun r hr => (hw r hr).le) c o m M ho h1 h2
    rw [h2] at hb
    exact ratioOverallOf_ge_between hfn hnn h1 h2 hmo hoM hb hov

/-! ### the method bodies lifted from the source are the model

`Generated/AggregateGen.lean` is rewritten on every run by symbolic execution of the bodies of
`DisaggregatedResult.apply_grouping / difference / ratio` (method dispatch, which grouping function is
combined with which operator, the `.abs()`, the final `groupby(level=control).max()` / `.min()`, the
unstack round trip), as compositions of the pandas-level primitives of `Model/AggregatePrim.lean`.
Every theorem of this file is about `Aggregate.applyGrouping / difference / ratio`; these three say
that this IS the lifted source text, for every table, method and errors value. -/

theorem applyGroupingGen_eq_model (g : Grouping) (e : Errors) (t : Tables) :
    AggregateGen.applyGroupingGen g e t = applyGrouping g e t := AggregateGen.applyGroupingGen_eq g e t

theorem differenceGen_eq_model (m : Method) (e : Errors) (t : Tables) :
    AggregateGen.differenceGen m e t = difference m e t := AggregateGen.differenceGen_eq m e t

theorem ratioGen_eq_model (m : Method) (e : Errors) (t : Tables) :
    AggregateGen.ratioGen m e t = ratio m e t := AggregateGen.ratioGen_eq m e t

/-! ### the result cache, the accessor defaults and `_extract_result`, lifted from `_metric_frame.py`

`Generated/PopulateSrc.lean` (lifter `populate.py`) is the symbolically executed `_populate_results` (+ `_group`): for every
cache slot the `DisaggregatedResult` call, the `method` / `errors` value and the `no_control_levels=` flag it is computed
with, plus the default `errors=` / `method=` of `MetricFrame.group_min / group_max / difference / ratio` and the slot each
of them returns.  `Model/AggregateCache.lean` interprets it (driver op `aggc.eval`, compared with the real accessors on
every case, with and without explicit arguments).  The theorems say that slot `(method, errors)` holds the aggregate
evaluated with exactly THAT method and errors value, that the accessors default to errors='raise' (group_min / group_max)
resp. method='between_groups', errors='coerce' (difference / ratio), and that the lifted `_extract_result`
(`FrameSrc.extract_result`) hands out the documented part (scalar / Series / frame) for every accessor. -/

theorem src_populate_eq_model (usc : Bool) (s : PopulateSrc.Slot) (t : Tables) :
    AggCache.cached usc s t = .got (AggCache.documentedMode usc t.ncf) (AggCache.direct s t) := by
  unfold AggCache.cached
  rw [AggCache.entryOf_eq]
  simp only [AggCache.extract_result_eq_documentedMode, AggCache.documentedMode_not_fails]
  cases s <;> rfl

theorem src_group_min_eq_model (errors : Option Errors) (usc : Bool) (t : Tables) :
    AggCache.groupMinPub errors usc t = .got (AggCache.documentedMode usc t.ncf) (groupMin (errors.getD .raise) t) := by
  simp only [AggCache.groupMinPub, AggCache.validErrors_contains, not_true_eq_false, if_false,
    src_populate_eq_model]
  rfl

theorem src_group_max_eq_model (errors : Option Errors) (usc : Bool) (t : Tables) :
    AggCache.groupMaxPub errors usc t = .got (AggCache.documentedMode usc t.ncf) (groupMax (errors.getD .raise) t) := by
  simp only [AggCache.groupMaxPub, AggCache.validErrors_contains, not_true_eq_false, if_false,
    src_populate_eq_model]
  rfl

theorem src_difference_eq_model (method : Option Method) (errors : Option Errors) (usc : Bool) (t : Tables) :
    AggCache.differencePub method errors usc t =
      .got (AggCache.documentedMode usc t.ncf) (difference (method.getD .between) (errors.getD .coerce) t) := by
  simp only [AggCache.differencePub, AggCache.validErrors_contains, AggCache.compareMethods_contains,
    not_true_eq_false, or_self, if_false, src_populate_eq_model]
  rfl

theorem src_ratio_eq_model (method : Option Method) (errors : Option Errors) (usc : Bool) (t : Tables) :
    AggCache.ratioPub method errors usc t =
      .got (AggCache.documentedMode usc t.ncf) (ratio (method.getD .between) (errors.getD .coerce) t) := by
  simp only [AggCache.ratioPub, AggCache.validErrors_contains, AggCache.compareMethods_contains,
    not_true_eq_false, or_self, if_false, src_populate_eq_model]
  rfl

/-- all 24 calls of the lifted op `aggc.eval` at once; the three theorems below are read off this list -/
theorem src_cache_calls (usc : Bool) (t : Tables) :
    AggCache.allCalls usc t = (allResults t ++
      [groupMin .raise t, groupMax .raise t,
       difference .between .coerce t, difference .between .coerce t, difference .toOverall .coerce t,
       difference .between .raise t, difference .between .coerce t,
       ratio .between .coerce t, ratio .between .coerce t, ratio .toOverall .coerce t,
       ratio .between .raise t, ratio .between .coerce t]).map
      (.got (AggCache.documentedMode usc t.ncf)) := by
  simp only [AggCache.allCalls, src_group_min_eq_model, src_group_max_eq_model, src_difference_eq_model,
    src_ratio_eq_model]
  rfl

/-- the 12 explicit `(method, errors)` calls of the lifted op `aggc.eval` are the 12 results of `agg.eval` (`allResults`,
    the list every other theorem of this file is about) -/
theorem src_cache_explicit_calls (usc : Bool) (t : Tables) :
    ((AggCache.allCalls usc t).take 12).map AggCache.Got.value = allResults t := by
  rw [src_cache_calls]; rfl

/-- the calls that leave `errors=` and / or `method=` out: the documented defaults -/
theorem src_cache_default_calls (usc : Bool) (t : Tables) :
    ((AggCache.allCalls usc t).drop 12).map AggCache.Got.value =
      [groupMin .raise t, groupMax .raise t,
       difference .between .coerce t, difference .between .coerce t, difference .toOverall .coerce t,
       difference .between .raise t, difference .between .coerce t,
       ratio .between .coerce t, ratio .between .coerce t, ratio .toOverall .coerce t,
       ratio .between .raise t, ratio .between .coerce t] := by
  rw [src_cache_calls]; rfl

/-- callable-vs-dict: every accessor hands out the documented part of the underlying pandas result (bare callable:
    the scalar without, a Series with control features; dict: the whole Series / DataFrame) -/
theorem src_extract_documented (usc : Bool) (t : Tables) :
    ∀ g ∈ AggCache.allCalls usc t, ∃ r, g = .got (AggCache.documentedMode usc t.ncf) r := by
  rw [src_cache_calls]
  exact List.forall_mem_map.mpr fun r _ => ⟨r, rfl⟩

-- non-vacuity / regression witness: groups 1 and a NON-SCALAR cell, bare callable, no control features: the raise and
-- coerce slots differ, group_min() / group_max() raise (default 'raise'), difference() / ratio() answer (default 'coerce')
example : (AggCache.allCalls true ⟨0, [(["a"], .scalar (fin 1)), (["b"], .nonscalar)], [([], .scalar (fin 1))], false⟩).map
    AggCache.Got.fmt =
    ["entry0:err", "entry0:-|1", "entry0:err", "entry0:-|1", "entry0:err", "entry0:-|0", "entry0:err", "entry0:err",
     "entry0:err", "entry0:-|1", "entry0:err", "entry0:err",
     "entry0:err", "entry0:err", "entry0:-|0", "entry0:-|0", "entry0:err", "entry0:err", "entry0:-|0",
     "entry0:-|1", "entry0:-|1", "entry0:err", "entry0:err", "entry0:-|1"] := by
  decide +kernel

/-! ### multi-metric frames: every aggregate is computed column by column

`AggFrame.FTables` is a MetricFrame with any number `ncols` of metric columns (by_group / overall kept
row-major like the pandas DataFrames); `colTab ft j` is metric column `j` as a single-metric table, with
`othersNonscalar` = "some OTHER column holds a non-scalar cell"; `colX j` reads column `j` of a result.
For rectangular frames (`WF`) with any number of columns, rows and control strata: -/

open AggFrame in
/-- group_min / group_max.  With `errors='raise'` the call fails for EVERY column as soon as one
    by_group column holds a non-scalar cell (`frame_raise_fails_iff`), and so does the column model. -/
theorem frame_group_col (g : Grouping) (e : Errors) (ft : FTables) (j : Nat) (hj : j < ft.ncols)
    (hs : e = .coerce ∨ ovNs ft = false) :
    (applyGroupingF g e ft).map (colX j) = applyGrouping g e (colTab ft j) := by
  unfold applyGroupingF applyGrouping
  rw [hasNonscalar_colTab]
  have hc : (e = .raise ∧ (byNs ft || ovNs ft) = true) ↔ (e = .raise ∧ byNs ft = true) := by
    rcases hs with h | h
    · subst h; simp
    · rw [h, Bool.or_false]
  by_cases h : e = .raise ∧ byNs ft = true
  · rw [if_pos h, if_pos (hc.mpr h)]; rfl
  · rw [if_neg h, if_neg (mt hc.mp h)]
    refine congrArg some ?_
    rw [colX_aggLevelF _ ft _ hj, colX_coercedF, aggLevel_byGroup g (colTab ft j) (fun e => coerce e.2)]
    rfl

open AggFrame in
theorem frame_raise_fails_iff (g : Grouping) (ft : FTables) :
    applyGroupingF g .raise ft = none ↔ byNs ft = true := by
  unfold applyGroupingF
  by_cases h : byNs ft = true <;> simp [h]

open AggFrame in
theorem frame_coerce_answers (g : Grouping) (ft : FTables) :
    (applyGroupingF g .coerce ft).isSome = true := by
  simp [applyGroupingF]

open AggFrame in
theorem frame_difference_between_col (e : Errors) (ft : FTables) (hw : AggFrame.WF ft) (j : Nat)
    (hj : j < ft.ncols) (hs : e = .coerce ∨ ovNs ft = false) :
    (differenceF .between e ft).map (colX j) = difference .between e (colTab ft j) := by
  -- the column model's subtrahend is column `j` of the frame's subtrahend; then `colX_aggLevelF_mapF_bcastF`
  have hg := frame_group_col AggregateSpec.diffBetweenSubtrahend e ft j hj hs
  unfold differenceF difference
  simp only  -- reduces `match Method.between`
  rw [← hg]
  cases hq : applyGroupingF AggregateSpec.diffBetweenSubtrahend e ft with
  | none => rfl
  | some s =>
    exact congrArg some (colX_aggLevelF_mapF_bcastF _ _ _ hw hj (rect_applyGroupingF hq))

open AggFrame in
theorem frame_difference_overall_col (e : Errors) (ft : FTables) (hw : AggFrame.WF ft) (j : Nat)
    (hj : j < ft.ncols) (hs : byNs ft = false ∨ ovNs ft = true) :
    (differenceF .toOverall e ft).map (colX j) = difference .toOverall e (colTab ft j) := by
  unfold differenceF difference
  simp only
  rw [hasNonscalar_colTab]
  cases ho : ovNs ft with
  | true => rw [Bool.or_true]; rfl
  | false =>
    rw [hs.resolve_right (by rw [ho]; exact Bool.false_ne_true)]
    exact congrArg some ((colX_aggLevelF_mapF_bcastF _ _ _ hw hj (rect_overallF hw)).trans
      (List.map_congr_left fun c _ => by rw [lookup_colX_overallF]; rfl))

open AggFrame in
/-- `difference(method='to_overall')` coerces by_group but not overall: it fails iff an OVERALL cell is
    non-scalar, and non-scalar by_group cells count as NaN — for both values of `errors` -/
theorem frame_difference_overall_errors (e : Errors) (ft : FTables) :
    (differenceF .toOverall e ft = none ↔ ovNs ft = true) ∧
    differenceF .toOverall e ft = differenceF .toOverall e (scrubBy ft) := by
  refine ⟨?_, ?_⟩
  · unfold differenceF
    by_cases h : ovNs ft = true <;> simp [h]
  · have hcell : ∀ c : Cell, coerce (if isNonscalar c = true then Cell.nan else c) = coerce c := by
      intro c; cases c <;> rfl
    have hco : coercedF (scrubBy ft) = coercedF ft := by
      simp only [coercedF, scrubBy, List.map_map, Function.comp_def, hcell]
    unfold differenceF
    simp only [diffCore, hco]
    rfl

open AggFrame in
theorem frame_ratio_between_col (e : Errors) (ft : FTables) (j : Nat)
    (hj : j < ft.ncols) (hs : e = .coerce ∨ ovNs ft = false) :
    (ratioF .between e ft).map (colX j) = ratio .between e (colTab ft j) := by
  -- numerator and denominator of the column model are column `j` of the frame's; then `colX_sameF`
  have hn := frame_group_col AggregateSpec.ratioBetweenNum e ft j hj hs
  have hd := frame_group_col AggregateSpec.ratioBetweenDen e ft j hj hs
  unfold ratioF ratio
  simp only
  rw [← hn, ← hd]
  cases hqn : applyGroupingF AggregateSpec.ratioBetweenNum e ft with
  | none => rfl
  | some num =>
    cases hqd : applyGroupingF AggregateSpec.ratioBetweenDen e ft with
    | none => rfl
    | some den =>
      simp only [Option.map_some]
      refine congrArg some ?_
      rw [colX_sameF XR.div (rect_applyGroupingF hqn) (rect_applyGroupingF hqd) hj]
      rfl

open AggFrame in
theorem frame_ratio_overall_col (e : Errors) (ft : FTables) (hw : AggFrame.WF ft) (j : Nat)
    (hj : j < ft.ncols) :
    (ratioF .toOverall e ft).map (colX j) = ratio .toOverall e (colTab ft j) := by
  unfold ratioF ratio
  simp only
  rw [hasNonscalar_colTab]
  cases byNs ft || ovNs ft with
  | true => rfl
  | false => exact congrArg some ((colX_aggLevelF_mapF_bcastF _ _ _ hw hj (rect_overallF hw)).trans
      (List.map_congr_left fun c _ => by rw [lookup_colX_overallF]; rfl))

open AggFrame in
/-- summary for all-scalar frames: all 12 results, column by column, are the single-metric results -/
theorem frame_all_results_col (ft : FTables) (hw : AggFrame.WF ft) (j : Nat) (hj : j < ft.ncols)
    (hb : byNs ft = false) (ho : ovNs ft = false) :
    (allResultsF ft).map (fun r => r.map (colX j)) = allResults (colTab ft j) := by
  simp only [allResultsF, allResults, groupMinF, groupMaxF, groupMin, groupMax, List.map_cons, List.map_nil,
    frame_group_col _ _ ft j hj (.inr ho), frame_difference_between_col _ ft hw j hj (.inr ho),
    frame_difference_overall_col _ ft hw j hj (.inl hb), frame_ratio_between_col _ ft j hj (.inr ho),
    frame_ratio_overall_col _ ft hw j hj]

/-! ### Non-vacuity -/

def exT : Tables :=
  ⟨1, [(["k", "a"], .scalar (fin (1/2))), (["k", "b"], .scalar nan), (["k", "c"], .scalar (fin 1)),
       (["m", "a"], .scalar (fin 0)), (["m", "b"], .scalar (fin 0)), (["m", "c"], .scalar nan)],
      [(["k"], .scalar (fin (2/3))), (["m"], .scalar (fin 0))], false⟩

example : strata exT = [["k"], ["m"]] := by decide +kernel
example : hasNonscalar exT = false := by decide +kernel
example : groupMin .raise exT = some [(["k"], fin (1/2)), (["m"], fin 0)] := by decide +kernel
example : difference .between .coerce exT = some [(["k"], fin (1/2)), (["m"], fin 0)] := by decide +kernel
example : difference .toOverall .coerce exT = some [(["k"], fin (1/3)), (["m"], fin 0)] := by decide +kernel
example : ratio .between .coerce exT = some [(["k"], fin (1/2)), (["m"], nan)] := by decide +kernel
example : ratio .toOverall .coerce exT = some [(["k"], fin (2/3)), (["m"], nan)] := by decide +kernel
example : ratio .between .coerce negTable = some [([], fin (3/2))] := by decide +kernel
-- F8b witness: groups -1 and 3, overall 2: code keeps r = -1/2, min(r, 1/r) would be -2
example : ratio .toOverall .coerce ⟨0, [(["a"], .scalar (fin (-1))), (["b"], .scalar (fin 3))], [([], .scalar (fin 2))], false⟩
    = some [([], fin (-1/2))] := by decide +kernel
example : ¬ (AggregateSpec.ratioSubOne (fin (-1/2)) = minSkip2 (fin (-1/2)) (XR.div (fin 1) (fin (-1/2)))) := by
  decide +kernel
-- zero denominators
example : ratio .between .coerce ⟨0, [(["a"], .scalar (fin (-1))), (["b"], .scalar (fin 0))], [([], .scalar (fin 0))], false⟩
    = some [([], ninf)] := by decide +kernel
example : ratio .toOverall .coerce ⟨0, [(["a"], .scalar (fin 1)), (["b"], .scalar (fin 0))], [([], .scalar (fin 0))], false⟩
    = some [([], fin 0)] := by decide +kernel
-- a non-scalar column: raise fails, coerce skips it
example : groupMin .raise ⟨0, [(["a"], .nonscalar), (["b"], .scalar (fin 1))], [([], .nonscalar)], false⟩ = none := by
  decide +kernel
example : groupMin .coerce ⟨0, [(["a"], .nonscalar), (["b"], .scalar (fin 1))], [([], .nonscalar)], false⟩
    = some [([], fin 1)] := by decide +kernel


-- a two-metric frame with one control feature, a NaN cell and an all-NaN stratum; column 1 has a
-- non-scalar by_group cell
def exF : AggFrame.FTables :=
  ⟨1, 2, [(["k", "a"], [.scalar (fin (1/2)), .scalar (fin 3)]), (["k", "b"], [.scalar nan, .nonscalar]),
          (["m", "a"], [.scalar nan, .scalar nan]), (["m", "b"], [.scalar nan, .scalar (fin (-1))])],
      [(["k"], [.scalar (fin 1), .scalar (fin 2)]), (["m"], [.scalar nan, .scalar (fin (-1))])]⟩

example : AggFrame.WF exF := by decide +kernel
example : AggFrame.byNs exF = true ∧ AggFrame.ovNs exF = false := by decide +kernel
example : AggFrame.applyGroupingF .min .raise exF = none := by decide +kernel
example : AggFrame.applyGroupingF .min .coerce exF = some [(["k"], [fin (1/2), fin 3]), (["m"], [nan, fin (-1)])] := by
  decide +kernel
example : AggFrame.differenceF .toOverall .raise exF = some [(["k"], [fin (1/2), fin 1]), (["m"], [nan, fin 0])] := by
  decide +kernel
example : AggFrame.ratioF .toOverall .coerce exF = none := by decide +kernel
example : (AggFrame.colTab exF 0).othersNonscalar = true := by decide +kernel
-- single group, zero value: ratio 0/0 = NaN
example : ratio .between .coerce ⟨0, [(["a"], .scalar (fin 0)), (["b"], .scalar nan)], [([], .scalar (fin 0))], false⟩
    = some [([], nan)] := by decide +kernel

-- hypotheses of F8 met by a concrete table with two DIFFERENT group values (m = -3 ≠ M = -2)
example : valueAt (groupMin .coerce negTable) [] = some (fin (-3)) ∧
    valueAt (groupMax .coerce negTable) [] = some (fin (-2)) ∧ ([] : Key) ∈ strata negTable := by decide +kernel

example : (-1 : Rat) < -1/2 ∧ (-1/2 : Rat) < 0 := by norm_num

/-! ### Non-vacuity of the hypotheses (all of them simultaneously, non-degenerate inputs) -/

-- `exT` (2 strata, NaN cells, stratum "k" with two DIFFERENT finite group values 1/2 ≠ 1) meets the three
-- standing hypotheses of the table theorems at once
example : hasNonscalar exT = false ∧ FiniteCells exT ∧ ["k"] ∈ strata exT ∧ ["m"] ∈ strata exT :=
  ⟨by decide +kernel, finiteCells_of_B (by decide +kernel), by decide +kernel, by decide +kernel⟩
-- hm / hM of `difference_between_eq`, `groupMin_le_groupMax`, `overall_le_between` with m ≠ M, and ho, hmo, hoM
example : valueAt (groupMin .raise exT) ["k"] = some (fin (1/2)) ∧ valueAt (groupMax .raise exT) ["k"] = some (fin 1) ∧
    overallAt exT ["k"] = fin (2/3) ∧ ((1/2 : Rat) ≤ 2/3 ∧ (2/3 : Rat) ≤ 1) := by
  refine ⟨by decide +kernel, by decide +kernel, by decide +kernel, by norm_num⟩
-- hb / ho of `between_le_two_overall` and `overall_le_between`: both differences are numbers, 1/3 ≤ 1/2 ≤ 2·1/3
example : valueAt (difference .between .raise exT) ["k"] = some (fin (1/2)) ∧
    valueAt (difference .toOverall .raise exT) ["k"] = some (fin (1/3)) := by
  decide +kernel
-- `ratio_between_le_one_partial` / `ratio_*_nonneg`: max = 1 ≥ 0, ratio = 1/2; to_overall ratio = 2/3 (> between)
example : valueAt (ratio .between .raise exT) ["k"] = some (fin (1/2)) ∧
    valueAt (ratio .toOverall .raise exT) ["k"] = some (fin (2/3)) ∧ (∀ q ∈ fins (vals exT ["k"]), (0 : Rat) ≤ q) := by
  decide +kernel
-- `difference_overall_nan` / the NaN branch of `groupMin_spec`: a stratum whose groups are all empty
example : valueAt (groupMin .coerce ⟨0, [(["a"], .scalar nan), (["b"], .scalar nan)], [([], .scalar nan)], false⟩) [] = some nan ∧
    valueAt (difference .toOverall .coerce ⟨0, [(["a"], .scalar nan), (["b"], .scalar nan)], [([], .scalar nan)], false⟩) [] = some nan := by
  decide +kernel
-- `raise_fails_coerce_answers`: a frame with a non-scalar cell
example : hasNonscalar ⟨0, [(["a"], .nonscalar), (["b"], .scalar (fin 1))], [([], .nonscalar)], false⟩ = true := by decide +kernel
-- `single_group`: exactly one non-empty group
example : fins (vals ⟨0, [(["a"], .scalar (fin 3)), (["b"], .scalar nan)], [([], .scalar (fin 3))], false⟩ []) = [3] := by
  decide +kernel

/-- a dataset with one control feature (strata k, m), two sensitive groups in each stratum, weights
    1 2 1 0 3 1 (one ZERO weight), predictions 1 0 1 1 0 1 -/
def exRows : List (Row MetricPool.Dat) :=
  [⟨⟨1, 1, 1, 0⟩, ["k"], ["a"]⟩, ⟨⟨0, 0, 2, 0⟩, ["k"], ["a"]⟩, ⟨⟨1, 1, 1, 0⟩, ["k"], ["b"]⟩,
   ⟨⟨0, 1, 0, 0⟩, ["m"], ["a"]⟩, ⟨⟨1, 0, 3, 0⟩, ["m"], ["a"]⟩, ⟨⟨1, 1, 1, 0⟩, ["m"], ["b"]⟩]

-- all hypotheses of `overall_le_between_of_weighted_mean_data` (and, but for the zero weight, of
-- `overall_le_between_of_weighted_mean`) on real rows: ≥ 2 non-empty groups in each of 2 strata
example : WF 1 1 exRows ∧ (∀ r ∈ exRows, 0 ≤ r.dat.p0) ∧
    ["k"] ∈ strata (ofFrame 1 1 (wmean (·.pred)) exRows) := by
  decide +kernel
example : valueAt (difference .between .coerce (ofFrame 1 1 (wmean (·.pred)) exRows)) ["k"] = some (fin (2/3)) ∧
    valueAt (difference .toOverall .coerce (ofFrame 1 1 (wmean (·.pred)) exRows)) ["k"] = some (fin (1/2)) ∧
    valueAt (difference .between .coerce (ofFrame 1 1 (wmean (·.pred)) exRows)) ["m"] = some (fin 1) ∧
    valueAt (difference .toOverall .coerce (ofFrame 1 1 (wmean (·.pred)) exRows)) ["m"] = some (fin (3/4)) := by
  decide +kernel
-- a group of total weight 0 is a NaN cell and is skipped (replayed on fairlearn: selection_rate,
-- sample_weight=[0,0,1,1], groups a a b b -> by_group [nan, 0.5], both differences 0.0)
example : (ofFrame 0 1 (wmean (·.pred)) [⟨⟨1, 1, 0, 0⟩, [], ["a"]⟩, ⟨⟨0, 0, 0, 0⟩, [], ["a"]⟩,
      ⟨⟨1, 0, 1, 0⟩, [], ["b"]⟩, ⟨⟨0, 1, 1, 0⟩, [], ["b"]⟩]).byGroup = [(["a"], .scalar nan), (["b"], .scalar (fin (1/2)))] := by
  decide +kernel

end C02
