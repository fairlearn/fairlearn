/-
C20 — inconsistent or unsupported inputs are rejected, never silently processed.
First the vocabulary of the statements (`namespace Validation`: the documented tables, `MitWF`, `FrameWF`, `WellFormed`), then the
property theorems with the per-entry-point `*_ok_iff` lemmas they rest on; lemmas about the model functions themselves are in
`Lemmas/Validation.lean` and `Lemmas/FrameChecks.lean`.

`Validation.run c` is the outcome of one call (ok or the kind of exception); `WellFormed c` is the
declarative statement that none of the defects named by the property is present.  The main theorem is
`accepts_iff_wellFormed`; the corollaries below it spell out, defect by defect, that the defect alone
forces a rejection.

CLAUSE -> THEOREM TABLE.  Every theorem is about `Validation.run` / `accepts`, the functions the driver ops
`val.*` evaluate; the decision tables they use come from Generated/ValidationTables.lean.

  lengths disagree: labels / features(X = `d.n`) / sensitive / control features   length_mismatch_rejected (moments, EG, GS),
                    thr_length_mismatch_rejected (ThresholdOptimizer); predictions / sample parameters / sensitive or
                    control columns of MetricFrame: frame_length_mismatch_rejected; prediction time:
                    predict_time_sensitive_rejected, corr_rejected (transform on another width)
  labels outside {0,1} (moments, EG, GS, TO)          bad_label_rejected; empty / missing labels: empty_labels_rejected,
                                                      missing_sensitive_rejected
  missing sensitive feature                           missing_sensitive_rejected, frame_bad_names_rejected (3rd conjunct),
                                                      predict_time_sensitive_rejected (2nd conjunct)
  ThresholdOptimizer group lacking a label            degenerate_group_rejected  (guard lifted: `degenerateGroup`; the counts
                                                      are hand-written: Validation.sum_eq_nPositive, nPositive_add_nNegative)
  unsupported constraint / objective combination      unsupported_combination_rejected (1st), toFitPrefix_iff,
                                                      table_matches_documentation, table_metrics_defined
  control features for ThresholdOptimizer             unsupported_combination_rejected (2nd)
  conflicting / out-of-range parity bounds            bad_bounds_rejected
  cost / weight parameters                            bad_costs_rejected (key set: cost_keys_documented), constraint_weight_rejected,
                                                      gs_rejects_with_runtimeError
  duplicate / non-string MetricFrame feature names    frame_bad_names_rejected (1st, 2nd)
  (sample_params of the wrong type — not in the text) frame_sample_params_rejected
  "raise an exception at construction or fit time"    accepts_iff_wellFormed (rejected <-> some listed defect is present),
                                                      rejection_kind (which exception kinds; TypeError never)
  "in every accepted container type"                  NOT A THEOREM: the model sees a descriptor (lengths, labels, names);
                                                      the containers exist only in the harness stream (harness/props/c20.py)
  prediction before fit raises NotFittedError         predict_before_fit_rejected, every_entry_point_guarded (guard table
                                                      lifted: predict_guard_table), predict_time_sensitive_rejected (3rd)
  converse (valid input is never refused)             accepts_iff_wellFormed (<-), examples at the end
  the body of `_validate_and_reformat_input`                                     LIFTED (Generated/ValidateSrc.lean: ordered checks with
                                                      conditions and exception kinds, label set, check_array keywords);
                                                      `mitFit` / `toFit` / `toPredict` run the lifted list (`validateSrc`);
                                                      validateSrc_ok_iff, validateSrc_ok_iff_flags,
                                                      validateSrc_rejects_with_valueError, validateSrc_ok_iff_no_check_fires,
                                                      validate_checks_census, validate_label_set_and_array_calls; bridge to the
                                                      hand-written `validateWith`: Validation.validateSrc_eq_validateWith
  the argument checks of `MetricFrame.__init__`     LIFTED (Generated/FrameChecksSrc.lean, lifter frame_checks.py: eight ordered checks
                                                      ⟨text, what is compared, exception kind⟩, the five container branches of
                                                      `_process_features`); frame_checks_census, frameSrc_ok_iff,
                                                      frameSrc_ok_iff_no_check_fires, frame_rejected_of_lifted_check; the
                                                      frame_*_rejected theorems are proved through the lifted list; bridge to the
                                                      hand-written `frame`: FrameChecks.frameSrc_eq_frame
  hand-written, NOT lifted: the meaning of the atoms on a descriptor (`evalAtom`, `FrameChecks.fires`), `corrFit`,
  `corrTransform`, `enforce_binary_labels=True` of the moments' `load_data`, the exception class of the two sklearn
  checks (`check_consistent_length`, `check_array`: ValueError, pinned in the lifter).
-/
import FairModel.Lemmas.Validation
import FairModel.Lemmas.FrameChecks

namespace Validation
open Generated.ValidationTables

/-! ### the documented constraint × objective table of `ThresholdOptimizer` (class docstring) -/

def docSimpleConstraints : List String :=
  ["selection_rate_parity", "demographic_parity", "false_positive_rate_parity",
   "false_negative_rate_parity", "true_positive_rate_parity", "true_negative_rate_parity"]
def docObjectivesSimple : List String :=
  ["accuracy_score", "balanced_accuracy_score", "selection_rate", "true_negative_rate", "true_positive_rate"]
def docObjectivesEO : List String := ["accuracy_score", "balanced_accuracy_score"]

/-- the supported combinations -/
def Supported (c o : String) : Prop :=
  (c ∈ docSimpleConstraints ∧ o ∈ docObjectivesSimple) ∨ (c = "equalized_odds" ∧ o ∈ docObjectivesEO)

/-! ### declarative well-formedness -/

/-- data accepted by `_validate_and_reformat_input` with binary labels enforced -/
def MitWF (d : MitData) : Prop :=
  (∃ y, d.y = some y ∧ y ≠ [] ∧ y.length = d.n ∧ ∀ v ∈ y, v = 0 ∨ v = 1)
  ∧ (∃ sf, d.sf = some sf ∧ sf.length = d.n)
  ∧ (∀ cf, d.cf = some cf → cf.length = d.n)

/-- every group of the sensitive feature has a row with label 1 and a row with label 0 -/
def BothLabelsPerGroup (d : MitData) : Prop :=
  ∀ sf y, d.sf = some sf → d.y = some y → ∀ g ∈ sf,
    (∃ p ∈ sf.zip y, p.1 = g ∧ p.2 = 1) ∧ (∃ p ∈ sf.zip y, p.1 = g ∧ p.2 = 0)

def FrameWF (a : FrameArgs) : Prop :=
  a.nPred = a.nTrue ∧ (∀ p ∈ a.params, p = a.nTrue) ∧ a.sf ≠ []
  ∧ (∀ c ∈ a.sf ++ a.cf, (∃ s, c.name = some s) ∧ c.len = a.nTrue)
  ∧ ((a.sf ++ a.cf).filterMap (·.name)).Nodup

/-- the prediction entry points of the estimators (class, method) as documented / read in the source -/
def docEntryPoints : List (String × String) :=
  [("ThresholdOptimizer", "predict"), ("ThresholdOptimizer", "_pmf_predict"),
   ("InterpolatedThresholder", "predict"), ("InterpolatedThresholder", "_pmf_predict"),
   ("ExponentiatedGradient", "predict"), ("ExponentiatedGradient", "_pmf_predict"),
   ("GridSearch", "predict"), ("GridSearch", "predict_proba"), ("CorrelationRemover", "transform"),
   ("_AdversarialFairness", "predict"), ("_AdversarialFairness", "_raw_predict")]

def WellFormed : Call → Prop
  | .mit d => MitWF d
  | .thr e c o d => e = true ∧ Supported c o ∧ d.cf = none ∧ MitWF d ∧ BothLabelsPerGroup d
  | .frame a => FrameWF a
  | .parity dGiven rGiven ratio diff slack =>
      ¬(dGiven = true ∧ rGiven = true) ∧ (rGiven = true → 0 < ratio ∧ ratio ≤ 1)
      ∧ (dGiven = true → rGiven = false → 0 ≤ diff) ∧ (rGiven = true → dGiven = false → 0 ≤ slack)
  | .costs given isDict keysOk fp fn =>
      given = true → isDict = true ∧ keysOk = true ∧ 0 ≤ fp ∧ 0 ≤ fn ∧ 0 < fp + fn
  | .gs isMoment ruleOk cw => isMoment = true ∧ ruleOk = true ∧ 0 ≤ cw ∧ cw ≤ 1
  | .predict fitted => fitted = true
  | .corrFit cols ids => ∀ c ∈ ids, c ∈ cols
  | .corrTransform fitted mFit mNew => fitted = true ∧ mFit = mNew
  | .predictM cls method fitted => (cls, method) ∈ docEntryPoints → fitted = true
  | .thrPredict fitted sfGiven nX nSf => fitted = true ∧ 0 < nX ∧ sfGiven = true ∧ nSf = nX
  | .frameFns spGiven spIsDict metricIsDict keysSubset innerDict =>
      (spGiven = true → spIsDict = true) ∧ (metricIsDict = true → keysSubset = true ∧ innerDict = true)

end Validation

namespace C20
open Validation Generated.ValidationTables

/-- the tables lifted from the source are the documented ones -/
theorem table_matches_documentation :
    simpleConstraints.map Prod.fst = docSimpleConstraints
    ∧ objectivesSimple = docObjectivesSimple ∧ objectivesEO = docObjectivesEO := ⟨rfl, rfl, rfl⟩

/-- every metric an accepted combination refers to is defined in `METRIC_DICT` -/
theorem table_metrics_defined :
    (∀ p ∈ simpleConstraints, p.2 ∈ metricDictKeys)
    ∧ (∀ o ∈ objectivesSimple, o ∈ metricDictKeys) ∧ (∀ o ∈ objectivesEO, o ∈ metricDictKeys) := by
  decide +kernel

/-- the key set `ErrorRate.__init__` demands of `costs` (lifted) is the documented one; the harness computes the
    descriptor bit `keysOk` against this set -/
theorem cost_keys_documented : costKeys = ["fn", "fp"] := rfl

/-- `ThresholdOptimizer.fit` before it looks at the data: passes exactly for a given estimator, a supported
    combination and no control features -/
theorem toFitPrefix_iff (e : Bool) (c o : String) (cfGiven : Bool) :
    toFitPrefix e c o cfGiven = true ↔ e = true ∧ cfGiven = false ∧ Supported c o := by
  obtain ⟨h1, h2, h3⟩ := table_matches_documentation
  have hne : "equalized_odds" ∉ docSimpleConstraints := by decide +kernel
  rw [toFitPrefix, h1, h2, h3, Supported]
  by_cases hc : c ∈ docSimpleConstraints
  · cases e <;> cases cfGiven <;> simp [hc, ne_of_mem_of_not_mem hc hne]
  · by_cases he : c = "equalized_odds" <;> cases e <;> cases cfGiven <;> simp [hc, he, hne]

/-! ### the LIFTED body of `_validate_and_reformat_input` (`Generated.ValidateSrc.checks`, lifter `validate_src.py`) -/

section Lifted

open Generated.ValidateSrc

/-- what was lifted: the conditions and exception kinds of the twelve checks, in execution order (`y is None`, empty y,
    shape of y, labels outside the lifted label set, `check_array(y)`, `check_array(X)`, rows of y against X,
    rows of the sensitive feature, its `check_array`, missing sensitive feature, rows of the control feature, its
    `check_array`).  A dropped, added, reordered or re-conditioned check changes this list. -/
theorem validate_checks_census :
    checks.map (fun c => (c.cond, c.exc)) =
      [(.and (.atom .expectY) (.neg (.atom .yGiven)), .valueError),
       (.and (.atom .expectY) (.neg (.atom .yNonempty)), .valueError),
       (.and (.atom .expectY) (.neg (.atom .yShapeOk)), .valueError),
       (.and (.atom .expectY) (.and (.atom .enforceBinary) (.neg (.atom .yBinary))), .valueError),
       (.and (.atom .expectY) (.neg (.atom .yArrayOk)), .valueError),
       (.neg (.atom .xArrayOk), .valueError),
       (.and (.atom .yGiven) (.neg (.atom .yRowsMatch)), .valueError),
       (.and (.atom .sfGiven) (.neg (.atom .sfRowsMatch)), .valueError),
       (.and (.atom .sfGiven) (.neg (.atom .sfArrayOk)), .valueError),
       (.and (.neg (.atom .sfGiven)) (.atom .expectSf), .valueError),
       (.and (.atom .cfGiven) (.neg (.atom .cfRowsMatch)), .valueError),
       (.and (.atom .cfGiven) (.neg (.atom .cfArrayOk)), .valueError)] := rfl

/-- the label set of the `enforce_binary_labels` test, and the keywords of the four `check_array` calls: X may be n-d and
    of any dtype, y is converted to a numeric dtype, NaN / inf are let through for X and y (not for the features).  The
    descriptor model evaluates the atoms `yShapeOk`, `yArrayOk`, `sfArrayOk`, `cfArrayOk` to true (flat rational labels,
    group ids) and `xArrayOk` to `0 < n`; these keyword lists are what that reading assumes of the calls. -/
theorem validate_label_set_and_array_calls :
    labelSet = [0, 1] ∧
    arrayCalls = [("y", [("dtype", "'numeric'"), ("ensure_2d", "False"), ("ensure_all_finite", "False")]),
                  ("x", [("allow_nd", "True"), ("dtype", "None"), ("ensure_all_finite", "False")]),
                  ("sf", [("dtype", "None"), ("ensure_2d", "False")]),
                  ("cf", [("dtype", "None"), ("ensure_2d", "False")])] := ⟨rfl, rfl⟩

/-- the lifted validator accepts a descriptor iff no lifted check fires on it (holds for whatever list was lifted) -/
theorem validateSrc_ok_iff_no_check_fires (ey es eb : Bool) (d : MitData) :
    validateSrc ey es eb d = .ok ↔ ∀ c ∈ checks, evalCond (evalAtom ey es eb d) c.cond = false :=
  runChecks_ok_iff checks ey es eb d

/-- what the lifted check list accepts, any flags: accepted iff (under `expect_y`: y given, nonempty, and — under
    `enforce_binary_labels` — all labels 0/1, `Validation.isBinary_iff`), X has a row, a given y has as many rows as X, the sensitive feature is given
    (or not expected) and has as many rows as X, and so has a given control feature -/
theorem validateSrc_ok_iff_flags (ey es eb : Bool) (d : MitData) :
    validateSrc ey es eb d = .ok ↔
      (ey = true → ∃ y, d.y = some y ∧ y ≠ [] ∧ (eb = true → isBinary y = true))
      ∧ 0 < d.n ∧ (∀ y, d.y = some y → y.length = d.n)
      ∧ (es = true → d.sf ≠ none) ∧ (∀ sf, d.sf = some sf → sf.length = d.n)
      ∧ (∀ cf, d.cf = some cf → cf.length = d.n) := by
  rw [validateSrc_eq_validateWith]
  exact validateWith_ok_iff ey es eb d

/-- the instance at the flags of the classification moments (`expect_y`,
    `expect_sensitive_features` at their default True, `enforce_binary_labels=True`): the check list read from the working
    tree accepts exactly the well-formed data -/
theorem validateSrc_ok_iff (d : MitData) : validateSrc true true true d = .ok ↔ MitWF d := by
  rw [validateSrc_ok_iff_flags]
  constructor
  · rintro ⟨hy, _, hyn, hsf, hsfn, hcf⟩
    obtain ⟨y, h, hne, hb⟩ := hy rfl
    refine ⟨⟨y, h, hne, hyn y h, (isBinary_iff y).1 (hb rfl)⟩, ?_, hcf⟩
    cases h' : d.sf with
    | none => exact absurd h' (hsf rfl)
    | some sf => exact ⟨sf, rfl, hsfn sf h'⟩
  · rintro ⟨⟨y, h, hne, hyn, hb⟩, ⟨sf, h', hsfn⟩, hcf⟩
    refine ⟨fun _ => ⟨y, h, hne, fun _ => (isBinary_iff y).2 hb⟩, ?_, ?_, ?_, ?_, hcf⟩
    · rw [← hyn]; exact List.length_pos_iff.2 hne
    · intro y' hy'; rw [h] at hy'; cases hy'; exact hyn
    · intro _; rw [h']; simp
    · intro sf' hs; rw [h'] at hs; cases hs; exact hsfn

/-- ... and the rejection kind otherwise: every lifted check raises ValueError, so a rejected call ends in ValueError
    whatever the flags -/
theorem validateSrc_rejects_with_valueError (ey es eb : Bool) (d : MitData) (h : validateSrc ey es eb d ≠ .ok) :
    validateSrc ey es eb d = .valueError :=
  (validateSrc_kind ey es eb d).resolve_left h

/-- BRIDGE (restated here so that it is an audited obligation of C20; proof in Lemmas/Validation.lean): the check list lifted
    from the working tree, run with first-match semantics, IS the hand-written model `validateWith`, for all flags and all
    descriptors — so every theorem of this file about `validate` / `validateWith` is a theorem about the source text -/
theorem lifted_validator_is_model (ey es eb : Bool) (d : MitData) : validateSrc ey es eb d = validateWith ey es eb d :=
  validateSrc_eq_validateWith ey es eb d

end Lifted

/-- the fit-time check of the classification moments / ExponentiatedGradient / GridSearch IS the generalised source
    function with the defaults `expect_y = expect_sensitive_features = True` and `enforce_binary_labels = True` -/
theorem mitFit_uses_validateWith (d : MitData) : mitFit d = validateWith true true true d :=
  validateSrc_eq_validateWith true true true d

/-! ### the hand-written `validate` (`expect_y`, `expect_sensitive_features` at their defaults): no entry point of the model
calls it; these three lemmas tie it to the lifted validator -/

/-- with `expect_y` the `check_array(X)` row test of `validateWith` is implied by "y nonempty, as many rows as X" -/
theorem validateWith_default (e : Bool) (d : MitData) : validateWith true true e d = validate e d := by
  rcases d with ⟨n, _ | _ | ⟨a, l⟩, sf, cf⟩
  · rfl
  · rfl
  · simp only [validateWith, validate, Bool.true_and, List.isEmpty_cons, Bool.false_or]
    -- for `n = 0` the row comparison of the nonempty y fails in `validate` as well
    cases (e && !isBinary (a :: l)) <;> rcases n with _ | n
    · rfl
    · cases sf <;> cases cf <;> rfl
    · rfl
    · rfl

/-- the lifted validator with `enforce_binary_labels` as a parameter is the hand-written `validate` -/
theorem validateSrc_default (e : Bool) (d : MitData) : validateSrc true true e d = validate e d := by
  rw [validateSrc_eq_validateWith, validateWith_default]

theorem validate_ok_iff (d : MitData) : validate true d = .ok ↔ MitWF d := by
  rw [← validateSrc_default]; exact validateSrc_ok_iff d

/-! ### each entry point accepts exactly the well-formed descriptors -/

theorem mitFit_ok_iff (d : MitData) : mitFit d = .ok ↔ MitWF d := validateSrc_ok_iff d

theorem toFit_ok_iff (e : Bool) (c o : String) (d : MitData) :
    toFit e c o d = .ok ↔ e = true ∧ Supported c o ∧ d.cf = none ∧ MitWF d ∧ BothLabelsPerGroup d := by
  rcases d with ⟨n, y, sf, cf⟩
  -- the statements before the validator pass iff an estimator is given, the combination is supported, no control features
  rw [toFit, ite_valueError_eq_ok, Bool.not_eq_true, Bool.not_eq_false', toFitPrefix_iff,
    show toEnforcesBinary = true from rfl]
  cases cf with
  | some cf => simp
  | none =>
    -- the lifted validator passes iff the data is well formed …
    by_cases hw : MitWF ⟨n, y, sf, none⟩
    · have hv := (validateSrc_ok_iff _).2 hw
      obtain ⟨⟨y, rfl, _, _, hbin⟩, ⟨sf, rfl, _⟩, _⟩ := hw
      -- … and then, the labels being 0/1, no group is degenerate iff every group has both labels
      have hb : BothLabelsPerGroup ⟨n, some y, some sf, none⟩ ↔ anyDegenerate sf y = false := by
        rw [anyDegenerate_eq_false_iff sf y hbin]
        exact ⟨fun h => h sf y rfl rfl, fun h sf' y' h1 h2 => by cases h1; cases h2; exact h⟩
      simp [hv, (validateSrc_ok_iff _).1 hv, hb, and_assoc]
    · have hv := mt (validateSrc_ok_iff _).1 hw
      cases hr : validateSrc true true true ⟨n, y, sf, none⟩ <;> simp_all

theorem frame_ok_iff (a : FrameArgs) : frame a = .ok ↔ FrameWF a := by
  simp only [frame, ite_valueError_eq_ok, and_true, FrameWF]
  refine and_congr (by rw [bne_iff_ne, not_not]) (and_congr (by simp only [List.any_eq_true, bne_iff_ne, not_exists, not_and, not_not])
    (and_congr (by rw [List.isEmpty_iff]) (and_congr ?_ ?_)))
  · rw [Bool.not_eq_true, List.any_eq_false]
    refine forall₂_congr fun c _ => ?_
    cases c.name <;> simp
  · rw [Bool.not_eq_true, hasDup_eq_false_iff]

/-- the constructor rule for either state of the trailing slack guard: the bounds chain, and — only with the guard — a
    non-negative slack (`difference_bound` when it is the bound given, `ratio_bound_slack` with a ratio bound) -/
theorem parityWith_ok_iff (guard dGiven rGiven : Bool) (ratio diff slack : Rat) :
    parityWith guard dGiven rGiven ratio diff slack = .ok ↔
      ¬(dGiven = true ∧ rGiven = true) ∧ (rGiven = true → 0 < ratio ∧ ratio ≤ 1)
      ∧ (guard = true → (dGiven = true → rGiven = false → 0 ≤ diff) ∧ (rGiven = true → dGiven = false → 0 ≤ slack)) := by
  cases dGiven <;> cases rGiven <;> simp [parityWith, parityCtor, parityEps, ite_valueError_eq_ok]

/-- the trailing guard `if self.eps < 0: raise ValueError` is present in the source (lifted flag) -/
theorem slack_guard_present : slackMustBeNonneg = true := by decide +kernel

theorem parity_ok_iff (dGiven rGiven : Bool) (ratio diff slack : Rat) :
    parity dGiven rGiven ratio diff slack = .ok ↔
      ¬(dGiven = true ∧ rGiven = true) ∧ (rGiven = true → 0 < ratio ∧ ratio ≤ 1)
      ∧ (dGiven = true → rGiven = false → 0 ≤ diff) ∧ (rGiven = true → dGiven = false → 0 ≤ slack) := by
  rw [parity, slack_guard_present, parityWith_ok_iff]
  simp only [true_imp_iff]

/-- F24, the rule WITHOUT the guard (the source before the repair): a negative difference bound and a negative ratio
    slack are accepted silently -/
theorem negative_slack_accepted_without_guard :
    parityWith false true false 1 (-1) 0 = .ok ∧ parityWith false false true (1/2) 0 (-1/10) = .ok ∧
    parityWith true true false 1 (-1) 0 = .valueError ∧ parityWith true false true (1/2) 0 (-1/10) = .valueError := by
  decide +kernel

theorem costs_ok_iff (given isDict keysOk : Bool) (fp fn : Rat) :
    costs given isDict keysOk fp fn = .ok ↔
      (given = true → isDict = true ∧ keysOk = true ∧ 0 ≤ fp ∧ 0 ≤ fn ∧ 0 < fp + fn) := by
  cases given <;> simp [costs, errorRateCtor, and_assoc]

theorem gridSearch_ok_iff (isMoment ruleOk : Bool) (cw : Rat) :
    gridSearch isMoment ruleOk cw = .ok ↔ isMoment = true ∧ ruleOk = true ∧ 0 ≤ cw ∧ cw ≤ 1 := by
  cases isMoment <;> cases ruleOk <;> simp [gridSearch, gridSearchCtor]

/-- the lifted guard table lists exactly the documented entry points, every one guarded by `check_is_fitted` -/
theorem predict_guard_table : predictGuards = docEntryPoints.map (fun p => (p.1, p.2, true)) := rfl

theorem isGuarded_iff (cls method : String) : isGuarded cls method = true ↔ (cls, method) ∈ docEntryPoints := by
  rw [isGuarded, predict_guard_table, List.contains_iff_mem, List.mem_map]
  exact ⟨fun ⟨_, hm, he⟩ => by cases he; exact hm, fun h => ⟨_, h, rfl⟩⟩

theorem predictM_ok_iff (cls method : String) (fitted : Bool) :
    predictM cls method fitted = .ok ↔ ((cls, method) ∈ docEntryPoints → fitted = true) := by
  rw [predictM, ← isGuarded_iff]
  cases isGuarded cls method <;> cases fitted <;> simp [predict]

theorem toPredict_ok_iff (fitted sfGiven : Bool) (nX nSf : Nat) :
    toPredict fitted sfGiven nX nSf = .ok ↔ fitted = true ∧ 0 < nX ∧ sfGiven = true ∧ nSf = nX := by
  cases fitted
  · simp [toPredict]
  · cases sfGiven <;> simp [toPredict, validateSrc_eq_validateWith, validateWith_ok_iff, toPredictExpectsSf,
      toPredictExpectsY, toPredictEnforcesBinary, Nat.pos_iff_ne_zero]

theorem frameFns_ok_iff (spGiven spIsDict metricIsDict keysSubset innerDict : Bool) :
    frameFns spGiven spIsDict metricIsDict keysSubset innerDict = .ok ↔
      (spGiven = true → spIsDict = true) ∧ (metricIsDict = true → keysSubset = true ∧ innerDict = true) := by
  cases metricIsDict <;> simp [frameFns, frameFunctionsPrefix, frameInnerParamsOk, ite_valueError_eq_ok, and_assoc]

/-- MAIN THEOREM: a call is accepted exactly when its descriptor is well formed; in particular every listed
    defect forces a rejection (corollaries below) and valid inputs are never refused. -/
theorem accepts_iff_wellFormed (c : Call) : accepts c = true ↔ WellFormed c := by
  unfold accepts
  rw [beq_iff_eq]
  cases c with
  | mit d => exact mitFit_ok_iff d
  | thr e c o d => exact toFit_ok_iff e c o d
  | frame a => exact frame_ok_iff a
  | parity d r q df sl => exact parity_ok_iff d r q df sl
  | costs g d k fp fn => exact costs_ok_iff g d k fp fn
  | gs m r cw => exact gridSearch_ok_iff m r cw
  | predict f => cases f <;> simp [run, predict, WellFormed]
  | corrFit cols ids => simp [run, corrFit, WellFormed, List.all_eq_true]
  | corrTransform f a b => cases f <;> by_cases h : a = b <;> simp [run, corrTransform, WellFormed, h]
  | predictM c m f => exact predictM_ok_iff c m f
  | thrPredict f s a b => exact toPredict_ok_iff f s a b
  | frameFns a b c d e => exact frameFns_ok_iff a b c d e

theorem rejected_of_not_wellFormed {c : Call} (h : ¬ WellFormed c) : accepts c = false :=
  Bool.eq_false_iff.2 fun ha => h ((accepts_iff_wellFormed c).mp ha)

/-- ill-formed data is refused by the moments' `load_data` and by `ThresholdOptimizer.fit` alike -/
theorem rejected_of_not_mitWF {d : MitData} (h : ¬ MitWF d) (e : Bool) (c o : String) :
    accepts (.mit d) = false ∧ accepts (.thr e c o d) = false :=
  ⟨rejected_of_not_wellFormed h, rejected_of_not_wellFormed fun hw => h hw.2.2.2.1⟩

def okData : MitData := ⟨4, some [0, 1, 1, 0], some [7, 7, 9, 9], none⟩

/-! ### defect by defect: the defect alone forces `accepts = false` -/

/-- length mismatch in any argument position of a mitigator call (labels, sensitive, control features) -/
theorem length_mismatch_rejected (d : MitData) :
    (∀ y, d.y = some y → y.length ≠ d.n → accepts (.mit d) = false)
    ∧ (∀ sf, d.sf = some sf → sf.length ≠ d.n → accepts (.mit d) = false)
    ∧ (∀ cf, d.cf = some cf → cf.length ≠ d.n → accepts (.mit d) = false) := by
  refine ⟨fun y hy hl => ?_, fun sf hsf hl => ?_, fun cf hcf hl => ?_⟩ <;>
    refine rejected_of_not_wellFormed fun hw => hl ?_
  · obtain ⟨y', hy', _, hyl, _⟩ := hw.1
    rw [hy] at hy'; cases hy'; exact hyl
  · obtain ⟨sf', hsf', hsl⟩ := hw.2.1
    rw [hsf] at hsf'; cases hsf'; exact hsl
  · exact hw.2.2 cf hcf

/-- non-vacuity of `length_mismatch_rejected`: each of its three inner hypotheses is met (y one too long; sf one short; cf one short) -/
example : accepts (.mit ⟨4, some [0, 1, 1, 0, 1], some [7, 7, 9, 9], none⟩) = false ∧
    accepts (.mit ⟨4, some [0, 1, 1, 0], some [7, 9, 9], none⟩) = false ∧
    accepts (.mit ⟨4, some [0, 1, 1, 0], some [7, 7, 9, 9], some [1, 2, 1]⟩) = false :=
  ⟨(length_mismatch_rejected _).1 _ rfl (by decide),
   (length_mismatch_rejected _).2.1 _ rfl (by decide),
   (length_mismatch_rejected _).2.2 _ rfl (by decide)⟩

/-- length mismatch of the labels or of the sensitive feature (against the rows of X) for `ThresholdOptimizer.fit` -/
theorem thr_length_mismatch_rejected (e : Bool) (c o : String) (d : MitData) :
    (∀ y, d.y = some y → y.length ≠ d.n → accepts (.thr e c o d) = false)
    ∧ (∀ sf, d.sf = some sf → sf.length ≠ d.n → accepts (.thr e c o d) = false) := by
  refine ⟨fun y hy hl => ?_, fun sf hsf hl => ?_⟩ <;> refine rejected_of_not_wellFormed fun hw => hl ?_
  · obtain ⟨y', hy', _, hyl, _⟩ := hw.2.2.2.1.1
    rw [hy] at hy'; cases hy'; exact hyl
  · obtain ⟨sf', hsf', hsl⟩ := hw.2.2.2.1.2.1
    rw [hsf] at hsf'; cases hsf'; exact hsl

example : accepts (.thr true "demographic_parity" "accuracy_score" ⟨4, some [0, 1, 1, 0, 1], some [7, 7, 9, 9], none⟩) = false :=
  (thr_length_mismatch_rejected _ _ _ _).1 _ rfl (by decide)

/-- a label outside {0,1} at any row -/
theorem bad_label_rejected (d : MitData) (y : List Rat) (hy : d.y = some y) (v : Rat) (hv : v ∈ y)
    (h0 : v ≠ 0) (h1 : v ≠ 1) (e : Bool) (c o : String) :
    accepts (.mit d) = false ∧ accepts (.thr e c o d) = false :=
  rejected_of_not_mitWF (fun ⟨⟨y', hy', _, _, hb⟩, _, _⟩ => by
    rw [hy] at hy'; cases hy'; rcases hb v hv with h | h <;> contradiction) e c o

/-- non-vacuity of `bad_label_rejected`: label 1/2 in the third of four rows, everything else valid -/
example : accepts (.mit ⟨4, some [0, 1, 1/2, 0], some [7, 7, 9, 9], none⟩) = false ∧
    accepts (.thr true "equalized_odds" "accuracy_score" ⟨4, some [0, 1, 1/2, 0], some [7, 7, 9, 9], none⟩) = false :=
  bad_label_rejected _ _ rfl (1/2) (by simp)
    (by norm_num) (by norm_num) true _ _

/-- a missing sensitive feature (or missing labels) -/
theorem missing_sensitive_rejected (d : MitData) (h : d.sf = none ∨ d.y = none) (e : Bool) (c o : String) :
    accepts (.mit d) = false ∧ accepts (.thr e c o d) = false :=
  rejected_of_not_mitWF (fun ⟨⟨y, hy, _⟩, ⟨sf, hsf, _⟩, _⟩ => by rcases h with h | h <;> simp [h] at hsf hy) e c o

/-- non-vacuity of `missing_sensitive_rejected`: valid labels, no sensitive feature -/
example : accepts (.mit ⟨4, some [0, 1, 1, 0], none, none⟩) = false ∧
    accepts (.thr true "equalized_odds" "accuracy_score" ⟨4, some [0, 1, 1, 0], none, none⟩) = false :=
  missing_sensitive_rejected _ (Or.inl rfl) _ _ _

/-- an empty label vector ("Must supply nonempty y") -/
theorem empty_labels_rejected (d : MitData) (h : d.y = some []) (e : Bool) (c o : String) :
    accepts (.mit d) = false ∧ accepts (.thr e c o d) = false :=
  rejected_of_not_mitWF (fun ⟨⟨y, hy, hne, _⟩, _, _⟩ => by rw [h] at hy; cases hy; exact hne rfl) e c o

/-- ThresholdOptimizer: a group lacking one of the two labels -/
theorem degenerate_group_rejected (d : MitData) (sf : List Nat) (y : List Rat) (hsf : d.sf = some sf)
    (hy : d.y = some y) (g : Nat) (hg : g ∈ sf) (v : Rat) (hv : v = 0 ∨ v = 1)
    (hmiss : ∀ p ∈ sf.zip y, p.1 = g → p.2 ≠ v) (e : Bool) (c o : String) :
    accepts (.thr e c o d) = false := by
  refine rejected_of_not_wellFormed fun ⟨_, _, _, _, hb⟩ => ?_
  obtain ⟨⟨p1, hp1, hg1, hl1⟩, ⟨p0, hp0, hg0, hl0⟩⟩ := hb sf y hsf hy g hg
  rcases hv with rfl | rfl
  · exact hmiss p0 hp0 hg0 hl0
  · exact hmiss p1 hp1 hg1 hl1

/-- non-vacuity of `degenerate_group_rejected`: all five hypotheses at once — group 9 (two rows) has no label 0, group 7 has both -/
example : accepts (.thr true "equalized_odds" "accuracy_score" ⟨4, some [0, 1, 1, 1], some [7, 7, 9, 9], none⟩) = false :=
  degenerate_group_rejected _ _ _ rfl rfl 9 (by decide)
    0 (Or.inl rfl) (by decide +kernel) true _ _

/-- ThresholdOptimizer: unsupported combination, control features, missing estimator -/
theorem unsupported_combination_rejected (e : Bool) (c o : String) (d : MitData) :
    (¬ Supported c o → accepts (.thr e c o d) = false)
    ∧ (d.cf ≠ none → accepts (.thr e c o d) = false)
    ∧ (e = false → accepts (.thr e c o d) = false) :=
  ⟨fun h => rejected_of_not_wellFormed fun hw => h hw.2.1, fun h => rejected_of_not_wellFormed fun hw => h hw.2.2.1,
   fun h => rejected_of_not_wellFormed fun hw => (by rw [hw.1] at h; cases h)⟩

/-- non-vacuity of `unsupported_combination_rejected`: an unsupported pair; control features; on otherwise valid data -/
example : accepts (.thr true "equalized_odds" "selection_rate" okData) = false ∧
    accepts (.thr true "demographic_parity" "accuracy_score" ⟨4, some [0, 1, 1, 0], some [7, 7, 9, 9], some [1, 1, 2, 2]⟩) = false :=
  ⟨(unsupported_combination_rejected _ _ _ _).1 (by unfold Supported; decide +kernel),
   (unsupported_combination_rejected _ _ _ _).2.1 (by simp)⟩

/-- parity moments: both bounds given, a ratio bound outside (0,1], a negative difference bound, a negative ratio slack -/
theorem bad_bounds_rejected (ratio diff slack : Rat) :
    accepts (.parity true true ratio diff slack) = false
    ∧ (∀ dGiven, ¬(0 < ratio ∧ ratio ≤ 1) → accepts (.parity dGiven true ratio diff slack) = false)
    ∧ (diff < 0 → accepts (.parity true false ratio diff slack) = false)
    ∧ (slack < 0 → accepts (.parity false true ratio diff slack) = false) :=
  ⟨rejected_of_not_wellFormed fun hw => hw.1 ⟨rfl, rfl⟩,
   fun _ hr => rejected_of_not_wellFormed fun hw => hr (hw.2.1 rfl),
   fun hd => rejected_of_not_wellFormed fun hw => not_le.2 hd (hw.2.2.1 rfl rfl),
   fun hs => rejected_of_not_wellFormed fun hw => not_le.2 hs (hw.2.2.2 rfl rfl)⟩

/-- ErrorRate: costs that are not a dict with exactly the keys fp/fn, negative, or both zero -/
theorem bad_costs_rejected (isDict keysOk : Bool) (fp fn : Rat)
    (h : isDict = false ∨ keysOk = false ∨ fp < 0 ∨ fn < 0 ∨ fp + fn ≤ 0) :
    accepts (.costs true isDict keysOk fp fn) = false := by
  refine rejected_of_not_wellFormed fun hw => ?_
  obtain ⟨h1, h2, h3, h4, h5⟩ := hw rfl
  rcases h with h | h | h | h | h
  · rw [h1] at h; cases h
  · rw [h2] at h; cases h
  · exact not_le.2 h h3
  · exact not_le.2 h h4
  · exact not_lt.2 h h5

/-- every ill-formed `GridSearch(...)` construction (not a Moment, unknown selection rule, weight outside [0,1]) raises
    RuntimeError -/
theorem gs_rejects_with_runtimeError (isMoment ruleOk : Bool) (cw : Rat)
    (h : ¬ (isMoment = true ∧ ruleOk = true ∧ 0 ≤ cw ∧ cw ≤ 1)) : run (.gs isMoment ruleOk cw) = .runtimeError := by
  -- `gridSearch` is `if … then ok else RuntimeError`, and it is not ok
  have h' := mt (gridSearch_ok_iff isMoment ruleOk cw).mp h
  rw [run]
  rw [gridSearch] at h' ⊢
  by_cases hc : gridSearchCtor isMoment ruleOk cw = true
  · exact absurd (if_pos hc) h'
  · exact if_neg hc

example : run (.gs false true (1/2)) = .runtimeError := gs_rejects_with_runtimeError _ _ _ (by simp)

/-- GridSearch: constraint_weight outside [0,1] raises RuntimeError -/
theorem constraint_weight_rejected (isMoment ruleOk : Bool) (cw : Rat) (h : cw < 0 ∨ 1 < cw) :
    run (.gs isMoment ruleOk cw) = .runtimeError :=
  gs_rejects_with_runtimeError _ _ _ fun ⟨_, _, h0, h1⟩ => h.elim (not_le.2 · h0) (not_le.2 · h1)

/-- non-vacuity of `bad_bounds_rejected` (ratio 5/4 and 0), `bad_costs_rejected` (fp = -1/8), `constraint_weight_rejected` (5/4, -1/4) -/
example : accepts (.parity false true (5/4) 0 0) = false ∧ accepts (.parity false true 0 0 0) = false ∧
    accepts (.costs true true true (-1/8) 1) = false ∧ accepts (.costs true true true 0 0) = false ∧
    run (.gs true true (5/4)) = .runtimeError ∧ run (.gs true true (-1/4)) = .runtimeError :=
  ⟨(bad_bounds_rejected _ _ _).2.1 _ (by norm_num), (bad_bounds_rejected _ _ _).2.1 _ (by norm_num),
   bad_costs_rejected _ _ _ _ (by norm_num), bad_costs_rejected _ _ _ _ (by norm_num),
   constraint_weight_rejected _ _ _ (by norm_num), constraint_weight_rejected _ _ _ (by norm_num)⟩

/-! ### `MetricFrame.__init__`'s argument checks as lifted (Generated/FrameChecksSrc.lean) -/

/-- which checks the constructor makes, in execution order, what each compares and which exception it raises; and that every
    container branch of `_process_features` length-checks each column it appends, the DataFrame and dict branches also the
    column names.  (The texts of the statements are in `Generated.FrameChecksSrc.checks`.) -/
theorem frame_checks_census :
    Generated.FrameChecksSrc.checks.map (fun c => (c.pred, c.exc)) =
      [(.predLen, .valueError), (.paramLen, .valueError), (.sfMissing, .valueError), (.sfLen, .valueError),
       (.sfName, .valueError), (.cfLen, .valueError), (.cfName, .valueError), (.dupName, .valueError)]
    ∧ Generated.FrameChecksSrc.processBranches =
      [("Series", true, false), ("DataFrame", true, true), ("list", true, false), ("dict", true, true), ("else", true, false)] := ⟨rfl, rfl⟩

/-- what the driver op `val.frame` answers is what the lifted list answers (op `fchk.frame`) -/
theorem frame_accepts_eq_frameSrc (a : FrameArgs) : accepts (.frame a) = (FrameChecks.frameSrc a == .ok) := by
  simp only [accepts, run, FrameChecks.frameSrc_eq_frame]

/-- the lifted list accepts exactly the well-formed constructor calls -/
theorem frameSrc_ok_iff (a : FrameArgs) : FrameChecks.frameSrc a = .ok ↔ FrameWF a := by
  rw [FrameChecks.frameSrc_eq_frame]; exact frame_ok_iff a

/-- ... and it accepts iff none of the lifted checks fires -/
theorem frameSrc_ok_iff_no_check_fires (a : FrameArgs) :
    FrameChecks.frameSrc a = .ok ↔ ∀ c ∈ Generated.FrameChecksSrc.checks, FrameChecks.fires a c.pred = false :=
  FrameChecks.runOn_ok_iff _ a

/-- the lifted list only ever raises ValueError -/
theorem frameSrc_rejects_with_valueError (a : FrameArgs) :
    FrameChecks.frameSrc a = .ok ∨ FrameChecks.frameSrc a = .valueError :=
  FrameChecks.runOn_kind _ FrameChecks.checks_all_valueError a

/-- a check that IS in the lifted list and fires on the descriptor makes `MetricFrame(..)` raise -/
theorem frame_rejected_of_lifted_check (a : FrameArgs) (p : Generated.FrameChecksSrc.Pred)
    (hp : p ∈ Generated.FrameChecksSrc.checks.map (·.pred)) (hf : FrameChecks.fires a p = true) :
    accepts (.frame a) = false := by
  obtain ⟨c, hc, rfl⟩ := List.mem_map.1 hp
  have := FrameChecks.runOn_rejects _ a c hc hf
  rw [frame_accepts_eq_frameSrc]
  simpa [FrameChecks.frameSrc] using this

/-- non-vacuity: the lifted list on a duplicate across sensitive and control features, on a control column one long, and on a
    well-formed call -/
example : FrameChecks.frameSrc ⟨3, 3, [3], [⟨some "a", 3⟩], [⟨some "a", 3⟩]⟩ = .valueError ∧
    FrameChecks.frameSrc ⟨3, 3, [3], [⟨some "a", 3⟩], [⟨some "b", 4⟩]⟩ = .valueError ∧
    FrameChecks.frameSrc ⟨3, 3, [3], [⟨some "a", 3⟩], [⟨some "b", 3⟩]⟩ = .ok := by decide +kernel

/-- … in particular a check over the elements of a list (sample parameters, columns) that one element fails -/
theorem frame_rejected_of_element {α : Type} (a : FrameArgs) (p : Generated.FrameChecksSrc.Pred)
    (hp : p ∈ Generated.FrameChecksSrc.checks.map (·.pred)) (l : List α) (f : α → Bool)
    (hfires : FrameChecks.fires a p = l.any f) (x : α) (hx : x ∈ l) (hf : f x = true) : accepts (.frame a) = false :=
  frame_rejected_of_lifted_check a p hp (by rw [hfires, List.any_eq_true]; exact ⟨x, hx, hf⟩)

/-- MetricFrame: length mismatch of y_pred, a sample parameter, a sensitive or a control feature column
    (through the lifted checks predLen / paramLen / sfLen / cfLen: each must be present in the source) -/
theorem frame_length_mismatch_rejected (a : FrameArgs) :
    (a.nPred ≠ a.nTrue → accepts (.frame a) = false)
    ∧ (∀ p ∈ a.params, p ≠ a.nTrue → accepts (.frame a) = false)
    ∧ (∀ c ∈ a.sf ++ a.cf, c.len ≠ a.nTrue → accepts (.frame a) = false) := by
  refine ⟨fun h => ?_, fun p hp h => ?_, fun c hc h => ?_⟩
  · exact frame_rejected_of_lifted_check a .predLen (by decide) (bne_iff_ne.2 h)
  · exact frame_rejected_of_element a .paramLen (by decide) _ _ rfl p hp (bne_iff_ne.2 h)
  · rcases List.mem_append.1 hc with hc | hc
    · exact frame_rejected_of_element a .sfLen (by decide) _ _ rfl c hc (bne_iff_ne.2 h)
    · exact frame_rejected_of_element a .cfLen (by decide) _ _ rfl c hc (bne_iff_ne.2 h)

/-- MetricFrame: duplicate or non-string feature names, or no sensitive feature
    (through the lifted checks dupName / sfName / cfName / sfMissing) -/
theorem frame_bad_names_rejected (a : FrameArgs) :
    (¬ ((a.sf ++ a.cf).filterMap (·.name)).Nodup → accepts (.frame a) = false)
    ∧ (∀ c ∈ a.sf ++ a.cf, c.name = none → accepts (.frame a) = false)
    ∧ (a.sf = [] → accepts (.frame a) = false) := by
  refine ⟨fun h => ?_, fun c hc h => ?_, fun h => ?_⟩
  · refine frame_rejected_of_lifted_check a .dupName (by decide) ?_
    rw [FrameChecks.fires, ← Bool.not_eq_false, hasDup_eq_false_iff]; exact h
  · rcases List.mem_append.1 hc with hc | hc
    · exact frame_rejected_of_element a .sfName (by decide) _ _ rfl c hc (by rw [h]; rfl)
    · exact frame_rejected_of_element a .cfName (by decide) _ _ rfl c hc (by rw [h]; rfl)
  · exact frame_rejected_of_lifted_check a .sfMissing (by decide) (by rw [FrameChecks.fires, h]; rfl)

/-- non-vacuity of `frame_length_mismatch_rejected` / `frame_bad_names_rejected`: a sample parameter one short; a control column one
    long; a non-string control name; a duplicate across sensitive and control features -/
example : accepts (.frame ⟨3, 3, [3, 2], [⟨some "a", 3⟩], []⟩) = false ∧
    accepts (.frame ⟨3, 3, [3], [⟨some "a", 3⟩], [⟨some "b", 4⟩]⟩) = false ∧
    accepts (.frame ⟨3, 3, [], [⟨some "a", 3⟩], [⟨none, 3⟩]⟩) = false ∧
    accepts (.frame ⟨3, 3, [], [⟨some "a", 3⟩, ⟨some "b", 3⟩], [⟨some "a", 3⟩]⟩) = false :=
  ⟨(frame_length_mismatch_rejected _).2.1 2 (by simp) (by decide),
   (frame_length_mismatch_rejected _).2.2 ⟨some "b", 4⟩ (by simp) (by decide),
   (frame_bad_names_rejected _).2.1 ⟨none, 3⟩ (by simp) rfl,
   (frame_bad_names_rejected _).1 (by decide)⟩

/-- prediction (or transform) before fit raises NotFittedError, whatever else is passed -/
theorem predict_before_fit_rejected (a b : Nat) :
    run (.predict false) = .notFitted ∧ run (.corrTransform false a b) = .notFitted := by
  simp [run, predict, corrTransform]

/-- CorrelationRemover: a sensitive id that is not a column; transform on a different number of columns -/
theorem corr_rejected (cols ids : List Nat) (c : Nat) (hc : c ∈ ids) (hm : c ∉ cols) (a b : Nat) (hab : a ≠ b) :
    accepts (.corrFit cols ids) = false ∧ accepts (.corrTransform true a b) = false :=
  ⟨rejected_of_not_wellFormed fun hw => hm (hw c hc), rejected_of_not_wellFormed fun hw => hab hw.2⟩

/-- non-vacuity of `corr_rejected`: id 5 is not among the columns 0..2; transform on 4 columns after a fit on 3 -/
example : accepts (.corrFit [0, 1, 2] [1, 5]) = false ∧ accepts (.corrTransform true 3 4) = false :=
  corr_rejected _ _ 5 (by simp) (by simp) _ _ (by decide)

/-- EVERY prediction entry point of every estimator (predict, predict_proba, _pmf_predict, transform, _raw_predict of
    ThresholdOptimizer, InterpolatedThresholder, ExponentiatedGradient, GridSearch, CorrelationRemover, the adversarial
    estimators) raises NotFittedError before fit -/
theorem every_entry_point_guarded (cls method : String) (h : (cls, method) ∈ docEntryPoints) :
    run (.predictM cls method false) = .notFitted := by
  have hg := (isGuarded_iff cls method).mpr h
  simp [run, predictM, hg, predict]

/-- ThresholdOptimizer at prediction time: sensitive features that are missing or whose length differs from the
    number of rows of X are rejected (and an unfitted estimator raises NotFittedError before looking at them) -/
theorem predict_time_sensitive_rejected (fitted sfGiven : Bool) (nX nSf : Nat) :
    (nSf ≠ nX → accepts (.thrPredict fitted sfGiven nX nSf) = false)
    ∧ (sfGiven = false → accepts (.thrPredict fitted sfGiven nX nSf) = false)
    ∧ run (.thrPredict false sfGiven nX nSf) = .notFitted :=
  ⟨fun h => rejected_of_not_wellFormed fun hw => h hw.2.2.2,
   fun h => rejected_of_not_wellFormed fun hw => (by rw [hw.2.2.1] at h; cases h), by simp [run, toPredict]⟩

/-- non-vacuity of `every_entry_point_guarded` / `predict_time_sensitive_rejected` -/
example : run (.predictM "CorrelationRemover" "transform" false) = .notFitted ∧
    accepts (.thrPredict true true 5 3) = false ∧ accepts (.thrPredict true false 5 5) = false :=
  ⟨every_entry_point_guarded _ _ (by decide +kernel), (predict_time_sensitive_rejected _ _ _ _).1 (by decide),
   (predict_time_sensitive_rejected _ _ _ _).2.1 rfl⟩

/-- the fit-time and the prediction-time checks are the same function of the source (`_validate_and_reformat_input`),
    instantiated with the lifted keyword values -/
theorem predict_time_uses_validate (nX nSf : Nat) :
    toPredict true true nX nSf = validateWith true true false ⟨nX, some (List.replicate nX 0), some (List.replicate nSf 0), none⟩
    ∧ toPredictDelegates = true :=
  ⟨by unfold toPredict; rw [validateSrc_eq_validateWith]; rfl, rfl⟩

/-- MetricFrame: `sample_params` that is not a dict, names a metric that is not in the metric dict, or holds a
    non-dict for one of the metrics -/
theorem frame_sample_params_rejected (spIsDict metricIsDict keysSubset innerDict : Bool) :
    accepts (.frameFns true false metricIsDict keysSubset innerDict) = false
    ∧ accepts (.frameFns true spIsDict true false innerDict) = false
    ∧ accepts (.frameFns true spIsDict true keysSubset false) = false :=
  ⟨rejected_of_not_wellFormed fun hw => (nomatch hw.1 rfl),
   rejected_of_not_wellFormed fun hw => (nomatch (hw.2 rfl).1),
   rejected_of_not_wellFormed fun hw => (nomatch (hw.2 rfl).2)⟩

/-! ### the kind of exception -/

/-- no entry point of the model raises TypeError: every leaf of every entry point is another kind, and the lifted
    validator only has ValueError checks -/
theorem run_ne_typeError (c : Call) : run c ≠ .typeError := by
  have hv : ∀ ey es eb d, validateSrc ey es eb d ≠ .typeError := fun ey es eb d h => by
    rcases validateSrc_kind ey es eb d with h' | h' <;> rw [h'] at h <;> cases h
  cases c with
  | mit d => exact hv _ _ _ _
  | thr e c o d =>
    simp only [run, toFit]
    refine ite_ne_typeError nofun ?_
    split
    · split <;> [exact ite_ne_typeError nofun nofun; nofun]
    · exact hv _ _ _ _
  | thrPredict f s a b => exact ite_ne_typeError nofun (hv _ _ _ _)
  | _ =>
    simp only [run, frame, parity, parityWith, costs, gridSearch, predict, corrFit,
      corrTransform, predictM, frameFns]
    repeat' apply ite_ne_typeError
    all_goals nofun

/-- "raise an exception": a call that is not accepted ends in one of the three exception kinds of the model (TypeError
    never: `run_ne_typeError`); which one an entry point gives is said by `gs_rejects_with_runtimeError`,
    `predict_guard_table` and the `*_rejected` theorems -/
theorem rejection_kind (c : Call) (h : accepts c = false) :
    run c = .valueError ∨ run c = .runtimeError ∨ run c = .notFitted := by
  have hne : run c ≠ .ok := by
    intro hok; simp [accepts, hok] at h
  cases hr : run c with
  | ok => exact absurd hr hne
  | valueError => exact Or.inl rfl
  | runtimeError => exact Or.inr (Or.inl rfl)
  | notFitted => exact Or.inr (Or.inr rfl)
  | typeError => exact absurd hr (run_ne_typeError c)

/-- KNOWN MODEL GAP (on the safe side for the property): the descriptor model accepts a
    MetricFrame call with ZERO rows and consistent lengths — `FrameWF` does not demand `0 < nTrue` — while real fairlearn
    raises there: `MetricFrame(metrics=selection_rate, y_true=[], y_pred=[], sensitive_features=[])` -> IndexError
    (replayed on /repo 897f58c).  The harness generates 4..14 rows, so the correspondence never visits this point; the
    mitigator entry points do not have the gap (`empty_labels_rejected`; `DemographicParity().load_data` on 0 rows raises
    ValueError, `ThresholdOptimizer.predict` on 0 rows raises ValueError = `toPredict_ok_iff`'s `0 < nX`). -/
example : accepts (.frame ⟨0, 0, [], [⟨some "a", 0⟩], []⟩) = true := by decide +kernel

/-! ### Non-vacuity: concrete descriptors -/

example : accepts (.mit okData) = true := by decide +kernel
example : accepts (.thr true "equalized_odds" "accuracy_score" okData) = true := by decide +kernel
example : accepts (.thr true "equalized_odds" "selection_rate" okData) = false := by decide +kernel
example : accepts (.thr true "demographic_parity" "selection_rate" okData) = true := by decide +kernel
/-- off-by-one label vector, bad label in the middle, degenerate group 9 -/
example : accepts (.mit ⟨4, some [0, 1, 1], some [7, 7, 9, 9], none⟩) = false := by decide +kernel
example : accepts (.mit ⟨4, some [0, 2, 1, 0], some [7, 7, 9, 9], none⟩) = false := by decide +kernel
example : accepts (.thr true "equalized_odds" "accuracy_score" ⟨4, some [0, 1, 1, 1], some [7, 7, 9, 9], none⟩) = false := by
  decide +kernel
example : accepts (.mit ⟨4, some [0, 1, 1, 1], some [7, 7, 9, 9], none⟩) = true := by decide +kernel
example : accepts (.frame ⟨3, 3, [3], [⟨some "a", 3⟩], [⟨some "b", 3⟩]⟩) = true := by decide +kernel
example : accepts (.frame ⟨3, 3, [3], [⟨some "a", 3⟩], [⟨some "a", 3⟩]⟩) = false := by decide +kernel
example : accepts (.parity false true 1 0 0) = true ∧ accepts (.parity false true (3/2) 0 0) = false := by decide +kernel
example : accepts (.parity true false 1 (-1) 0) = false ∧ accepts (.parity false true (1/2) 0 (-1/10)) = false ∧
    accepts (.parity true false 1 0 (-1)) = true ∧ accepts (.parity false false 1 (-1) (-1)) = true := by decide +kernel
example : run (.gs true true (5/4)) = .runtimeError := by decide +kernel
example : run (.predictM "GridSearch" "predict_proba" false) = .notFitted ∧
    accepts (.predictM "GridSearch" "predict_proba" true) = true := by decide +kernel
example : accepts (.thrPredict true true 4 4) = true ∧ accepts (.thrPredict true true 4 3) = false ∧
    accepts (.thrPredict true false 4 0) = false := by decide +kernel
example : accepts (.frameFns true true true true true) = true ∧ accepts (.frameFns false false false true true) = true ∧
    accepts (.frameFns true true true false true) = false := by decide +kernel

end C20
