/-
C17 — adversarial fit is the documented step schedule; predict stays in label space.
The property theorems, the vocabulary they are stated in (`anyStop`, `plannedSteps`, `truthyOf`, `AllPass`) and the simulation
lemmas of `section Pass`; the lemmas on the model are in `Lemmas/Schedule.lean`, those on the interpreter at the reference
configuration in `Lemmas/SchedLifted.lean`, the table-driven training step in `Lemmas/AdvStep.lean`.
`none` stands for the Python value -1 of batch_size / epochs / max_iter.

CLAUSE -> THEOREM TABLE (property text: properties.jsonl C17).  `src_*` = the same clause for `SchedL.fitSrc`,
the interpreter of the configuration LIFTED from the source (`lifted_cfg` proves it equal to the documented one).
  (1) "fit with shuffle=False performs exactly epochs*ceil(n/batch_size) steps (or max_iter if smaller)"
        steps_count, steps_count_epochs_auto (epochs = -1: exactly max_iter), steps_le_max_iter, steps_count_positive,
        src_steps_count, src_steps_count_epochs_auto; both unset: both_unset_rejected, src_both_unset_rejected;
        shuffle=False never permutes: lifted_shuffle_placement (the shuffle stands under `if self.shuffle:`)
  (2) "on consecutive row slices"
        slices_consecutive_cover, slice_bounds, number_of_slices, no_batching_single_slice (batch_size = -1),
        large_batch_single_slice, schedule_slices_prefix, src_slices_consecutive_cover
  (3) "invokes every callback once after each completed step with step numbers 1,2,... (except after a final step that
       exhausts max_iter)"
        callbacks_numbered, callback_fired_iff, src_callbacks_numbered (ANY list of callbacks: `st.calls = callsOf …`, i.e.
        every callback of the list, in list order, once per fired step, with that step's number)
  (4) "and stops at the first step whose callback returns True"
        stops_at_first_true, src_stops_at_first_true (some callback of the list returns True; all are still called)
  (5) "the resulting model is identical to the one obtained by issuing the same slices through partial_fit on an
       identically configured estimator"
        fit_eq_fold_partial_fit, fitLoop_defined_iff, src_fit_eq_fold_partial_fit (MAIN TIE), src_fit_is_fold_of_train_steps
        (concrete projected-gradient step, autograd as a function), src_fit_recorded_is_fold_of_steps (the table-driven step
        the driver op `advstep.fit` folds), fit_eq_partial_fit_twin (with the first-call set-up), fit_cold_start,
        fit_warm_start_continues, partial_fit_first_call_sets_up, partial_fit_later_calls_continue, partialFitAll_continue
  (6) "predict returns members of the training label set: the positive class exactly when the predictor's output is at
       least 0.5 for binary targets"
        predict_binary, predict_binary_iff (EXACTLY when, for distinct classes), src_predict_binary,
        src_predict_binary_iff (lifted rule AND lifted default threshold 1/2)
  (7) "the arg-max class for multiclass targets"   predict_multi (first arg-max, member of the class list), src_predict_multi,
        src_predict_multi_in_classes
  (8) "and the raw output for regression"   src_predict_pipeline (continuousRule = identity; stages rawPredict → rule → inverse
        transform).  PARTIAL: the inverse label transform of a continuous target (`inverse = y`, _preprocessor.py:120) is not
        lifted; the harness compares predict with _raw_predict bit for bit.
  Quantifier: n >= 1, batch_size / epochs / max_iter positive or -1.  0 is rejected by fairlearn with ValueError before any
  step (replayed on the real code: batch_size=0, epochs=0, max_iter=0 all raise); the driver ops `sched.*` / `schedsrc.fit` refuse 0 (`bad-op`;
  `schedsrc.fitv` takes any integers and answers with the lifted range check: `src_nonpositive_params_rejected`); the Nat
  model is DEGENERATE there (`batch_size_zero_outside_model`), which is why the `src_*` theorems carry `0 < n` and
  `bs = some k → 0 < k`, and `steps_count` needs `0 < max_iter` (`max_iter_zero_outside_model`).
  Callback guard, result check, parameter domain (lifted: `lifted_cb_guard`): fitV_pass / src_fitV_passing_callbacks (results that
        pass the check: the interpreter with the check is the one without), src_no_callbacks_no_calls, src_nonbool_callback_rejected,
        raised_is_final, src_falsy_result_accepted, src_bool_result_accepted; src_param_rejected_iff, src_param_accepted_iff_enc,
        src_nonpositive_params_rejected.  Life cycle latches: lifted_lifecycle, lifted_partial_fit_single_step.
  Driver ops used by harness/props/c17.py -> model function -> theorem:
    sched.run -> schedule -> steps_count, callbacks_numbered, callback_fired_iff;  sched.loop -> fitLoop -> fit_eq_fold_partial_fit
    schedsrc.fit -> SchedL.fitSrc -> src_fit_eq_fold_partial_fit;  sched.predbin -> predictBinaryLabel -> predict_binary(_iff)
    sched.predmulti -> predictMultiLabel -> predict_multi;  schedsrc.predbin -> predictBinarySrc -> src_predict_binary(_iff)
    schedsrc.predmulti -> predictMultiSrc -> src_predict_multi;  schedlife.run -> SchedLife.fit / partialFit / predict ->
    fit_cold_start, fit_warm_start_continues, partial_fit_first_call_sets_up, partial_fit_later_calls_continue,
    predict_before_fit_rejected, fit_rejected_after_setup
-/
import FairModel.Lemmas.Schedule
import FairModel.Lemmas.SchedLifted
import FairModel.Lemmas.AdvStep
import FairModel.Model.SchedLife

namespace C17
open Schedule

/-! ### number of steps -/

/-- `epochs` given, no callback stops: exactly `epochs * ceil(n / batch_size)` steps, or `max_iter` if smaller -/
theorem steps_count (n e : Nat) (bs mi : Option Nat) (cb : Bool) (stopAt : Nat → Bool) (steps : List Step)
    (hstop : ∀ k, (cb && stopAt k) = false) (hmi : ∀ m, mi = some m → 0 < m)
    (h : schedule n bs (some e) mi cb stopAt = some steps) :
    steps.length = match mi with
      | none => e * ceilDiv n (batchSizeOf n bs)
      | some m => min (e * ceilDiv n (batchSizeOf n bs)) m := by
  obtain ⟨_, he, rfl⟩ := schedule_eq_some h
  cases he
  rw [run_length_no_stop mi cb stopAt 0 _ hstop hmi, length_allSlices]
  cases mi <;> rfl

/- non-vacuity (n = 7, batch_size = 3, epochs = 2, max_iter = 5, a callback that never stops): all three hypotheses at once;
   the count is min(2·3, 5) = 5, cut by max_iter in the middle of the second epoch -/
example : [(⟨0, 3, 1, true⟩ : Step), ⟨3, 6, 2, true⟩, ⟨6, 7, 3, true⟩, ⟨0, 3, 4, true⟩, ⟨3, 6, 5, false⟩].length =
    min (2 * ceilDiv 7 (batchSizeOf 7 (some 3))) 5 :=
  steps_count 7 2 (some 3) (some 5) true (fun _ => false) _ (by intro k; rfl) (by intro m h; cases h; decide)
    (by decide +kernel)
example : ceilDiv 7 (batchSizeOf 7 (some 3)) = 3 := by decide +kernel

/-- inside the quantifier (n ≥ 1, batch size ≥ 1, epochs ≥ 1, max_iter ≥ 1 or unset) at least one
    step is made — the count of `steps_count` is not the degenerate `e * (n / 0) = 0` of Lean's division. -/
theorem steps_count_positive (n e : Nat) (bs mi : Option Nat) (cb : Bool) (stopAt : Nat → Bool) (steps : List Step)
    (hn : 0 < n) (hb : 0 < batchSizeOf n bs) (he : 0 < e) (h : schedule n bs (some e) mi cb stopAt = some steps) :
    0 < steps.length := by
  obtain ⟨_, he', rfl⟩ := schedule_eq_some h
  cases he'
  exact run_length_pos _ _ _ _ _ (length_allSlices n _ e ▸ Nat.mul_pos he (ceilDiv_pos n _ hn hb))

example : 0 < [(⟨0, 3, 1, true⟩ : Step), ⟨3, 6, 2, true⟩, ⟨6, 7, 3, true⟩, ⟨0, 3, 4, true⟩, ⟨3, 6, 5, false⟩].length :=
  steps_count_positive 7 2 (some 3) (some 5) true (fun _ => false) _ (by decide) (by decide) (by decide) (by decide +kernel)

/-- OUTSIDE THE MODEL: `batch_size = 0`.  Lean's `n / 0 = 0` makes the Nat model plan NO slices and accept; the real code
    raises ValueError ("should be set to a positive number or -1", replayed) and the driver refuses the input (`bad-op`).
    `steps_count` holds there only by this degeneracy — hence the positivity hypotheses of the `src_*` theorems. -/
theorem batch_size_zero_outside_model (n e : Nat) (mi : Option Nat) (cb : Bool) (stopAt : Nat → Bool) :
    schedule n (some 0) (some e) mi cb stopAt = some [] := by
  have : allSlices n 0 e = [] := List.eq_nil_of_length_eq_zero (by
    rw [length_allSlices, batchesOf, ceilDiv, Nat.div_zero, Nat.mul_zero])
  show some (run mi cb stopAt 0 (allSlices n 0 e)) = some []
  rw [this]; rfl

/-- OUTSIDE THE MODEL: `max_iter = 0` (rejected by the real code with ValueError, replayed; refused by the driver).  The
    loop text would still make ONE step (the test `n_iter_ >= max_iter` stands after the step), not `min(…, 0) = 0`:
    that is why `steps_count` requires `0 < max_iter`. -/
theorem max_iter_zero_outside_model (n e : Nat) (bs : Option Nat) (cb : Bool) (stopAt : Nat → Bool)
    (hn : 0 < n) (hb : 0 < batchSizeOf n bs) (he : 0 < e) :
    (schedule n bs (some e) (some 0) cb stopAt).map List.length = some 1 := by
  have hl : 0 < (allSlices n (batchSizeOf n bs) e).length :=
    length_allSlices n _ e ▸ Nat.mul_pos he (ceilDiv_pos n _ hn hb)
  show some (run (some 0) cb stopAt 0 (allSlices n (batchSizeOf n bs) e)).length = some 1
  rw [run_length (some 0) cb stopAt 0 1 _ Nat.zero_lt_one (fun j h0 h1 => absurd h1 (Nat.not_lt.mpr h0)) (fun _ => rfl),
    Nat.min_eq_right hl]

/-- `epochs = -1`: the number of epochs is `ceil(max_iter / batches)` and exactly `max_iter` steps are made -/
theorem steps_count_epochs_auto (n m : Nat) (bs : Option Nat) (cb : Bool) (stopAt : Nat → Bool) (steps : List Step)
    (hn : 0 < n) (hb : 0 < batchSizeOf n bs) (hm : 0 < m) (hstop : ∀ k, (cb && stopAt k) = false)
    (h : schedule n bs none (some m) cb stopAt = some steps) : steps.length = m := by
  obtain ⟨_, he, rfl⟩ := schedule_eq_some h
  cases he
  rw [run_length_no_stop (some m) cb stopAt 0 _ hstop (by intro m' h'; cases h'; exact hm), length_allSlices]
  exact Nat.min_eq_right (le_ceilDiv_mul m _ (ceilDiv_pos n _ hn hb))

/- non-vacuity: n = 7, batch_size = 3 (3 batches), epochs = -1, max_iter = 5: all five hypotheses; ceil(5/3) = 2 epochs planned -/
example : [(⟨0, 3, 1, false⟩ : Step), ⟨3, 6, 2, false⟩, ⟨6, 7, 3, false⟩, ⟨0, 3, 4, false⟩, ⟨3, 6, 5, false⟩].length = 5 :=
  steps_count_epochs_auto 7 5 (some 3) false (fun _ => false) _ (by decide) (by decide) (by decide) (by intro k; rfl)
    (by decide +kernel)

/-- `epochs = -1` and `max_iter = -1` is rejected -/
theorem both_unset_rejected (n : Nat) (bs : Option Nat) (cb : Bool) (stopAt : Nat → Bool) :
    schedule n bs none none cb stopAt = none := rfl

/-- `n_iter_` never exceeds `max_iter` -/
theorem steps_le_max_iter (n m : Nat) (bs ep : Option Nat) (cb : Bool) (stopAt : Nat → Bool) (steps : List Step)
    (hm : 0 < m) (h : schedule n bs ep (some m) cb stopAt = some steps) : steps.length ≤ m := by
  obtain ⟨_, _, rfl⟩ := schedule_eq_some h
  exact run_length_le (some m) cb stopAt 0 m _ hm (by rw [hitMax, decide_eq_true (Nat.le_refl m)]; rfl)

example : [(⟨0, 3, 1, true⟩ : Step), ⟨3, 6, 2, true⟩, ⟨6, 7, 3, true⟩, ⟨0, 3, 4, true⟩, ⟨3, 6, 5, false⟩].length ≤ 5 :=
  steps_le_max_iter 7 5 (some 3) (some 2) true (fun _ => false) _ (by decide) (by decide +kernel)

/-! ### which rows each step sees -/

/-- any `batch_size >= n` means one slice with all rows -/
theorem large_batch_single_slice (n b : Nat) (hn : 0 < n) (hb : n ≤ b) : epochSlices n b = [(0, n)] := by
  rw [epochSlices, batchesOf, ceilDiv_eq_one n b hn hb]
  show [(0 * b, min ((0 + 1) * b) n)] = _
  rw [Nat.zero_mul, Nat.zero_add, Nat.one_mul, Nat.min_eq_right hb]

example : epochSlices 7 45 = [(0, 7)] := large_batch_single_slice 7 45 (by decide) (by decide)

/-- `batch_size = -1` means one slice with all rows -/
theorem no_batching_single_slice (n : Nat) (hn : 0 < n) :
    batchSizeOf n none = n ∧ epochSlices n n = [(0, n)] :=
  ⟨rfl, large_batch_single_slice n n hn (Nat.le_refl n)⟩

example : batchSizeOf 7 none = 7 ∧ epochSlices 7 7 = [(0, 7)] := no_batching_single_slice 7 (by decide)

/-- each epoch's slices are consecutive, non-empty and cover rows `0 .. n` exactly:
    `[0,b), [b,2b), …, [kb, n)` -/
theorem slices_consecutive_cover (n b : Nat) (hn : 0 < n) (hb : 0 < b) : Covers 0 (epochSlices n b) n := by
  have := covers_map_range' (sliceOf n b) (fun i => min (i * b) n) 0 (batchesOf n b) fun i _ hi => by
    have := (lt_ceilDiv_iff n b i hb).mp (by rwa [Nat.zero_add] at hi)
    rw [sliceOf, Nat.succ_mul]
    rw [Nat.min_eq_left this.le]
    exact ⟨rfl, lt_min (Nat.lt_add_of_pos_right hb) this⟩
  rwa [Nat.zero_mul, Nat.zero_min, Nat.zero_add, batchesOf, Nat.min_eq_right (le_ceilDiv_mul n b hb),
    ← List.range_eq_range'] at this

/- non-vacuity: 7 rows in batches of 3 — two full slices and a last one of a single row -/
example : Covers 0 (epochSlices 7 3) 7 := slices_consecutive_cover 7 3 (by decide) (by decide)
example : epochSlices 7 3 = [(0, 3), (3, 6), (6, 7)] := by decide +kernel

theorem slice_bounds (n b k : Nat) (hb : 0 < b) (hk : k < batchesOf n b) :
    (sliceOf n b k).1 = k * b ∧ (sliceOf n b k).1 < (sliceOf n b k).2 ∧ (sliceOf n b k).2 ≤ n ∧
    (sliceOf n b k).2 - (sliceOf n b k).1 ≤ b ∧
    (k + 1 < batchesOf n b → (sliceOf n b k).2 = (sliceOf n b (k + 1)).1) ∧
    (k + 1 = batchesOf n b → (sliceOf n b k).2 = n) :=
  ⟨rfl, sliceOf_nonempty n b k hb hk, Nat.min_le_right _ _, sliceOf_size_le n b k, sliceOf_hi_inner n b k hb,
    sliceOf_hi_last n b k hb⟩

/- non-vacuity: the LAST slice (k = 2 of 3) of n = 7, b = 3: starts at 6, ends at n = 7, is shorter than b -/
example : (sliceOf 7 3 2).1 = 2 * 3 ∧ (sliceOf 7 3 2).1 < (sliceOf 7 3 2).2 ∧ (sliceOf 7 3 2).2 ≤ 7 ∧
    (sliceOf 7 3 2).2 - (sliceOf 7 3 2).1 ≤ 3 ∧ (2 + 1 < batchesOf 7 3 → (sliceOf 7 3 2).2 = (sliceOf 7 3 (2 + 1)).1) ∧
    (2 + 1 = batchesOf 7 3 → (sliceOf 7 3 2).2 = 7) := slice_bounds 7 3 2 (by decide) (by decide +kernel)

theorem number_of_slices (n b e : Nat) :
    (epochSlices n b).length = ceilDiv n b ∧ (allSlices n b e).length = e * ceilDiv n b :=
  ⟨length_epochSlices n b, length_allSlices n b e⟩

/-- the executed steps are an initial segment of `epochs` repetitions of the epoch's slices -/
theorem schedule_slices_prefix (n : Nat) (bs ep mi : Option Nat) (cb : Bool) (stopAt : Nat → Bool) (steps : List Step)
    (h : schedule n bs ep mi cb stopAt = some steps) :
    ∃ e, epochsOf ep mi (batchesOf n (batchSizeOf n bs)) = some e ∧
      steps.map (fun s => (s.lo, s.hi)) <+: allSlices n (batchSizeOf n bs) e := by
  obtain ⟨e, he, rfl⟩ := schedule_eq_some h
  exact ⟨e, he, run_prefix mi cb stopAt 0 _⟩

example : ∃ e, epochsOf (some 2) (some 5) (batchesOf 7 (batchSizeOf 7 (some 3))) = some e ∧
    [(0, 3), (3, 6), (6, 7), (0, 3), (3, 6)] <+: allSlices 7 (batchSizeOf 7 (some 3)) e := by
  simpa using schedule_slices_prefix 7 (some 3) (some 2) (some 5) true (fun _ => false)
    [⟨0, 3, 1, true⟩, ⟨3, 6, 2, true⟩, ⟨6, 7, 3, true⟩, ⟨0, 3, 4, true⟩, ⟨3, 6, 5, false⟩] (by decide +kernel)

/-! ### callbacks -/

/-- steps (and therefore the `step=` argument of the callbacks) are numbered 1, 2, … -/
theorem callbacks_numbered (n : Nat) (bs ep mi : Option Nat) (cb : Bool) (stopAt : Nat → Bool) (steps : List Step)
    (h : schedule n bs ep mi cb stopAt = some steps) :
    steps.map (·.stepNo) = List.range' 1 steps.length := by
  obtain ⟨_, _, rfl⟩ := schedule_eq_some h
  exact run_stepNo mi cb stopAt 0 _

example : [(⟨0, 3, 1, true⟩ : Step), ⟨3, 6, 2, true⟩, ⟨6, 7, 3, true⟩, ⟨0, 3, 4, true⟩, ⟨3, 6, 5, false⟩].map (·.stepNo) =
    List.range' 1 5 :=
  callbacks_numbered 7 (some 3) (some 2) (some 5) true (fun _ => false) _ (by decide +kernel)

/-- the callbacks are invoked after every completed step EXCEPT a step that exhausts `max_iter` -/
theorem callback_fired_iff (n : Nat) (bs ep mi : Option Nat) (cb : Bool) (stopAt : Nat → Bool) (steps : List Step)
    (h : schedule n bs ep mi cb stopAt = some steps) :
    ∀ s ∈ steps, s.callbackFired = (cb && !hitMax mi s.stepNo) := by
  obtain ⟨_, _, rfl⟩ := schedule_eq_some h
  exact run_callbackFired mi cb stopAt 0 _

/- non-vacuity: step 5 exhausts max_iter = 5 — the only step after which the callback is NOT invoked -/
example : ∀ s ∈ [(⟨0, 3, 1, true⟩ : Step), ⟨3, 6, 2, true⟩, ⟨6, 7, 3, true⟩, ⟨0, 3, 4, true⟩, ⟨3, 6, 5, false⟩],
    s.callbackFired = (true && !hitMax (some 5) s.stepNo) :=
  callback_fired_iff 7 (some 3) (some 2) (some 5) true (fun _ => false) _ (by decide +kernel)

/-- fit stops at the first step whose callback returns True -/
theorem stops_at_first_true (n k : Nat) (bs ep mi : Option Nat) (stopAt : Nat → Bool) (steps : List Step) (e : Nat)
    (h : schedule n bs ep mi true stopAt = some steps)
    (he : epochsOf ep mi (batchesOf n (batchSizeOf n bs)) = some e)
    (hk0 : 0 < k) (hk : k ≤ e * ceilDiv n (batchSizeOf n bs)) (hs : stopAt k = true)
    (hbefore : ∀ j, 0 < j → j < k → stopAt j = false) (hmi : ∀ m, mi = some m → k < m) :
    steps.length = k ∧ (steps.getLast?).map (fun s => (s.stepNo, s.callbackFired)) = some (k, true) := by
  obtain ⟨_, he', rfl⟩ := schedule_eq_some h
  cases he.symm.trans he'
  have hl := run_length mi true stopAt 0 k (allSlices n (batchSizeOf n bs) e) hk0
    (fun j h1 h2 => by rw [hbefore j h1 h2, hitMax_eq_false mi j fun m h => Nat.lt_trans h2 (hmi m h)]; rfl)
    (fun _ => by rw [hs, Bool.true_and, Bool.or_true])
  rw [length_allSlices, Nat.sub_zero, batchesOf, Nat.min_eq_right hk] at hl
  -- the last step carries the number of steps made, and its callbacks fired since it does not exhaust max_iter
  have hno := List.getLast?_map (f := (·.stepNo)) (l := run mi true stopAt 0 (allSlices n (batchSizeOf n bs) e))
  rw [run_stepNo, List.getLast?_range', hl, if_neg (Nat.pos_iff_ne_zero.mp hk0), Nat.add_sub_cancel_left] at hno
  obtain ⟨s, hR, hk'⟩ := Option.map_eq_some_iff.mp hno.symm
  rw [hR, Option.map_some, run_callbackFired mi true stopAt 0 _ s (List.mem_of_getLast? hR), hk',
    hitMax_eq_false mi k hmi]
  exact ⟨hl, rfl⟩

/- non-vacuity: all seven hypotheses at once — 6 steps planned, the callback says True at steps 4 AND 6, max_iter = 9 > 4:
   the run ends at step 4 (first True), whose callback was invoked -/
example : [(⟨0, 3, 1, true⟩ : Step), ⟨3, 6, 2, true⟩, ⟨6, 7, 3, true⟩, ⟨0, 3, 4, true⟩].length = 4 ∧
    ([(⟨0, 3, 1, true⟩ : Step), ⟨3, 6, 2, true⟩, ⟨6, 7, 3, true⟩, ⟨0, 3, 4, true⟩].getLast?).map
      (fun s => (s.stepNo, s.callbackFired)) = some (4, true) :=
  stops_at_first_true 7 4 (some 3) (some 2) (some 9) (fun k => k == 4 || k == 6) _ 2 (by decide +kernel) (by decide +kernel)
    (by decide) (by decide +kernel) (by decide) (by intro j h0 h4; have : j = 1 ∨ j = 2 ∨ j = 3 := (by omega); rcases this with rfl | rfl | rfl <;> decide)
    (by intro m h; cases h; decide)

/-! ### fit = the same slices through partial_fit -/

/-- The nested loops of `fit` (with both early returns) leave exactly the state obtained by folding the single-step
    entry point over the scheduled slices, and `n_iter_` is the number of scheduled steps. -/
theorem fit_eq_fold_partial_fit {σ : Type} (n : Nat) (bs ep mi : Option Nat) (cb : Bool) (stopAt : Nat → Bool)
    (trainStep : σ → Nat → Nat → σ) (s0 : σ) (r : Loop σ)
    (h : fitLoop n bs ep mi cb stopAt trainStep s0 = some r) :
    ∃ steps, schedule n bs ep mi cb stopAt = some steps ∧
      r.state = partialFitSeq trainStep s0 steps ∧ r.nIter = steps.length := by
  simp only [fitLoop] at h
  simp only [schedule]
  split at h
  · cases h
  · next e he =>
    cases h
    rw [foldl_epochBody]
    obtain ⟨h1, h2⟩ := foldl_batchBody_run mi cb stopAt trainStep (allSlices n (batchSizeOf n bs) e) s0 0
    exact ⟨_, rfl, h1, h2.trans (Nat.zero_add _)⟩

/- non-vacuity: the nested loops with a recording state, cut by max_iter = 5 in the second epoch -/
example : ∃ steps, schedule 7 (some 3) (some 2) (some 5) true (fun _ => false) = some steps ∧ steps.length = 5 := by
  obtain ⟨r, h⟩ := Option.isSome_iff_exists.mp (show (fitLoop 7 (some 3) (some 2) (some 5) true (fun _ => false)
    (fun (l : List (Nat × Nat)) lo hi => l ++ [(lo, hi)]) []).isSome = true by decide +kernel)
  obtain ⟨steps, h1, _, _⟩ := fit_eq_fold_partial_fit 7 (some 3) (some 2) (some 5) true (fun _ => false) _ [] r h
  refine ⟨steps, h1, ?_⟩
  have : schedule 7 (some 3) (some 2) (some 5) true (fun _ => false) =
    some [⟨0, 3, 1, true⟩, ⟨3, 6, 2, true⟩, ⟨6, 7, 3, true⟩, ⟨0, 3, 4, true⟩, ⟨3, 6, 5, false⟩] := by decide +kernel
  rw [this] at h1; cases h1; rfl

/-- and conversely `fit` is defined whenever the schedule is -/
theorem fitLoop_defined_iff {σ : Type} (n : Nat) (bs ep mi : Option Nat) (cb : Bool) (stopAt : Nat → Bool)
    (trainStep : σ → Nat → Nat → σ) (s0 : σ) :
    (fitLoop n bs ep mi cb stopAt trainStep s0).isSome = (schedule n bs ep mi cb stopAt).isSome := by
  simp only [fitLoop, schedule]
  split <;> simp

/-! ### predict stays in label space -/

/-- binary: the positive (larger) class exactly when the output is at least the threshold, else the other class -/
theorem predict_binary (c0 c1 : Int) (t o : Rat) :
    (t ≤ o → predictBinaryLabel [c0, c1] t o = some c1) ∧
    (o < t → predictBinaryLabel [c0, c1] t o = some c0) ∧
    (∃ c ∈ [c0, c1], predictBinaryLabel [c0, c1] t o = some c) := by
  unfold predictBinaryLabel predictBinary labelAt
  by_cases h : t ≤ o
  · rw [if_pos h]
    exact ⟨fun _ => rfl, fun h' => absurd h (not_le.mpr h'), c1, List.mem_cons_of_mem _ List.mem_cons_self, rfl⟩
  · rw [if_neg h]
    exact ⟨fun h' => absurd h' h, fun _ => rfl, c0, List.mem_cons_self, rfl⟩

/-- the clause says "the positive class EXACTLY WHEN the output is at least the threshold": for two DISTINCT
    classes (the sorted class list of a binary target) the implication of `predict_binary` is an equivalence. -/
theorem predict_binary_iff (c0 c1 : Int) (t o : Rat) (hne : c0 ≠ c1) :
    (predictBinaryLabel [c0, c1] t o = some c1 ↔ t ≤ o) ∧ (predictBinaryLabel [c0, c1] t o = some c0 ↔ o < t) := by
  obtain ⟨h1, h2, _⟩ := predict_binary c0 c1 t o
  exact ⟨⟨fun h => not_lt.mp fun hlt => hne (Option.some.inj ((h2 hlt).symm.trans h)), h1⟩,
    ⟨fun h => not_le.mp fun hle => hne (Option.some.inj (h.symm.trans (h1 hle))), h2⟩⟩

/- non-vacuity: classes 3 < 5, threshold 1/2; the tie o = 1/2 goes to the positive class, 127/256 does not -/
example : (predictBinaryLabel [3, 5] (1/2) (1/2) = some 5 ↔ (1/2 : Rat) ≤ 1/2) ∧
    (predictBinaryLabel [3, 5] (1/2) (1/2) = some 3 ↔ (1/2 : Rat) < 1/2) := predict_binary_iff 3 5 (1/2) (1/2) (by decide)
example : predictBinaryLabel [3, 5] (1/2) (127/256) = some 3 ∧ predictBinaryLabel [3, 5] (1/2) (1/2) = some 5 := by
  decide +kernel

/-- multiclass: the prediction is the class at the arg-max position, which is a member of the class list;
    the arg-max is the FIRST maximal output -/
theorem predict_multi (classes : List Int) (o : List Rat) (hne : o ≠ []) (hlen : o.length = classes.length) :
    ∃ (hi : argmaxFirst o < o.length) (c : Int), c ∈ classes ∧ predictMultiLabel classes o = some c ∧
      classes[argmaxFirst o]? = some c ∧
      (∀ v ∈ o, v ≤ o[argmaxFirst o]) ∧
      (∀ j (hj : j < argmaxFirst o), o[j]'(by omega) < o[argmaxFirst o]) := by
  have hi := argmaxFirst_lt o hne
  have hc : argmaxFirst o < classes.length := hlen ▸ hi
  refine ⟨hi, classes[argmaxFirst o], List.getElem_mem hc, List.getElem?_eq_getElem hc, List.getElem?_eq_getElem hc,
    ?_, ?_⟩
  · intro v hv; rw [getElem_argmaxFirst o hne]; exact le_maxOf o v hv
  · intro j hj; rw [getElem_argmaxFirst o hne]; exact argmaxFirst_first o j hj (lt_trans hj hi)


/- non-vacuity: four classes, an exact tie between positions 1 and 2: the FIRST one (class 5) wins -/
example : ∃ (_ : argmaxFirst [1/4, 1/2, 1/2, 0] < 4) (c : Int), c ∈ [3, 5, 7, 9] ∧
    predictMultiLabel [3, 5, 7, 9] [1/4, 1/2, 1/2, 0] = some c := by
  obtain ⟨hi, c, h1, h2, _⟩ := predict_multi [3, 5, 7, 9] [1/4, 1/2, 1/2, 0] (by decide) (by decide)
  exact ⟨hi, c, h1, h2⟩

/-! ### the tie to the source: the configuration LIFTED from `fit` / `partial_fit` / `predict`
(`Generated/AdvScheduleSrc.lean`, rewritten from /repo on every run by harness/lifters/adv_schedule.py).
`SchedL.fitSrc` interprets the lifted statement order, expressions, stop rule and exits; the theorems below are the
clauses of the property for THAT interpreter, so an edit of the source re-checks them, breaks them, or is refused. -/

section Lifted
open SchedL SchedCfg
/- Every `lifted_*` proof below is `first | rfl | …`.  On the generated text as it is now `rfl` closes each; the second
   branch is for a regenerated term that is equal to the expected one without being the same text (the lifter emits such
   a term as written), and is what the two linters below would otherwise report as never executed. -/
set_option linter.unusedTactic false
set_option linter.unreachableTactic false

/-- the rejection guard: `self.epochs == -1 and self.max_iter == -1` -/
theorem lifted_rejects : AdvScheduleSrc.rejects = reference.rejects := by
  first
  | rfl
  | (funext e m; simp only [AdvScheduleSrc.rejects, reference]; grind)

/-- `batch_size = X.shape[0] if self.batch_size == -1 else self.batch_size` -/
theorem lifted_batchSize : AdvScheduleSrc.batchSize = reference.batchSize := by
  first
  | rfl
  | (funext s n; simp only [AdvScheduleSrc.batchSize, reference]; grind)

/-- `batches = ceil(X.shape[0] / batch_size)` -/
theorem lifted_batches : AdvScheduleSrc.batches = reference.batches := by
  first
  | rfl
  | (funext n b; simp only [AdvScheduleSrc.batches, reference])

/-- `epochs = ceil(self.max_iter / batches) if self.epochs == -1 else self.epochs` -/
theorem lifted_epochs : AdvScheduleSrc.epochs = reference.epochs := by
  first
  | rfl
  | (funext e m b; simp only [AdvScheduleSrc.epochs, reference]; grind)

/-- `batch_slice = slice(batch * batch_size, min((batch + 1) * batch_size, X.shape[0]))` -/
theorem lifted_slice : AdvScheduleSrc.sliceLo = reference.sliceLo ∧ AdvScheduleSrc.sliceHi = reference.sliceHi := by
  constructor
  · first
    | rfl
    | (funext k b n; simp only [AdvScheduleSrc.sliceLo, reference]; grind)
  · first
    | rfl
    | (funext k b n; simp only [AdvScheduleSrc.sliceHi, reference]; grind)

/-- `self.n_iter_ = 0` before the loops, `self.n_iter_ += 1` after each train step, and the callbacks get
    `step=self.n_iter_` -/
theorem lifted_counter : AdvScheduleSrc.nIterInit = 0 ∧ AdvScheduleSrc.incIter = reference.incIter ∧
    AdvScheduleSrc.cbStep = reference.cbStep := by
  refine ⟨by first | rfl | (simp only [AdvScheduleSrc.nIterInit]), ?_, ?_⟩
  · first
    | rfl
    | (funext i; simp only [AdvScheduleSrc.incIter, reference]; omega)
  · first
    | rfl
    | (funext i; simp only [AdvScheduleSrc.cbStep, reference]; omega)

/-- `if self.max_iter != -1 and self.n_iter_ >= self.max_iter: return self` -/
theorem lifted_hitMax : AdvScheduleSrc.hitMax = reference.hitMax ∧ AdvScheduleSrc.exitMax = .returnSelf := by
  constructor
  · first
    | rfl
    | (funext m i; simp only [AdvScheduleSrc.hitMax, reference]; grind)
  · decide

/-- `stop = False; for cb in self.callbacks_: ...; stop = stop or result; if stop: return self`
    (ALL callbacks run; any True stops; both loops are left) -/
theorem lifted_stop_rule : AdvScheduleSrc.stopInit = false ∧ AdvScheduleSrc.stopAcc = .orAcc ∧
    AdvScheduleSrc.exitStop = .returnSelf := by decide

/-- order of the batch-loop body: train step, THEN the counter, THEN the max_iter test, THEN the callbacks -/
theorem lifted_body_order : AdvScheduleSrc.body = [.train, .incIter, .checkMax, .callbacks] := by decide

/-- the configuration lifted from the source is the documented reference configuration -/
theorem lifted_cfg : AdvScheduleSrc.cfg = SchedCfg.reference := by
  have h : AdvScheduleSrc.cfg = ⟨AdvScheduleSrc.rejects, AdvScheduleSrc.batchSize, AdvScheduleSrc.batches,
    AdvScheduleSrc.epochs, AdvScheduleSrc.nIterInit, AdvScheduleSrc.sliceLo, AdvScheduleSrc.sliceHi,
    AdvScheduleSrc.incIter, AdvScheduleSrc.hitMax, AdvScheduleSrc.exitMax, AdvScheduleSrc.stopInit,
    AdvScheduleSrc.stopAcc, AdvScheduleSrc.cbStep, AdvScheduleSrc.exitStop, AdvScheduleSrc.body⟩ := rfl
  rw [h, lifted_rejects, lifted_batchSize, lifted_batches, lifted_epochs, lifted_slice.1, lifted_slice.2,
    lifted_counter.1, lifted_counter.2.1, lifted_counter.2.2, lifted_hitMax.1, lifted_hitMax.2, lifted_stop_rule.1,
    lifted_stop_rule.2.1, lifted_stop_rule.2.2, lifted_body_order]
  rfl

/-- shuffle: once per epoch, before the batch loop, only under `if self.shuffle:` (so `shuffle=False` never permutes) -/
theorem lifted_shuffle_placement : AdvScheduleSrc.shuffleAt = .perEpoch ∧ AdvScheduleSrc.shuffleGuarded = true := by
  decide

/-- `partial_fit` performs exactly one `train_step`, on the validated (X, y, A) it was given -/
theorem lifted_partial_fit_single_step : AdvScheduleSrc.partialFitTrainSteps = 1 := by decide

/-- stop predicate of a callback list: some callback returns True at step `k` -/
def anyStop (cbs : List (Int → Bool)) : Nat → Bool := fun k => cbs.any (fun cb => cb (k : Int))

/-- MAIN TIE. `fit` as interpreted from the source (lifted order, expressions, stop rule), for `n ≥ 1` rows, any
    batch_size / epochs / max_iter (positive or unset) and ANY list of callbacks: it is rejected exactly when both epochs
    and max_iter are unset; otherwise the trained state is the left fold of the single-step entry point (`partial_fit`)
    over the slices of the flat schedule, `n_iter_` is the number of scheduled steps and the recorded callback
    invocations are exactly: after every step that does not exhaust max_iter, every callback, in order, with that
    step's number. -/
theorem src_fit_eq_fold_partial_fit {σ : Type} (n : Nat) (bs ep mi : Option Nat) (cbs : List (Int → Bool))
    (ts : σ → Nat → Nat → σ) (s0 : σ) (hn : 0 < n) (hbs : ∀ k, bs = some k → 0 < k) :
    match schedule n bs ep mi (!cbs.isEmpty) (anyStop cbs) with
    | none => fitSrc n (enc bs) (enc ep) (enc mi) cbs ts s0 = none
    | some steps => ∃ st, fitSrc n (enc bs) (enc ep) (enc mi) cbs ts s0 = some st ∧
        st.state = partialFitSeq ts s0 steps ∧ st.nIter = (steps.length : Int) ∧
        st.calls = callsOf cbs.length steps := by
  unfold fitSrc
  rw [lifted_cfg]
  exact fit_reference n bs ep mi cbs ts s0 hn hbs

/-- the MAIN TIE for an accepted configuration -/
theorem src_fit_of_schedule {σ : Type} (n : Nat) (bs ep mi : Option Nat) (cbs : List (Int → Bool))
    (ts : σ → Nat → Nat → σ) (s0 : σ) (hn : 0 < n) (hbs : ∀ k, bs = some k → 0 < k) {steps : List Step}
    (hs : schedule n bs ep mi (!cbs.isEmpty) (anyStop cbs) = some steps) :
    ∃ st, fitSrc n (enc bs) (enc ep) (enc mi) cbs ts s0 = some st ∧
      st.state = partialFitSeq ts s0 steps ∧ st.nIter = (steps.length : Int) ∧
      st.calls = callsOf cbs.length steps := by
  have h := src_fit_eq_fold_partial_fit n bs ep mi cbs ts s0 hn hbs
  rwa [hs] at h

/- non-vacuity of the MAIN TIE: n = 7, batch_size = 3, epochs = 2, max_iter = 5, TWO callbacks (the second says True at
   step 4), a recording state: both side conditions hold and the schedule branch taken is `some` with 4 steps -/
example : ∃ st, fitSrc 7 (enc (some 3)) (enc (some 2)) (enc (some 5)) [fun _ => false, fun k => k == 4]
      (fun (l : List (Nat × Nat)) lo hi => l ++ [(lo, hi)]) [] = some st ∧
    st.state = [(0, 3), (3, 6), (6, 7), (0, 3)] ∧ st.nIter = 4 ∧
    st.calls = [(0, 1), (1, 1), (0, 2), (1, 2), (0, 3), (1, 3), (0, 4), (1, 4)] := by
  obtain ⟨st, h1, h2, h3, h4⟩ := src_fit_of_schedule 7 (some 3) (some 2) (some 5) [fun _ => false, fun k => k == 4]
    (fun (l : List (Nat × Nat)) lo hi => l ++ [(lo, hi)]) [] (by decide) (by intro k h; cases h; decide)
    (steps := [⟨0, 3, 1, true⟩, ⟨3, 6, 2, true⟩, ⟨6, 7, 3, true⟩, ⟨0, 3, 4, true⟩]) (by decide +kernel)
  exact ⟨st, h1, h2.trans (by decide +kernel), h3, h4.trans (by decide +kernel)⟩

/-- both unset: ValueError, no step is made -/
theorem src_both_unset_rejected {σ : Type} (n : Nat) (bs : Option Nat) (cbs : List (Int → Bool))
    (ts : σ → Nat → Nat → σ) (s0 : σ) (hn : 0 < n) (hbs : ∀ k, bs = some k → 0 < k) :
    fitSrc n (enc bs) (-1) (-1) cbs ts s0 = none :=
  src_fit_eq_fold_partial_fit n bs none none cbs ts s0 hn hbs

example : fitSrc 7 (enc (some 3)) (-1) (-1) [fun _ => false] (fun (l : List (Nat × Nat)) lo hi => l ++ [(lo, hi)]) [] = none :=
  src_both_unset_rejected 7 (some 3) _ _ [] (by decide) (by intro k h; cases h; decide)

/-- `epochs * ceil(n / batch_size)`, or `max_iter` if that is smaller -/
def plannedSteps (n e : Nat) (bs mi : Option Nat) : Nat :=
  match mi with
  | none => e * ceilDiv n (batchSizeOf n bs)
  | some m => min (e * ceilDiv n (batchSizeOf n bs)) m

/-- number of steps of the lifted `fit` when no callback ever returns True: `epochs * ceil(n / batch_size)`, or
    `max_iter` if smaller -/
theorem src_steps_count {σ : Type} (n e : Nat) (bs mi : Option Nat) (cbs : List (Int → Bool))
    (ts : σ → Nat → Nat → σ) (s0 : σ) (hn : 0 < n) (hbs : ∀ k, bs = some k → 0 < k) (hmi : ∀ m, mi = some m → 0 < m)
    (hstop : ∀ k, anyStop cbs k = false) :
    ∃ st, fitSrc n (enc bs) (e : Int) (enc mi) cbs ts s0 = some st ∧ st.nIter = (plannedSteps n e bs mi : Int) := by
  obtain ⟨st, h1, _, h3, _⟩ := src_fit_of_schedule n bs (some e) mi cbs ts s0 hn hbs rfl
  refine ⟨st, h1, h3.trans (congrArg _ ?_)⟩
  cases mi <;> exact steps_count n e bs _ _ _ _ (fun k => by rw [hstop k, Bool.and_false]) hmi rfl

/- non-vacuity: all four hypotheses at once (one callback that never says True); planned = min(2·3, 5) = 5 -/
example : ∃ st, fitSrc 7 (enc (some 3)) ((2 : Nat) : Int) (enc (some 5)) [fun _ => false]
      (fun (l : List (Nat × Nat)) lo hi => l ++ [(lo, hi)]) [] = some st ∧
    st.nIter = ((plannedSteps 7 2 (some 3) (some 5) : Nat) : Int) :=
  src_steps_count 7 2 (some 3) (some 5) [fun _ => false] _ [] (by decide) (by intro k h; cases h; decide)
    (by intro m h; cases h; decide) (by intro k; simp [anyStop])
example : plannedSteps 7 2 (some 3) (some 5) = 5 ∧ plannedSteps 7 2 (some 3) none = 6 ∧ plannedSteps 7 2 none (some 5) = 2 := by
  decide +kernel

/-- `epochs = -1` for the lifted `fit`: exactly `max_iter` steps (the lifted `ceil(max_iter / batches)` epochs
    always suffice), when no callback ever returns True -/
theorem src_steps_count_epochs_auto {σ : Type} (n m : Nat) (bs : Option Nat) (cbs : List (Int → Bool))
    (ts : σ → Nat → Nat → σ) (s0 : σ) (hn : 0 < n) (hbs : ∀ k, bs = some k → 0 < k) (hm : 0 < m)
    (hstop : ∀ k, anyStop cbs k = false) :
    ∃ st, fitSrc n (enc bs) (-1) (m : Int) cbs ts s0 = some st ∧ st.nIter = (m : Int) := by
  obtain ⟨st, h1, _, h3, _⟩ := src_fit_of_schedule n bs none (some m) cbs ts s0 hn hbs rfl
  exact ⟨st, h1, h3.trans (congrArg _ (steps_count_epochs_auto n m bs _ _ _ hn (batchSizeOf_pos n bs hn hbs) hm
    (fun k => by rw [hstop k, Bool.and_false]) rfl))⟩

example : ∃ st, fitSrc 7 (enc (some 3)) (-1) ((5 : Nat) : Int) [fun _ => false]
    (fun (l : List (Nat × Nat)) lo hi => l ++ [(lo, hi)]) [] = some st ∧ st.nIter = ((5 : Nat) : Int) :=
  src_steps_count_epochs_auto 7 5 (some 3) [fun _ => false] _ [] (by decide) (by intro k h; cases h; decide) (by decide)
    (by intro k; simp [anyStop])

/-- the slices of one epoch, computed from the LIFTED slice / batches / batch-size expressions, are consecutive,
    non-empty and cover rows `0 .. n` exactly -/
theorem src_slices_consecutive_cover (n : Nat) (bs : Option Nat) (hn : 0 < n) (hbs : ∀ k, bs = some k → 0 < k) :
    Covers 0 (epochSlicesSrc AdvScheduleSrc.cfg n (enc bs)) n := by
  rw [lifted_cfg, epochSlicesSrc_ref n bs hn hbs]
  exact slices_consecutive_cover n _ hn (batchSizeOf_pos n bs hn hbs)

example : Covers 0 (epochSlicesSrc AdvScheduleSrc.cfg 7 (enc (some 3))) 7 :=
  src_slices_consecutive_cover 7 (some 3) (by decide) (by intro k h; cases h; decide)

/-- callbacks of the lifted `fit`: invoked after every completed step except one that exhausts max_iter, every
    callback of the list in order, with step numbers 1, 2, … -/
theorem src_callbacks_numbered {σ : Type} (n : Nat) (bs ep mi : Option Nat) (cbs : List (Int → Bool))
    (ts : σ → Nat → Nat → σ) (s0 : σ) (st : St σ) (hn : 0 < n) (hbs : ∀ k, bs = some k → 0 < k)
    (h : fitSrc n (enc bs) (enc ep) (enc mi) cbs ts s0 = some st) :
    ∃ steps, schedule n bs ep mi (!cbs.isEmpty) (anyStop cbs) = some steps ∧
      st.calls = callsOf cbs.length steps ∧
      steps.map (·.stepNo) = List.range' 1 steps.length ∧
      (∀ s ∈ steps, s.callbackFired = (!cbs.isEmpty && !hitMax mi s.stepNo)) := by
  have h0 := src_fit_eq_fold_partial_fit n bs ep mi cbs ts s0 hn hbs
  cases hs : schedule n bs ep mi (!cbs.isEmpty) (anyStop cbs) with
  | none => rw [hs, h] at h0; cases h0
  | some steps =>
    rw [hs] at h0
    obtain ⟨st', h1, _, _, h4⟩ := h0
    cases h.symm.trans h1
    exact ⟨steps, rfl, h4, callbacks_numbered n bs ep mi _ _ steps hs, callback_fired_iff n bs ep mi _ _ steps hs⟩

/- non-vacuity: the hypothesis `fitSrc … = some st` is met (two callbacks, max_iter = 5 ends the run) -/
example : ∃ steps, schedule 7 (some 3) (some 2) (some 5) (![fun _ => false, fun (_ : Int) => false].isEmpty)
    (anyStop [fun _ => false, fun _ => false]) = some steps ∧ steps.map (·.stepNo) = List.range' 1 steps.length := by
  obtain ⟨st, h⟩ := Option.isSome_iff_exists.mp (show (fitSrc 7 (enc (some 3)) (enc (some 2)) (enc (some 5))
    [fun _ => false, fun _ => false] (fun (l : List (Nat × Nat)) lo hi => l ++ [(lo, hi)]) []).isSome = true by decide +kernel)
  obtain ⟨steps, h1, _, h3, _⟩ := src_callbacks_numbered 7 (some 3) (some 2) (some 5) _ _ [] st (by decide)
    (by intro k h; cases h; decide) h
  exact ⟨steps, h1, h3⟩

/-- the lifted `fit` stops at the first step at which some callback returns True -/
theorem src_stops_at_first_true {σ : Type} (n k e : Nat) (bs ep mi : Option Nat) (cbs : List (Int → Bool))
    (ts : σ → Nat → Nat → σ) (s0 : σ) (hn : 0 < n) (hbs : ∀ k, bs = some k → 0 < k)
    (he : epochsOf ep mi (batchesOf n (batchSizeOf n bs)) = some e)
    (hk0 : 0 < k) (hk : k ≤ e * ceilDiv n (batchSizeOf n bs)) (hs : anyStop cbs k = true)
    (hbefore : ∀ j, 0 < j → j < k → anyStop cbs j = false) (hmi : ∀ m, mi = some m → k < m) :
    ∃ st, fitSrc n (enc bs) (enc ep) (enc mi) cbs ts s0 = some st ∧ st.nIter = (k : Int) := by
  have hne : (!cbs.isEmpty) = true := by
    cases cbs with
    | nil => cases hs
    | cons _ _ => rfl
  have hsch : schedule n bs ep mi true (anyStop cbs) =
      some (run mi true (anyStop cbs) 0 (allSlices n (batchSizeOf n bs) e)) := by simp only [schedule, he]
  obtain ⟨st, h1, _, h3, _⟩ := src_fit_of_schedule n bs ep mi cbs ts s0 hn hbs (by rw [hne]; exact hsch)
  exact ⟨st, h1, h3.trans (congrArg _ (stops_at_first_true n k bs ep mi _ _ e hsch he hk0 hk hs hbefore hmi).1)⟩

/- non-vacuity: all eight hypotheses at once — two callbacks, the SECOND says True at steps 4 and 6; 6 steps planned;
   max_iter = 9 -/
example : ∃ st, fitSrc 7 (enc (some 3)) (enc (some 2)) (enc (some 9)) [fun _ => false, fun k => k == 4 || k == 6]
    (fun (l : List (Nat × Nat)) lo hi => l ++ [(lo, hi)]) [] = some st ∧ st.nIter = ((4 : Nat) : Int) :=
  src_stops_at_first_true 7 4 2 (some 3) (some 2) (some 9) [fun _ => false, fun k => k == 4 || k == 6] _ []
    (by decide) (by intro k h; cases h; decide) (by decide +kernel) (by decide) (by decide +kernel) (by decide +kernel)
    (by intro j h0 h4; have : j = 1 ∨ j = 2 ∨ j = 3 := (by omega); rcases this with rfl | rfl | rfl <;> decide +kernel)
    (by intro m h; cases h; decide)

/-! #### one `fit` = the fold of the CONCRETE training step over the scheduled slices -/

/-- `fit` as interpreted from the source, run with the concrete `train_step` of the engine (`AdvStep.trainStep`: the
    projected-gradient rule for every predictor tensor, the plain gradient for every adversary tensor, any optimisers,
    autograd as the parameter `G`): the model after `fit` is the left fold of that step over the scheduled slices — the
    same model as after issuing these slices one by one through `partial_fit`. -/
theorem src_fit_is_fold_of_train_steps {τP τA : Type} (eng : Adversarial.Mat → Adversarial.Mat → Rat → Option Adversarial.Mat)
    (α : Rat) (optP : AdvStep.Opt τP) (optA : AdvStep.Opt τA)
    (G : List Adversarial.Mat → List Adversarial.Mat → Nat → Nat → AdvStep.Grads)
    (n : Nat) (bs ep mi : Option Nat) (cbs : List (Int → Bool)) (m0 : AdvStep.Model τP τA)
    (hn : 0 < n) (hbs : ∀ k, bs = some k → 0 < k) :
    match schedule n bs ep mi (!cbs.isEmpty) (anyStop cbs) with
    | none => fitSrc n (enc bs) (enc ep) (enc mi) cbs (AdvStep.trainStep eng α optP optA G) (some m0) = none
    | some steps => ∃ st, fitSrc n (enc bs) (enc ep) (enc mi) cbs (AdvStep.trainStep eng α optP optA G) (some m0) = some st ∧
        st.state = steps.foldl (fun m s => AdvStep.trainStep eng α optP optA G m s.lo s.hi) (some m0) ∧
        st.nIter = (steps.length : Int) := by
  have h := src_fit_eq_fold_partial_fit n bs ep mi cbs (AdvStep.trainStep eng α optP optA G) (some m0) hn hbs
  revert h
  cases schedule n bs ep mi (!cbs.isEmpty) (anyStop cbs) with
  | none => exact id
  | some steps => exact fun ⟨st, h1, h2, h3, _⟩ => ⟨st, h1, h2, h3⟩

/-- the function the driver op `advstep.fit` evaluates (C16 correspondence, kind=fit): `fitSrc` folded over the
    TABLE-driven step `AdvStep.trainStepRec` (one recorded autograd triple per executed step, plain SGD).  With at least as
    many records as scheduled steps the resulting model is the fold of `AdvStep.step` over the first `n_iter_` records, in
    order; the unused records remain.  (With fewer records the result is the undefined model:
    `AdvStep.partialFitSeq_trainStepRec_exhausted`.) -/
theorem src_fit_recorded_is_fold_of_steps (eng : Adversarial.Mat → Adversarial.Mat → Rat → Option Adversarial.Mat)
    (α lrP lrA : Rat) (n : Nat) (bs ep mi : Option Nat) (m0 : AdvStep.Model Unit Unit) (gs : List AdvStep.Grads)
    (steps : List Step) (hn : 0 < n) (hbs : ∀ k, bs = some k → 0 < k)
    (hs : schedule n bs ep mi false (anyStop []) = some steps) (hlen : steps.length ≤ gs.length) :
    ∃ st, fitSrc n (enc bs) (enc ep) (enc mi) [] (AdvStep.trainStepRec eng α lrP lrA) (some m0, gs) = some st ∧
      st.state = ((gs.take steps.length).foldl (AdvStep.stepOpt eng α lrP lrA) (some m0), gs.drop steps.length) ∧
      st.nIter = (steps.length : Int) := by
  obtain ⟨st, h1, h2, h3, _⟩ :=
    src_fit_of_schedule n bs ep mi [] (AdvStep.trainStepRec eng α lrP lrA) (some m0, gs) hn hbs hs
  exact ⟨st, h1, h2.trans (by rw [AdvStep.partialFitSeq_trainStepRec, if_pos hlen]), h3⟩

/- non-vacuity: n = 4, batch_size = 2, one epoch: two steps, THREE records (the third stays unused); 1x1 tensors,
   dLA/dW = 0 in the first step (zero branch), non-zero in the second -/
example : ∃ st, fitSrc 4 (enc (some 2)) (enc (some 1)) (enc none) [] (AdvStep.trainStepRec Adversarial.torchStep 1 (1/2) (1/4))
      (some ⟨⟨[[[1]]], [()]⟩, ⟨[[[2]]], [()]⟩⟩, [⟨[[[1]]], [[[0]]], [[[4]]]⟩, ⟨[[[1]]], [[[2]]], [[[0]]]⟩, ⟨[[[7]]], [[[7]]], [[[7]]]⟩]) = some st ∧
    st.nIter = ((2 : Nat) : Int) ∧ st.state.2.length = 1 := by
  obtain ⟨st, h1, h2, h3⟩ := src_fit_recorded_is_fold_of_steps Adversarial.torchStep 1 (1/2) (1/4) 4 (some 2) (some 1) none
    ⟨⟨[[[1]]], [()]⟩, ⟨[[[2]]], [()]⟩⟩ [⟨[[[1]]], [[[0]]], [[[4]]]⟩, ⟨[[[1]]], [[[2]]], [[[0]]]⟩, ⟨[[[7]]], [[[7]]], [[[7]]]⟩]
    [⟨0, 2, 1, false⟩, ⟨2, 4, 2, false⟩] (by decide) (by intro k h; cases h; decide) (by decide +kernel) (by decide)
  exact ⟨st, h1, h3, by rw [h2]; rfl⟩
example : (([(⟨[[[1]]], [[[0]]], [[[4]]]⟩ : AdvStep.Grads), ⟨[[[1]]], [[[2]]], [[[0]]]⟩].foldl
    (AdvStep.stepOpt Adversarial.torchStep 1 (1/2) (1/4)) (some ⟨⟨[[[1]]], [()]⟩, ⟨[[[2]]], [()]⟩⟩)).map
    (fun m => (m.pred.params, m.adv.params))) = some ([[[3/2]]], [[[1]]]) := by decide +kernel

/-! #### life cycle around the schedule: which call (re-)initialises the models (`Model/SchedLife.lean`) -/

section Lifecycle
open SchedLife

/-- the latch conditions as lifted from `fit`, `partial_fit`, `_validate_input`, `_raw_predict` -/
theorem lifted_lifecycle :
    (∀ h w, AdvScheduleSrc.fitReinit h w = (!h || !w)) ∧
    (∀ h, AdvScheduleSrc.partialFitFirstCall h = !h) ∧
    (∀ f c, AdvScheduleSrc.partialFitSetsClasses f c = (f && c)) ∧
    (∀ f r, AdvScheduleSrc.setupWhen f r = (!f || r)) ∧
    AdvScheduleSrc.rawPredictChecksFitted = true ∧
    AdvScheduleSrc.fitValidatesBeforeReject = true := by
  refine ⟨?_, ?_, ?_, ?_, by decide, by decide⟩
  · intro h w; cases h <;> cases w <;> decide
  · intro h; cases h <;> decide
  · intro f c; cases f <;> cases c <;> decide
  · intro f r; cases f <;> cases r <;> decide

/-- `predict` on an estimator that was never fitted raises NotFittedError -/
theorem predict_before_fit_rejected {σ : Type} : predict (fresh : Est σ) = .notFitted := by
  simp [predict, fresh, lifted_lifecycle]

/-- the FIRST `partial_fit` call builds the models (engine no. 1) and makes exactly one training step on them -/
theorem partial_fit_first_call_sets_up {σ : Type} (init : Nat → σ) (ts : σ → Nat → Nat → σ) (lo hi : Nat) (cg : Bool) :
    partialFit init ts fresh lo hi cg = (⟨true, true, some (ts (init 1) lo hi), 1, none⟩, .ok) := by
  cases cg <;> simp [partialFit, fresh, validateInput, lifted_lifecycle, lifted_partial_fit_single_step, trainTimes]

/-- every later `partial_fit` call continues on the SAME models: one more step, no new engine, latches unchanged -/
theorem partial_fit_later_calls_continue {σ : Type} (init : Nat → σ) (ts : σ → Nat → Nat → σ) (m : σ) (g : Nat)
    (k : Option Int) (lo hi : Nat) (cg : Bool) :
    partialFit init ts ⟨true, true, some m, g, k⟩ lo hi cg = (⟨true, true, some (ts m lo hi), g, k⟩, .ok) := by
  cases cg <;> simp [partialFit, validateInput, lifted_lifecycle, lifted_partial_fit_single_step, trainTimes]

/-- a list of slices issued through `partial_fit` on an already set-up estimator = the fold of the single step -/
theorem partialFitAll_continue {σ : Type} (init : Nat → σ) (ts : σ → Nat → Nat → σ) (steps : List Step) (m : σ) (g : Nat)
    (k : Option Int) :
    partialFitAll init ts ⟨true, true, some m, g, k⟩ steps = ⟨true, true, some (partialFitSeq ts m steps), g, k⟩ := by
  induction steps generalizing m with
  | nil => rfl
  | cons s rest ih =>
    simp only [partialFitAll, List.foldl_cons, partial_fit_later_calls_continue, partialFitSeq] at ih ⊢
    exact ih (ts m s.lo s.hi)

/-- `fit` with `warm_start = False` ALWAYS starts from newly initialised models (engine no. `gen + 1`), whatever
    happened to the estimator before; `n_iter_` counts the steps of THIS call -/
theorem fit_cold_start {σ : Type} (init : Nat → σ) (ts : σ → Nat → Nat → σ) (e : Est σ) (n : Nat) (bs ep mi : Option Nat)
    (cbs : List (Int → Bool)) (steps : List Step) (hn : 0 < n) (hbs : ∀ k, bs = some k → 0 < k)
    (hs : schedule n bs ep mi (!cbs.isEmpty) (anyStop cbs) = some steps) :
    SchedLife.fit init ts e n (enc bs) (enc ep) (enc mi) false cbs =
      (⟨true, true, some (partialFitSeq ts (init (e.gen + 1)) steps), e.gen + 1, some (steps.length : Int)⟩, .ok) := by
  obtain ⟨st, hst, hs1, hs2, _⟩ := src_fit_of_schedule n bs ep mi cbs ts (init (e.gen + 1)) hn hbs hs
  simp [SchedLife.fit, validateInput, lifted_lifecycle, hst, hs1, hs2]

/- non-vacuity: an estimator that already built 3 engines; n = 4, batch_size = 2, one epoch: all three hypotheses -/
example : SchedLife.fit (fun g => (g, ([] : List (Nat × Nat)))) (fun m lo hi => (m.1, m.2 ++ [(lo, hi)]))
      ⟨true, true, some (3, [(0, 9)]), 3, some 7⟩ 4 (enc (some 2)) (enc (some 1)) (enc none) false [] =
    (⟨true, true, some (partialFitSeq (fun m lo hi => (m.1, m.2 ++ [(lo, hi)])) (4, [])
      [⟨0, 2, 1, false⟩, ⟨2, 4, 2, false⟩]), 4, some 2⟩, .ok) :=
  fit_cold_start _ _ ⟨true, true, some (3, [(0, 9)]), 3, some 7⟩ 4 (some 2) (some 1) none [] _ (by decide)
    (by intro k h; cases h; decide) (by decide +kernel)

/-- `fit` with `warm_start = True` on an estimator that was fitted before CONTINUES on the current models (no new
    engine); `n_iter_` restarts and counts the steps of this call -/
theorem fit_warm_start_continues {σ : Type} (init : Nat → σ) (ts : σ → Nat → Nat → σ) (m : σ) (g : Nat) (k : Option Int)
    (n : Nat) (bs ep mi : Option Nat) (cbs : List (Int → Bool)) (steps : List Step) (hn : 0 < n)
    (hbs : ∀ k, bs = some k → 0 < k) (hs : schedule n bs ep mi (!cbs.isEmpty) (anyStop cbs) = some steps) :
    SchedLife.fit init ts ⟨true, true, some m, g, k⟩ n (enc bs) (enc ep) (enc mi) true cbs =
      (⟨true, true, some (partialFitSeq ts m steps), g, some (steps.length : Int)⟩, .ok) := by
  obtain ⟨st, hst, hs1, hs2, _⟩ := src_fit_of_schedule n bs ep mi cbs ts m hn hbs hs
  simp [SchedLife.fit, validateInput, lifted_lifecycle, hst, hs1, hs2]

example : SchedLife.fit (fun g => (g, ([] : List (Nat × Nat)))) (fun m lo hi => (m.1, m.2 ++ [(lo, hi)]))
      ⟨true, true, some (3, [(0, 9)]), 3, some 7⟩ 4 (enc (some 2)) (enc (some 1)) (enc none) true [] =
    (⟨true, true, some (partialFitSeq (fun m lo hi => (m.1, m.2 ++ [(lo, hi)])) (3, [(0, 9)])
      [⟨0, 2, 1, false⟩, ⟨2, 4, 2, false⟩]), 3, some 2⟩, .ok) :=
  fit_warm_start_continues _ _ (3, [(0, 9)]) 3 (some 7) 4 (some 2) (some 1) none [] _ (by decide)
    (by intro k h; cases h; decide) (by decide +kernel)

/-- a rejected configuration (epochs and max_iter unset) raises ValueError — but only AFTER `_validate_input` has set the
    estimator up (the guard stands behind it in the source), so the estimator then counts as fitted -/
theorem fit_rejected_after_setup {σ : Type} (init : Nat → σ) (ts : σ → Nat → Nat → σ) (n : Nat) (bs : Option Nat)
    (warm : Bool) (cbs : List (Int → Bool)) (hn : 0 < n) (hbs : ∀ k, bs = some k → 0 < k) :
    SchedLife.fit init ts fresh n (enc bs) (-1) (-1) warm cbs = (⟨true, true, some (init 1), 1, none⟩, .valueError) := by
  have hf := src_both_unset_rejected (σ := σ) n bs cbs ts (init 1) hn hbs
  cases warm <;> simp [SchedLife.fit, fresh, validateInput, lifted_lifecycle, hf]

example : SchedLife.fit (fun g => (g, ([] : List (Nat × Nat)))) (fun m lo hi => (m.1, m.2 ++ [(lo, hi)])) fresh 4
    (enc (some 2)) (-1) (-1) true [] = (⟨true, true, some (1, []), 1, none⟩, .valueError) :=
  fit_rejected_after_setup _ _ 4 (some 2) true [] (by decide) (by intro k h; cases h; decide)

/-- THE HISTORY CLAUSE, with the first-call set-up included: on two identically configured, never fitted estimators
    (same `init`), `fit` and the same slices issued one by one through `partial_fit` leave the same models, both on their
    first engine. -/
theorem fit_eq_partial_fit_twin {σ : Type} (init : Nat → σ) (ts : σ → Nat → Nat → σ) (n : Nat) (bs ep mi : Option Nat)
    (warm : Bool) (cbs : List (Int → Bool)) (steps : List Step) (hn : 0 < n) (hbs : ∀ k, bs = some k → 0 < k)
    (hs : schedule n bs ep mi (!cbs.isEmpty) (anyStop cbs) = some steps) (hne : steps ≠ []) :
    (SchedLife.fit init ts fresh n (enc bs) (enc ep) (enc mi) warm cbs).1.model = (partialFitAll init ts fresh steps).model ∧
    (SchedLife.fit init ts fresh n (enc bs) (enc ep) (enc mi) warm cbs).1.gen = 1 ∧ (partialFitAll init ts fresh steps).gen = 1 := by
  obtain ⟨st, hst, hs1, hs2, _⟩ := src_fit_of_schedule n bs ep mi cbs ts (init 1) hn hbs hs
  cases steps with
  | nil => exact absurd rfl hne
  | cons s rest =>
    have hp : partialFitAll init ts fresh (s :: rest) =
        ⟨true, true, some (partialFitSeq ts (ts (init 1) s.lo s.hi) rest), 1, none⟩ := by
      simp only [partialFitAll, List.foldl_cons, partial_fit_first_call_sets_up]
      exact partialFitAll_continue init ts rest _ 1 none
    rw [hp]
    cases warm <;> simp [SchedLife.fit, fresh, validateInput, lifted_lifecycle, hst, hs1, partialFitSeq]

/- non-vacuity: n = 5, batch_size = 2, 2 epochs, max_iter = 4: all four hypotheses, a non-empty schedule with a short
   last slice -/
example : (SchedLife.fit (fun g => (g, ([] : List (Nat × Nat)))) (fun m lo hi => (m.1, m.2 ++ [(lo, hi)])) fresh 5
      (enc (some 2)) (enc (some 2)) (enc (some 4)) false []).1.model =
    (partialFitAll (fun g => (g, ([] : List (Nat × Nat)))) (fun m lo hi => (m.1, m.2 ++ [(lo, hi)])) fresh
      [⟨0, 2, 1, false⟩, ⟨2, 4, 2, false⟩, ⟨4, 5, 3, false⟩, ⟨0, 2, 4, false⟩]).model :=
  (fit_eq_partial_fit_twin _ _ 5 (some 2) (some 2) (some 4) false [] _ (by decide) (by intro k h; cases h; decide)
    (by decide +kernel) (by simp)).1
example : (partialFitAll (fun g => (g, ([] : List (Nat × Nat)))) (fun m lo hi => (m.1, m.2 ++ [(lo, hi)])) fresh
    [⟨0, 2, 1, false⟩, ⟨2, 4, 2, false⟩, ⟨4, 5, 3, false⟩, ⟨0, 2, 4, false⟩]).model =
    some (1, [(0, 2), (2, 4), (4, 5), (0, 2)]) := by decide +kernel

end Lifecycle

/-! #### predict, from the lifted decision rules -/

/-- the lifted binary rule `(pred >= self.threshold_value)` is the model's -/
theorem src_predict_binary_eq (classes : List Int) (t o : Rat) :
    predictBinarySrc classes t o = predictBinaryLabel classes t o := by
  simp [predictBinarySrc, show AdvScheduleSrc.binaryRule = .threshold .ge from rfl, decideBinary, Cmp.eval,
    predictBinaryLabel, predictBinary]

/-- binary targets: `(pred >= self.threshold_value)`; default threshold 0.5 -/
theorem src_predict_binary (c0 c1 : Int) (t o : Rat) :
    (t ≤ o → predictBinarySrc [c0, c1] t o = some c1) ∧
    (o < t → predictBinarySrc [c0, c1] t o = some c0) ∧
    AdvScheduleSrc.thresholdDefault = 1 / 2 := by
  rw [src_predict_binary_eq]
  exact ⟨(predict_binary c0 c1 t o).1, (predict_binary c0 c1 t o).2.1, rfl⟩

/-- binary `predict` from the LIFTED rule with the LIFTED default threshold: the positive (larger) class
    EXACTLY WHEN the predictor's output is at least 1/2 -/
theorem src_predict_binary_iff (c0 c1 : Int) (o : Rat) (hne : c0 ≠ c1) :
    (predictBinarySrc [c0, c1] AdvScheduleSrc.thresholdDefault o = some c1 ↔ (1 / 2 : Rat) ≤ o) ∧
    (predictBinarySrc [c0, c1] AdvScheduleSrc.thresholdDefault o = some c0 ↔ o < (1 / 2 : Rat)) := by
  rw [src_predict_binary_eq]
  exact predict_binary_iff c0 c1 (1 / 2) o hne

example : (predictBinarySrc [3, 5] AdvScheduleSrc.thresholdDefault (1/2) = some 5 ↔ (1 / 2 : Rat) ≤ 1/2) ∧
    (predictBinarySrc [3, 5] AdvScheduleSrc.thresholdDefault (1/2) = some 3 ↔ (1/2 : Rat) < 1 / 2) :=
  src_predict_binary_iff 3 5 (1/2) (by decide)
example : predictBinarySrc [3, 5] AdvScheduleSrc.thresholdDefault (127/256) = some 3 := by decide +kernel

/-- multiclass targets: the class at the FIRST arg-max position (the lifted rule is numpy's `argmax(pred, axis=1)`) -/
theorem src_predict_multi (classes : List Int) (o : List Rat) :
    predictMultiSrc classes o = predictMultiLabel classes o := rfl

/-- multiclass `predict` from the lifted rule returns a MEMBER of the class list: the class at the first
    arg-max position of the outputs -/
theorem src_predict_multi_in_classes (classes : List Int) (o : List Rat) (hne : o ≠ []) (hlen : o.length = classes.length) :
    ∃ c ∈ classes, predictMultiSrc classes o = some c ∧ classes[argmaxFirst o]? = some c ∧
      (∀ v ∈ o, v ≤ maxOf o) ∧ o[argmaxFirst o]? = some (maxOf o) := by
  obtain ⟨hi, c, hc, hp, hcl, _, _⟩ := predict_multi classes o hne hlen
  refine ⟨c, hc, by rw [src_predict_multi]; exact hp, hcl, le_maxOf o, ?_⟩
  rw [List.getElem?_eq_getElem hi, getElem_argmaxFirst o hne]

example : ∃ c ∈ [3, 5, 7, 9], predictMultiSrc [3, 5, 7, 9] [1/4, 1/2, 1/2, 0] = some c ∧
    ([3, 5, 7, 9] : List Int)[argmaxFirst [1/4, 1/2, 1/2, 0]]? = some c := by
  obtain ⟨c, h1, h2, h3, _⟩ := src_predict_multi_in_classes [3, 5, 7, 9] [1/4, 1/2, 1/2, 0] (by decide) (by decide)
  exact ⟨c, h1, h2, h3⟩
example : predictMultiSrc [3, 5, 7, 9] [1/4, 1/2, 1/2, 0] = some 5 := by decide +kernel

/-- regression: the raw output; and `predict` = raw output → decision rule → inverse label transform, in this order -/
theorem src_predict_pipeline : AdvScheduleSrc.continuousRule = .identity ∧
    AdvScheduleSrc.predictStages = [.rawPredict, .predictorFunction, .inverseTransform] := by decide

/-! ### the guard of the callback block and the check of the callbacks' results (lifted) -/

/-- the lifted guard is `if self.callbacks_:`, a truthy non-bool result raises RuntimeError, `partial_fit` calls no callback -/
theorem lifted_cb_guard : AdvScheduleSrc.cbGuard = .truthy ∧
    AdvScheduleSrc.cbResultCheck = .truthyNonBool .runtimeError ∧ AdvScheduleSrc.partialFitCallbackCalls = 0 := by decide

/-- the truth values of what the callbacks return -/
def truthyOf (cbs : List (Int → CbRes)) : List (Int → Bool) := cbs.map (fun cb k => (cb k).truthy)

/-- every result of every callback passes the check -/
def AllPass (chk : ResultCheck) (cbs : List (Int → CbRes)) : Prop := ∀ cb ∈ cbs, ∀ k, checkRes chk (cb k) = none

/- Callbacks whose results all pass the check: the embedding `s ↦ ⟨s, none⟩` (nothing raised) commutes with every layer of
   the interpreter with check (`runCbsV`, `execEvV`, `bodyStepV`, `epochStepV`, `fitV`) against the one without. -/
section Pass
variable {σ : Type} (cfg : Cfg) {chk : ResultCheck} (mi : Int) {cbs : List (Int → CbRes)} (ts : σ → Nat → Nat → σ)
  (h : AllPass chk cbs)
include h

theorem runCbsV_pass (acc : Acc) (k : Int) (i : Nat) (stop : Bool) (calls : List (Nat × Int)) :
    runCbsV acc chk k cbs i stop calls =
      ((runCbs acc k (truthyOf cbs) i stop calls).1, (runCbs acc k (truthyOf cbs) i stop calls).2, none) := by
  induction cbs generalizing i stop calls with
  | nil => rfl
  | cons cb r ih =>
    rw [runCbsV, h cb List.mem_cons_self k]
    exact ih (fun c hc => h c (List.mem_cons_of_mem _ hc)) _ _ _

theorem execEvV_pass (lo hi : Nat) (s : St σ) (ev : Ev) :
    execEvV cfg .truthy chk mi cbs ts lo hi ⟨s, none⟩ ev = ⟨execEv cfg mi (truthyOf cbs) ts lo hi s ev, none⟩ := by
  cases ev with
  | train => rfl
  | incIter => rfl
  | checkMax => rfl
  | callbacks =>
    cases cbs with
    | nil => rfl
    | cons cb r => simp [execEvV, execEv, truthyOf, cbBlockV, runCbsV_pass h]

omit h in
/-- a guarded step commutes with the embedding `s ↦ ⟨s, none⟩` (nothing raised) if the step itself does -/
theorem halted_pass (a : St σ) {x : StV σ} {y : St σ} (hx : x = ⟨y, none⟩) :
    (if haltedV (⟨a, none⟩ : StV σ) then (⟨a, none⟩ : StV σ) else x) = ⟨if a.returned || a.broke then a else y, none⟩ :=
  hx ▸ (apply_ite (fun a => (⟨a, none⟩ : StV σ)) _ _ _).symm

theorem bodyStepV_pass (b n : Int) (s : St σ) (batch : Nat) :
    bodyStepV cfg .truthy chk mi cbs ts b n ⟨s, none⟩ batch = ⟨bodyStep cfg mi (truthyOf cbs) ts b n s batch, none⟩ :=
  -- the outer guard, then the fold over the body's statements, each under its own guard
  halted_pass s (List.foldl_hom (fun a => (⟨a, none⟩ : StV σ)) fun a ev =>
    halted_pass a (execEvV_pass cfg mi ts h _ _ a ev))

theorem epochStepV_pass (b n bt : Int) (s : St σ) (ep : Nat) :
    epochStepV cfg .truthy chk mi cbs ts b n bt ⟨s, none⟩ ep = ⟨epochStep cfg mi (truthyOf cbs) ts b n bt s ep, none⟩ := by
  unfold epochStepV epochStep
  simp only [List.foldl_hom (fun a => (⟨a, none⟩ : StV σ)) (bodyStepV_pass cfg mi ts h b n)]
  exact (apply_ite (fun a => (⟨a, none⟩ : StV σ)) _ _ _).symm

end Pass

/-- callbacks whose results all pass the lifted check (in particular: all return a bool or a falsy value) behave in the
    interpreter with guard and check exactly as their truth values in the interpreter of `src_fit_eq_fold_partial_fit`,
    and nothing is raised: every `src_*` theorem above is a theorem about `fitVSrc` for such callbacks -/
theorem fitV_pass {σ : Type} (cfg : Cfg) (chk : ResultCheck) (n : Nat) (bs ep mi : Int) (cbs : List (Int → CbRes))
    (ts : σ → Nat → Nat → σ) (s0 : σ) (h : AllPass chk cbs) :
    fitV cfg .truthy chk n bs ep mi cbs ts s0 =
      (SchedL.fit cfg n bs ep mi (truthyOf cbs) ts s0).map (fun s => (⟨s, none⟩ : StV σ)) := by
  unfold fitV SchedL.fit
  by_cases hr : cfg.rejects ep mi = true
  · simp [hr]
  · simp only [hr, Bool.false_eq_true, if_false, Option.map_some]
    congr 1
    exact List.foldl_hom (fun a => (⟨a, none⟩ : StV σ)) (epochStepV_pass cfg mi ts h _ _ _)

theorem src_fitV_passing_callbacks {σ : Type} (n : Nat) (bs ep mi : Int) (cbs : List (Int → CbRes))
    (ts : σ → Nat → Nat → σ) (s0 : σ) (h : AllPass AdvScheduleSrc.cbResultCheck cbs) :
    fitVSrc n bs ep mi cbs ts s0 = (fitSrc n bs ep mi (truthyOf cbs) ts s0).map (fun s => (⟨s, none⟩ : StV σ)) := by
  unfold fitVSrc fitSrc
  rw [lifted_cb_guard.1]
  exact fitV_pass _ _ n bs ep mi cbs ts s0 h

theorem callsOf_zero (steps : List Step) : callsOf 0 steps = [] := by
  simp [callsOf]

/-- no callbacks (`callbacks_ = None`): under the lifted guard the block is skipped — nothing is called, nothing is
    raised, and the run makes the full planned number of steps -/
theorem src_no_callbacks_no_calls {σ : Type} (n e : Nat) (bs mi : Option Nat) (ts : σ → Nat → Nat → σ) (s0 : σ)
    (hn : 0 < n) (hbs : ∀ k, bs = some k → 0 < k) (hmi : ∀ m, mi = some m → 0 < m) :
    ∃ r, fitVSrc n (enc bs) (e : Int) (enc mi) [] ts s0 = some r ∧ r.raised = none ∧ r.st.calls = [] ∧
      r.st.nIter = (plannedSteps n e bs mi : Int) := by
  rw [src_fitV_passing_callbacks n _ _ _ [] ts s0 (fun _ h => nomatch h)]
  obtain ⟨st, h1, hN⟩ := src_steps_count n e bs mi [] ts s0 hn hbs hmi (fun _ => rfl)
  obtain ⟨st', h1', _, _, h4⟩ := src_fit_of_schedule n bs (some e) mi [] ts s0 hn hbs rfl
  cases h1.symm.trans h1'
  exact ⟨⟨st, none⟩, congrArg (Option.map _) h1, rfl, h4.trans (callsOf_zero _), hN⟩

/-- a falsy result of any type (None, 0, "") is accepted and counts as False -/
theorem src_falsy_result_accepted (b : Bool) : checkRes AdvScheduleSrc.cbResultCheck ⟨false, b⟩ = none := by
  cases b <;> rfl

/-- a bool result is accepted -/
theorem src_bool_result_accepted (t : Bool) : checkRes AdvScheduleSrc.cbResultCheck ⟨t, true⟩ = none := by
  cases t <;> rfl

/-- a callback returning a TRUTHY value that is not a bool: the callback loop raises RuntimeError right after that call;
    the callbacks before it have been called (with the same step), the ones after it are not, and the stop flag is not
    acted upon -/
theorem src_nonbool_callback_rejected (k : Int) (pre post : List (Int → CbRes)) (cb : Int → CbRes) (i : Nat) (stop : Bool)
    (calls : List (Nat × Int)) (hpre : ∀ c ∈ pre, (c k).truthy = true → (c k).isBool = true)
    (ht : (cb k).truthy = true) (hb : (cb k).isBool = false) :
    runCbsV AdvScheduleSrc.stopAcc AdvScheduleSrc.cbResultCheck k (pre ++ cb :: post) i stop calls =
      (pre.foldl (fun s c => s || (c k).truthy) stop,
       calls ++ (List.range' i (pre.length + 1)).map (fun j => (j, k)), some .runtimeError) := by
  induction pre generalizing i stop calls with
  | nil =>
    have : checkRes AdvScheduleSrc.cbResultCheck (cb k) = some .runtimeError := by
      rw [lifted_cb_guard.2.1, checkRes, ht, hb]; rfl
    rw [List.nil_append, runCbsV, this]; rfl
  | cons c r ih =>
    have hc : checkRes AdvScheduleSrc.cbResultCheck (c k) = none := by
      rw [lifted_cb_guard.2.1, checkRes]
      cases h1 : (c k).truthy
      · rfl
      · rw [hpre c List.mem_cons_self h1]; rfl
    rw [List.cons_append, runCbsV, hc, ih (i + 1) _ _ fun c' hc' => hpre c' (List.mem_cons_of_mem _ hc'),
      List.foldl_cons, List.length_cons, List.range'_succ, List.map_cons, List.append_assoc]
    rfl

/-- once an exception has been raised nothing more happens: the remaining batches and epochs leave the state alone -/
theorem raised_is_final {σ : Type} (cfg : Cfg) (g : CbGuard) (chk : ResultCheck) (mi : Int) (cbs : List (Int → CbRes))
    (ts : σ → Nat → Nat → σ) (b n bt : Int) (s : StV σ) (hr : s.raised.isSome = true) (j : Nat) :
    bodyStepV cfg g chk mi cbs ts b n s j = s ∧ epochStepV cfg g chk mi cbs ts b n bt s j = s := by
  constructor
  · simp [bodyStepV, haltedV, hr]
  · simp [epochStepV, hr]

/-! ### the range checks of `__setup` on batch_size / epochs / max_iter (lifted) -/

/-- exactly the values that are neither positive nor the sentinel -1 are rejected (0, -2, -3, ..), with ValueError -/
theorem src_param_rejected_iff (v : Int) : AdvScheduleSrc.paramRejected v = true ↔ (v ≤ 0 ∧ v ≠ -1) := by
  simp only [AdvScheduleSrc.paramRejected, Bool.or_eq_true, Bool.and_eq_true, decide_eq_true_eq, bne_iff_ne, ne_eq]
  omega

theorem lifted_param_exc : AdvScheduleSrc.paramRejectedExc = .valueError := by decide

/-- the accepted values are exactly the ones the theorems above are stated for: `enc o` with `o` unset or positive
    (the side conditions `hbs`, `hmi` are the lifted domain, not an extra assumption) -/
theorem src_param_accepted_iff_enc (v : Int) :
    AdvScheduleSrc.paramRejected v = false ↔ ∃ o : Option Nat, v = enc o ∧ ∀ k, o = some k → 0 < k := by
  rw [← Bool.not_eq_true, src_param_rejected_iff]
  constructor
  · intro h
    by_cases hv : v = -1
    · exact ⟨none, hv, fun k hk => nomatch hk⟩
    · have hpos : 0 < v := by omega
      refine ⟨some v.toNat, (Int.toNat_of_nonneg hpos.le).symm, fun k hk => ?_⟩
      cases hk
      exact Int.lt_toNat.mpr hpos
  · rintro ⟨o, rfl, ho⟩ h
    cases o with
    | none => exact h.2 rfl
    | some k => exact absurd h.1 (not_le.mpr (Int.natCast_pos.mpr (ho k rfl)))

/-- a non-positive batch_size / epochs / max_iter other than -1: `fit` fails in the set-up with ValueError, before the
    both-unset rejection and before any training step; otherwise the set-up passes -/
theorem src_nonpositive_params_rejected {σ : Type} (n : Nat) (bs ep mi : Int) (cbs : List (Int → CbRes))
    (ts : σ → Nat → Nat → σ) (s0 : σ) :
    (((bs ≤ 0 ∧ bs ≠ -1) ∨ (ep ≤ 0 ∧ ep ≠ -1) ∨ (mi ≤ 0 ∧ mi ≠ -1)) →
      fitChecked n bs ep mi cbs ts s0 = .setupError .valueError) ∧
    (¬((bs ≤ 0 ∧ bs ≠ -1) ∨ (ep ≤ 0 ∧ ep ≠ -1) ∨ (mi ≤ 0 ∧ mi ≠ -1)) →
      fitChecked n bs ep mi cbs ts s0 = match fitVSrc n bs ep mi cbs ts s0 with | none => .rejected | some r => .done r) := by
  have h : ((bs ≤ 0 ∧ bs ≠ -1) ∨ (ep ≤ 0 ∧ ep ≠ -1) ∨ (mi ≤ 0 ∧ mi ≠ -1)) ↔
      (AdvScheduleSrc.paramRejected bs || AdvScheduleSrc.paramRejected ep || AdvScheduleSrc.paramRejected mi) = true := by
    simp only [Bool.or_eq_true, src_param_rejected_iff, or_assoc]
  rw [h]
  unfold fitChecked
  generalize (AdvScheduleSrc.paramRejected bs || AdvScheduleSrc.paramRejected ep || AdvScheduleSrc.paramRejected mi) = c
  cases c
  · exact ⟨fun hc => absurd hc Bool.false_ne_true, fun _ => if_neg Bool.false_ne_true⟩
  · exact ⟨fun _ => by rw [if_pos rfl, lifted_param_exc], fun hc => absurd rfl hc⟩

example : (fitChecked 7 0 2 (-1) [] (fun (l : List (Nat × Nat)) lo hi => l ++ [(lo, hi)]) [] matches .setupError .valueError) = true := by
  decide +kernel
example : (fitChecked 7 3 (-1) (-1) [] (fun (l : List (Nat × Nat)) lo hi => l ++ [(lo, hi)]) [] matches .rejected) = true := by
  decide +kernel

-- two callbacks, the first returns a truthy non-bool (e.g. `1`) at step 2: RuntimeError after 2 steps, the second
-- callback is not called at step 2
example : (fitVSrc 7 3 2 (-1) [fun k => if k == 2 then ⟨true, false⟩ else ⟨false, false⟩, fun _ => ⟨false, true⟩]
    (fun (l : List (Nat × Nat)) lo hi => l ++ [(lo, hi)]) []).map (fun r => (r.st.state, r.st.nIter, r.st.calls, r.raised)) =
    some ([(0, 3), (3, 6)], 2, [(0, 1), (1, 1), (0, 2)], some .runtimeError) := by decide +kernel
example : (fitVSrc 7 3 1 (-1) [] (fun (l : List (Nat × Nat)) lo hi => l ++ [(lo, hi)]) []).map
    (fun r => (r.st.state, r.st.nIter, r.st.calls, r.raised)) = some ([(0, 3), (3, 6), (6, 7)], 3, [], none) := by
  decide +kernel

end Lifted

/-! ### non-vacuity (n = 7, batch_size = 3, epochs = 2, max_iter = 5) -/
example : schedule 7 (some 3) (some 2) (some 5) true (fun _ => false) =
    some [⟨0, 3, 1, true⟩, ⟨3, 6, 2, true⟩, ⟨6, 7, 3, true⟩, ⟨0, 3, 4, true⟩, ⟨3, 6, 5, false⟩] := by decide +kernel
example : schedule 7 (some 3) (some 2) none true (fun k => k == 4) =
    some [⟨0, 3, 1, true⟩, ⟨3, 6, 2, true⟩, ⟨6, 7, 3, true⟩, ⟨0, 3, 4, true⟩] := by decide +kernel
example : schedule 7 none none (some 2) false (fun _ => false) = some [⟨0, 7, 1, false⟩, ⟨0, 7, 2, false⟩] := by
  decide +kernel
example : (fitLoop 7 (some 3) (some 2) (some 5) true (fun _ => false)
    (fun (l : List (Nat × Nat)) lo hi => l ++ [(lo, hi)]) []).map (fun r => (r.state, r.nIter)) =
    some ([(0, 3), (3, 6), (6, 7), (0, 3), (3, 6)], 5) := by decide +kernel
example : epochSlices 7 3 = [(0, 3), (3, 6), (6, 7)] := by decide +kernel
example : argmaxFirst [1/4, 1/2, 1/2, 0] = 1 := by decide +kernel
example : predictMultiLabel [3, 5, 7, 9] [1/4, 1/2, 1/2, 0] = some 5 := by decide +kernel
example : predictBinaryLabel [3, 5] (1/2) (1/2) = some 5 := by decide +kernel
-- the interpreter at the lifted configuration: two callbacks, the second says True at step 4 (both are called there)
example : (SchedL.fitSrc 7 3 2 (-1) [fun _ => false, fun k => k == 4]
    (fun (l : List (Nat × Nat)) lo hi => l ++ [(lo, hi)]) []).map (fun r => (r.state, r.nIter, r.calls)) =
    some ([(0, 3), (3, 6), (6, 7), (0, 3)], 4, [(0, 1), (1, 1), (0, 2), (1, 2), (0, 3), (1, 3), (0, 4), (1, 4)]) := by
  decide +kernel
-- max_iter = 5 ends the run without calling the callback after step 5
example : (SchedL.fitSrc 7 3 2 5 [fun _ => false]
    (fun (l : List (Nat × Nat)) lo hi => l ++ [(lo, hi)]) []).map (fun r => (r.state, r.nIter, r.calls)) =
    some ([(0, 3), (3, 6), (6, 7), (0, 3), (3, 6)], 5, [(0, 1), (0, 2), (0, 3), (0, 4)]) := by decide +kernel
example : SchedL.epochSlicesSrc AdvScheduleSrc.cfg 7 3 = [(0, 3), (3, 6), (6, 7)] := by decide +kernel
-- life cycle: predict first (NotFitted), first partial_fit builds engine 1, a warm fit continues on it (2 more steps,
-- n_iter_ = 2), a cold fit builds engine 2 and trains it on one slice
example : (SchedLife.runOps [.predict, .pfit 0 2 false, .fit 4 2 1 (-1) true, .fit 4 (-1) 1 (-1) false]).1 =
    ["notfitted:0:x:x", "ok:1:x:1/1", "ok:1:2:1/3", "ok:2:1:2/1"] := by decide +kernel
example : SchedL.predictBinarySrc [3, 5] AdvScheduleSrc.thresholdDefault (1/2) = some 5 := by decide +kernel

end C17
