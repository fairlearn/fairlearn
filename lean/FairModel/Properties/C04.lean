/-
C04 — ThresholdOptimizer equalises the constrained metric exactly on the training data.

Theorems about the model `Model/Threshold.lean` (which uses the METRIC_DICT / confusion tables generated from the
source).  All hold for every dataset (no size bound), any number of groups, every constraint metric, objective,
`flip`, grid size `N : Nat` (`N = 0` is the one-point grid) and also for a forced grid index (the rule at ANY grid index is parity-satisfying).
"Every group contains both labels" is `BothLabels groups`; a successful fit implies it.
-/
/-
CLAUSE → THEOREM TABLE (property text in properties.jsonl, id C04)

| clause of the property text                                              | theorem(s)                                                        |
|--------------------------------------------------------------------------|-------------------------------------------------------------------|
| "after fit ... whenever every group contains both labels" (fit succeeds)  | fit_simple_succeeds, fit_EO_succeeds; converse: parity_* conclude |
|                                                                          | BothLabels; fit_simple_none_iff                                   |
| a group lacks a label ⇒ ValueError (outside the quantifier)               | fit_simple_rejects_degenerate, fit_EO_rejects_degenerate          |
| "expected value under the fitted randomised rule ... computed on the      | expectedMetric = m.eval (expCM (ruleProb rule) rows): sums over   |
|  training rows of each group"                                            | the ROWS of the predict-time probability; tied to `_pmf_predict`  |
|                                                                          | by fit_predict_consistent_simple / _EO (Pmf.thrPositive)          |
| "... of the constrained metric (selection rate, FPR, FNR, TPR, TNR)       | parity_simple (+_pairwise), ONE theorem generic in `xm` with       |
|  is the same for all groups"                                             | IsConstraintMetric xm := xm ∈ LIFTED SIMPLE_CONSTRAINTS ∨ eoX;     |
|                                                                          | all_simple_constraints_covered; parity_simple_of_bothLabels       |
| "both FPR and TPR for equalized odds"                                     | parity_EO, parity_EO_of_bothLabels                                 |
| "up to floating-point rounding"                                           | exact equality in Rat; rounding = tolerance of the correspondence  |
|                                                                          | (measured, see harness/thr_common.py TOL); F18 = the one place      |
|                                                                          | where rounding changes the RULE (threshold_betweenness_suffices,   |
|                                                                          | midpoint_strictly_between, threshold_on_score_breaks_rule)         |
| "any scores (including ties)"                                             | no hypothesis on scores anywhere; sweep_point_sound               |
| "any number of groups"                                                    | groups : List (List Row) arbitrary (EO: groups ≠ [] for success)  |
| "either setting of flip"                                                  | flip : Bool universally quantified                                |
| "any grid size"                                                           | N : Nat arbitrary: parity_*_any_grid, fit_*_succeeds_any_grid,     |
|                                                                          | *_of_bothLabels (N = 0 = the grid {0} included; the DRIVER refuses |
|                                                                          | n = 0 and the generator never draws it: theorem only, no tie)      |
Supporting: metric_affine, expected_metric_of_mixture, hull_invariants, sortLex_sorted, interpIndex_bracket (no x/0:
`interpolateAt` returns none on a zero-width bracket and group_rule_exists shows it is never taken), group_rule_exists,
src_* (what the lifted text must say).
-/
import FairModel.Lemmas.ThresholdFit
import FairModel.Lemmas.ThresholdPredict

set_option linter.unusedVariables false

namespace C04
open Threshold ThresholdGen

/-! ### Tie to `_tradeoff_curve_utilities.py`: what the definitions LIFTED on every run (`Generated/TradeoffSrc.lean`)
have to say for the geometry below.  `Model/Threshold.lean` is defined over the lifted definitions and every lemma file
goes through these statements (`Lemmas/ThresholdSrc.lean`), so an edit of the source breaks the matching one. -/

/-- hull: `r1` is dropped iff `(r1.y - r0.y) * (r2.x - r0.x) <= (r2.y - r0.y) * (r1.x - r0.x)`, i.e. iff `r1` is on or
    below the chord `r0 → r2`; collinear and duplicate points ARE dropped (`<=`, not `<`) -/
theorem src_hull_test (r0 r1 r2 : Pt) : dropTest r0 r1 r2 = true ↔ cross r0 r2 r1 ≤ 0 := dropTest_iff r0 r1 r2

/-- hull loop: `while len(selected) >= 2`, `r1 = selected[-1]`, `r0 = selected[-2]`, `selected.pop()` drops `r1` -/
theorem src_hull_loop : TradeoffSrc.hullMinLen = 2 ∧ TradeoffSrc.hullR1Back = 1 ∧ TradeoffSrc.hullR0Back = 2 ∧
    TradeoffSrc.hullPopsLast = true := src_hull_loop_shape

/-- the points are sorted by `["x", "y"]`, ascending, before the hull is taken; scores by decreasing score -/
theorem src_sort_orders (a b : Pt) (y r : Row) :
    (lexLt a b = true ↔ (a.x < b.x ∨ (a.x = b.x ∧ a.y < b.y))) ∧ (scoreBefore y r = true ↔ y.score < r.score) :=
  ⟨src_lexLt a b, src_scoreBefore y r⟩

/-- threshold candidates: `+inf` for the initial point, the midpoint between consecutive distinct scores, `-inf` last -/
theorem src_thresholds (t s : Rat) :
    thrInitial = Thr.pinf ∧ thrSentinel = Thr.ninf ∧ TradeoffSrc.midThreshold t s = (t + s) / 2 :=
  ⟨src_thrInitial, src_thrSentinel, src_midThreshold t s⟩

/-- **betweenness is all the sweep needs of a stored threshold**: two thresholds strictly between the same pair of
    consecutive score levels `lo < hi` define the same `>` rule and the same `<` rule on every score that is not strictly
    between the two levels (in particular on every training score) — so `sweep_point_sound`, and with it `parity_*`, hold
    for ANY stored threshold `θ` with `lo < θ < hi`, not only for the exact midpoint -/
theorem threshold_betweenness_suffices (θ θ' lo hi s : Rat) (h : lo < θ ∧ θ < hi) (h' : lo < θ' ∧ θ' < hi)
    (hs : s ≤ lo ∨ hi ≤ s) :
    (Thr.fin θ).below s = (Thr.fin θ').below s ∧ (Thr.fin θ).above s = (Thr.fin θ').above s := by
  rw [Thr.below_fin, Thr.below_fin, Thr.above_fin, Thr.above_fin]
  rcases hs with hs | hs
  · rw [decide_eq_false (not_lt.mpr (hs.trans h.1.le)), decide_eq_false (not_lt.mpr (hs.trans h'.1.le)),
      decide_eq_true (hs.trans_lt h.1), decide_eq_true (hs.trans_lt h'.1)]
    exact ⟨rfl, rfl⟩
  · rw [decide_eq_true (h.2.trans_le hs), decide_eq_true (h'.2.trans_le hs),
      decide_eq_false (not_lt.mpr (h.2.le.trans hs)), decide_eq_false (not_lt.mpr (h'.2.le.trans hs))]
    exact ⟨rfl, rfl⟩

/-- in exact arithmetic the lifted midpoint IS strictly between two distinct scores -/
theorem midpoint_strictly_between (t s : Rat) (h : s < t) :
    s < TradeoffSrc.midThreshold t s ∧ TradeoffSrc.midThreshold t s < t :=
  midThreshold_between h

/-- ... and the hypothesis is sharp: a threshold ON the upper level (what binary64 rounding of the midpoint of two
    adjacent doubles produces, known finding F18) does not select that level with `>`, a threshold on the lower level
    does not select it with `<` -/
theorem threshold_on_score_breaks_rule (lo hi : Rat) :
    (Thr.fin hi).below hi = false ∧ (Thr.fin lo).above lo = false := by
  rw [Thr.below_fin, Thr.above_fin]
  exact ⟨decide_eq_false (lt_irrefl hi), decide_eq_false (lt_irrefl lo)⟩

/-- interpolation index: `searchsorted(side="right") - 1`, and one more step to the left when a grid value with index
    ≥ 1 equals the vertex found -/
theorem src_interp_index (xs : List Rat) (i : Nat) (g : Rat) :
    interpIndex xs i g =
      (if countLE xs g = 0 then none else
        if i ≥ 1 ∧ xs[countLE xs g - 1]? = some g then
          (if countLE xs g - 1 = 0 then none else some (countLE xs g - 1 - 1))
        else some (countLE xs g - 1)) := src_interpIndex xs i g

/-- interpolation weights: `p0 = (x_next - g) / (x_next - x_cur)` goes with the LEFT vertex' operation and y,
    `p1 = 1 - p0` with the right one -/
theorem src_interp_weights (xcur xnext ycur ynext g : Rat) :
    TradeoffSrc.interpP0 xcur xnext g = (xnext - g) / (xnext - xcur) ∧
    TradeoffSrc.interpP1 xcur xnext g = 1 - (xnext - g) / (xnext - xcur) ∧
    TradeoffSrc.interpY xcur xnext ycur ynext g =
      (xnext - g) / (xnext - xcur) * ycur + (1 - (xnext - g) / (xnext - xcur)) * ynext ∧
    TradeoffSrc.op0FromNext = false ∧ TradeoffSrc.op1FromNext = true :=
  ⟨src_interpP0 xcur xnext g, src_interpP1 xcur xnext g, src_interpY xcur xnext ycur ynext g, src_interpOps.1,
   src_interpOps.2⟩

/-- fit glue (`Generated/ThresholdFitSrc.lean`): the grid is `np.linspace(0, 1, N + 1)`, the overall curve is the
    `len(group) / n`-weighted sum of the groups' interpolated objectives accumulated from 0, `p_ignore` is 0 on the ROC
    diagonal and `(y - y_best) / (y - x)` elsewhere, the best index is `idxmax`, `n_negative = n - n_positive` -/
theorem src_fit_glue (N i : Nat) (groups : List (List Row)) (is : List Interp) (r : Interp) (yBest n npos : Rat) :
    gridVal N i = (i : Rat) / (N : Rat) ∧
    objSimple groups is =
      (List.zipWith (fun (g : List Row) (r : Interp) => ((g.length : Rat) / (totalRows groups : Rat)) * r.y) groups is).sum ∧
    pIgnore r yBest = (if r.y = r.x then 0 else (r.y - yBest) / (r.y - r.x)) ∧
    ThresholdFitSrc.bestIsIdxmax = true ∧ ThresholdFitSrc.eoNNeg n npos = n - npos :=
  ⟨src_gridVal N i, src_objSimple groups is, src_pIgnore r yBest, (src_fit_misc n npos).1, (src_fit_misc n npos).2⟩

/-- predict path as the fit sees it (`Generated/ThresholderSrc.lean`): operator ">" is `score > threshold`, "<" is
    `score < threshold`, and `_pmf_predict` is `p_ignore * c + (1 - p_ignore) * (p0 * op0(s) + p1 * op1(s))` -/
theorem src_predict_path (r : Rule) (s t : Rat) :
    (ThresholderSrc.opGt s t = true ↔ t < s) ∧ (ThresholderSrc.opLt s t = true ↔ s < t) ∧
    ruleProb r s =
      (match r.ign with
       | none => r.p0 * ind (r.op0.apply s) + r.p1 * ind (r.op1.apply s)
       | some (pi, c) => pi * c + (1 - pi) * (r.p0 * ind (r.op0.apply s) + r.p1 * ind (r.op1.apply s))) :=
  ⟨Pmf.src_opGt s t, Pmf.src_opLt s t, src_ruleProb r s⟩

/-! ### The model COMPUTES WITH the lifted loop shape, extremum, reduction, guard and counts
Each `lifted_*` theorem says: the model function evaluated with the value the lifter read from the source equals the
closed form every theorem below is proved about.  An edit of that source text changes the generated value and breaks the
theorem named here (or is refused by the lifter). -/

/-- `_filter_points_to_get_convex_hull`, run with the LIFTED `while len(selected) >= 2` / `selected[-1]` / `selected[-2]` /
    `selected.pop()` and the lifted turn test, raises no `IndexError` and is Andrew's monotone chain `hullRev` (the function
    `hull_invariants` is proved about) -/
theorem lifted_hull_loop (pts : List Pt) :
    hullSrc pts = some (upperHull pts) ∧ upperHull pts = (hullRev pts).reverse := by
  rw [upperHull_eq]; exact ⟨hullSrc_eq pts, rfl⟩

/-- the `while` loop alone: from any stack, with `len + 1` fuel, the lifted loop returns what the structural recursion returns -/
theorem lifted_hull_while (r2 : Pt) (st : List Pt) : popWhileSrc r2 (st.length + 1) st = some (popWhile r2 st) :=
  popWhileSrc_eq r2 _ st (Nat.lt_succ_self _)

/-- `_get_counts` (lifted: `len(labels)`, `sum(labels)`, `n - n_positive`) gives the numbers of rows / positive / negative
    rows, and the lifted guard `n_positive == 0 or n_negative == 0` fires iff one of them is 0 -/
theorem lifted_counts_and_guard (flip : Bool) (xm ym : Metric) (rows : List Row) :
    srcCounts rows = ((rows.length : Rat), (nPos rows : Rat), (nNeg rows : Rat)) ∧
    (degenerate rows = true ↔ (nPos rows = 0 ∨ nNeg rows = 0)) ∧
    (tradeoffPoints flip xm ym rows = none ↔ (nPos rows = 0 ∨ nNeg rows = 0)) := by
  refine ⟨srcCounts_eq rows, src_degenerate rows, ?_⟩
  rw [tradeoffPoints_eq]
  by_cases h : nPos rows = 0 ∨ nNeg rows = 0 <;> simp [h]

/-- `idxmax` (lifted for both methods): the index chosen addresses a maximal entry and every EARLIER entry is strictly
    smaller — the first maximum -/
theorem lifted_best_index (l : List Rat) (hne : l ≠ []) :
    bestIndexSimple l = bestIndexEO l ∧
    ∃ m, l[bestIndexSimple l]? = some m ∧ (∀ v ∈ l, v ≤ m) ∧
      ∀ k w, k < bestIndexSimple l → l[k]? = some w → w < m := by
  rw [bestIndexSimple_eq, bestIndexEO_eq]
  exact ⟨rfl, argmaxFirst_spec l hne⟩

/-- `np.amin(y_values, axis=1)` (lifted): `_y_min` at a grid point is an attained lower bound of the groups' y values -/
theorem lifted_y_min (ys : List Rat) (m : Rat) (h : yReduce ys = some m) : m ∈ ys ∧ ∀ v ∈ ys, m ≤ v := by
  rw [yReduce_eq] at h; exact minList_spec ys m h

/-- `np.around(., 15)` is the identity on the exact model (ASSUMPTION, see `Threshold.aroundModel`);
    `prediction_constant` (lifted) is `x_best`; `n_negative` (lifted `n - n_positive`) is the number of negative rows -/
theorem lifted_eo_glue (groups : List (List Row)) (v x y : Rat) :
    aroundModel ThresholdFitSrc.aroundDecimals v = v ∧ ThresholdFitSrc.predictionConstant x y = x ∧
    eoNegatives groups = (totalNeg groups : Rat) :=
  ⟨aroundModel_eq _ v, src_predictionConstant x y, eoNegatives_eq groups⟩

/-- what the lifted definitions select, read off a successful fit: the simple fit sits at the first maximum of the exact
    objective over the grid (or the forced index), and every equalized-odds rule carries `prediction_constant = x_best` -/
theorem lifted_fit_closed_forms (flip : Bool) (xm ym obj : Metric) (N : Nat) (groups : List (List Row)) (force : Option Nat)
    (fit : Fit) (yBest : Rat) :
    (fitSimple flip xm ym N groups force = some fit →
      fit.iBest = force.getD (argmaxFirst (((curves ((hullsOf flip xm ym groups).getD []) N).getD []).map (objSimple groups)))) ∧
    (fitEO flip obj N groups force = some (fit, yBest) →
      ∀ r ∈ fit.rules, ∃ pi, r.ign = some (pi, gridVal N fit.iBest)) := by
  constructor
  · intro h
    obtain ⟨hulls, cs, hh, hc, _, _, _, hi⟩ := fitSimple_some h
    rw [hh, Option.getD_some, hc]; exact hi
  · intro h r hr
    obtain ⟨_, _, _, p⟩ := fitEO_some h
    rw [p.rules_eq] at hr
    obtain ⟨i, _, rfl⟩ := List.mem_map.mp hr
    exact ⟨_, rfl⟩

/-- (a) every METRIC_DICT entry is affine in the confusion counts for a fixed number of positives and negatives -/
theorem metric_affine (m : Metric) (a b : Rat) (A B : CM) (hab : a + b = 1)
    (hp : A.positives = B.positives) (hn : A.negatives = B.negatives) :
    m.eval (CM.mix a A b B) = a * m.eval A + b * m.eval B :=
  Threshold.metric_affine m a b A B hab hp hn

/-- ... hence the expected metric of a mixture of two randomised predictors is the mixture of their metrics -/
theorem expected_metric_of_mixture (m : Metric) (a b : Rat) (f g : Rat → Rat) (rows : List Row) (hab : a + b = 1) :
    m.eval (expCM (fun s => a * f s + b * g s) rows) = a * m.eval (expCM f rows) + b * m.eval (expCM g rows) :=
  eval_expCM_mix m a b f g rows hab

/-- (b) each tradeoff point's (x, y) is the metric pair of its own ThresholdOperation applied to the group's rows
    (ties included: the threshold never coincides with a score) -/
theorem sweep_point_sound (flip : Bool) (xm ym : Metric) (rows : List Row) (p : Pt)
    (hp : p ∈ rawPoints flip xm ym rows) :
    p.x = xm.eval (confusion p.op rows) ∧ p.y = ym.eval (confusion p.op rows) :=
  rawPoints_sound flip xm ym rows p hp

/-- (c) hull invariants of the monotone chain, for ANY lexicographically sorted input: the hull is a
    sub-collection of the points, keeps the first and the last sorted point, is lexicographically sorted, and its
    x is strictly increasing from the second vertex on -/
theorem hull_invariants (pts : List Pt) (hs : pts.Pairwise LexLe) :
    (∀ h ∈ upperHull pts, h ∈ pts) ∧
    (upperHull pts).head? = pts.head? ∧ (upperHull pts).getLast? = pts.getLast? ∧
    (upperHull pts).Pairwise LexLe ∧
    (∀ l1 r0 r1 r2 l2, upperHull pts = l1 ++ r0 :: r1 :: r2 :: l2 → r1.x < r2.x) := by
  have g := upperHull_good pts hs
  exact ⟨g.sub, g.head, g.last, g.sorted, g.strict⟩

/-- the sorted data frame really is sorted (stable insertion by (x, y)) and has the same points -/
theorem sortLex_sorted (pts : List Pt) : (sortLex pts).Pairwise LexLe ∧ ∀ q, q ∈ sortLex pts ↔ q ∈ pts :=
  ⟨pairwise_sortLex pts, fun q => mem_sortLex q pts⟩

/-- (d) the interpolation index addresses a bracket with `a ≤ g ≤ b` and `a < b` -/
theorem interpIndex_bracket (xs : List Rat) (i : Nat) (g : Rat)
    (h0 : i = 0 → g = 0) (hpos : 1 ≤ i → 0 < g) (hg1 : g ≤ 1)
    (hhead : ∃ v, xs.head? = some v ∧ v ≤ 0) (hlast : ∃ v, xs.getLast? = some v ∧ 1 ≤ v)
    (hstrict : ∀ k, 1 ≤ k → ∀ a b, xs[k]? = some a → xs[k + 1]? = some b → a < b) :
    ∃ k a b, interpIndex xs i g = some k ∧ xs[k]? = some a ∧ xs[k + 1]? = some b ∧ a ≤ g ∧ g ≤ b ∧ a < b :=
  Threshold.interpIndex_bracket xs i g h0 hpos hg1 hhead hlast hstrict

/-- for a group with both labels the curve of a constraint metric exists and every grid point gets a rule that
    is a proper mixture (p0, p1 ≥ 0, p0 + p1 = 1) of two consecutive hull vertices -/
theorem group_rule_exists (flip : Bool) (xm ym : Metric) (rows : List Row) (hx : IsConstraintMetric xm)
    (hp : nPos rows ≠ 0) (hn : nNeg rows ≠ 0) (N i : Nat) (hN : 1 ≤ N) (hi : i ≤ N) :
    ∃ H r, tradeoffCurve flip xm ym rows = some H ∧ interpolateAt H i (gridVal N i) = some r ∧
      0 ≤ r.p0 ∧ 0 ≤ r.p1 ∧ r.p0 + r.p1 = 1 ∧
      expectedMetric xm (simpleRule r) rows = gridVal N i ∧ expectedMetric ym (simpleRule r) rows = r.y := by
  obtain ⟨H, gc⟩ := groupCurve_exists flip xm ym rows hx hp hn
  obtain ⟨r, hr, hs⟩ := group_interpolate gc hi
  obtain ⟨e1, e2⟩ := expected_simple gc hs
  exact ⟨H, r, gc.eq, hr, hs.p0_nonneg, hs.p1_nonneg, hs.sum_one, e1, e2⟩

/-- the fit succeeds whenever every group has both labels — for ANY grid size, `N = 0` (the one-point grid `[0.]`) included -/
theorem fit_simple_succeeds_any_grid (flip : Bool) (xm ym : Metric) (N : Nat) (groups : List (List Row))
    (hx : IsConstraintMetric xm) (hb : BothLabels groups) :
    ∃ fit, fitSimple flip xm ym N groups none = some fit := by
  obtain ⟨hulls, hh⟩ := hullsOf_exists flip xm ym groups hx hb
  obtain ⟨cs, hc⟩ := curves_exists_any hx hh N
  have hlt := argmaxFirst_lt (cs.map (objSimple groups))
    (List.ne_nil_of_length_pos (by rw [List.length_map, (curves_some hc).1]; exact Nat.succ_pos N))
  rw [fitSimple_eq, hh]; simp only
  rw [hc]; simp only [Option.getD_none]
  rw [List.getElem?_eq_getElem hlt, List.getElem?_eq_getElem (by rwa [List.length_map] at hlt)]
  exact ⟨_, rfl⟩

/-- the fit succeeds whenever every group has both labels -/
theorem fit_simple_succeeds (flip : Bool) (xm ym : Metric) (N : Nat) (groups : List (List Row))
    (hN : 1 ≤ N) (hx : IsConstraintMetric xm) (hb : BothLabels groups) :
    ∃ fit, fitSimple flip xm ym N groups none = some fit :=
  fit_simple_succeeds_any_grid flip xm ym N groups hx hb

/-- (e) **parity_simple**: after a successful fit (argmax or any forced grid index) every group's rule is a
    proper mixture and its expected constrained metric on the group's own rows equals the common grid value
    `iBest / N` — exact equality in `Rat`; the expected objective metric is the interpolated y -/
theorem parity_simple_any_grid (flip : Bool) (xm ym : Metric) (N : Nat) (groups : List (List Row)) (force : Option Nat)
    (fit : Fit) (hx : IsConstraintMetric xm)
    (hfit : fitSimple flip xm ym N groups force = some fit) :
    BothLabels groups ∧ fit.iBest ≤ N ∧ fit.rules.length = groups.length ∧
    ∀ j (hj : j < groups.length) (hj' : j < fit.rules.length),
      expectedMetric xm fit.rules[j] groups[j] = gridVal N fit.iBest ∧
      (∀ s, 0 ≤ ruleProb fit.rules[j] s ∧ ruleProb fit.rules[j] s ≤ 1) := by
  obtain ⟨hbl, hiN, hrules, hrow⟩ := fitSimple_sound hx hfit
  refine ⟨hbl, hiN, by rw [hrules, List.length_map]; exact hrow.1, fun j hj hj' => ?_⟩
  have hjb : j < fit.interps.length := hrow.1 ▸ hj
  obtain ⟨H, gc, hs⟩ := hrow.2 j hj hjb
  rw [getElem_of_eq_map hrules j hj' hjb]
  exact ⟨(expected_simple gc hs).1, ruleProb_simple_range hs⟩

/-- the case `N ≥ 1` of `parity_simple_any_grid` -/
theorem parity_simple (flip : Bool) (xm ym : Metric) (N : Nat) (groups : List (List Row)) (force : Option Nat)
    (fit : Fit) (hN : 1 ≤ N) (hx : IsConstraintMetric xm)
    (hfit : fitSimple flip xm ym N groups force = some fit) :
    BothLabels groups ∧ fit.iBest ≤ N ∧ fit.rules.length = groups.length ∧
    ∀ j (hj : j < groups.length) (hj' : j < fit.rules.length),
      expectedMetric xm fit.rules[j] groups[j] = gridVal N fit.iBest ∧
      (∀ s, 0 ≤ ruleProb fit.rules[j] s ∧ ruleProb fit.rules[j] s ≤ 1) :=
  parity_simple_any_grid flip xm ym N groups force fit hx hfit

/-- pairwise form: any two groups have the same expected constrained metric -/
theorem parity_simple_pairwise (flip : Bool) (xm ym : Metric) (N : Nat) (groups : List (List Row))
    (force : Option Nat) (fit : Fit) (hN : 1 ≤ N) (hx : IsConstraintMetric xm)
    (hfit : fitSimple flip xm ym N groups force = some fit)
    (j k : Nat) (hj : j < groups.length) (hk : k < groups.length)
    (hj' : j < fit.rules.length) (hk' : k < fit.rules.length) :
    expectedMetric xm fit.rules[j] groups[j] = expectedMetric xm fit.rules[k] groups[k] := by
  obtain ⟨_, _, _, h⟩ := parity_simple flip xm ym N groups force fit hN hx hfit
  rw [(h j hj hj').1, (h k hk hk').1]

theorem eo_metric_is_constraint : IsConstraintMetric eoXMetric := Threshold.eo_metric_is_constraint

/-- the equalized-odds fit succeeds whenever every group has both labels and there is at least one group -/
theorem fit_EO_succeeds_any_grid (flip : Bool) (obj : Metric) (N : Nat) (groups : List (List Row))
    (hg : groups ≠ []) (hb : BothLabels groups) :
    ∃ fit, fitEO flip obj N groups none = some fit := by
  obtain ⟨hulls, hh⟩ := hullsOf_exists flip eoXMetric eoYMetric groups eo_metric_is_constraint hb
  obtain ⟨cs, hc⟩ := curves_exists_any eo_metric_is_constraint hh N
  have hclen := (curves_some hc).1
  -- every grid row has one entry per group, so its minimum exists
  obtain ⟨ymins, hy⟩ : ∃ ymins, allSome (cs.map (fun is => minList (is.map (·.y)))) = some ymins := by
    refine allSome_of_forall _ _ fun row hrow => minList_isSome _ fun h => hg ?_
    obtain ⟨i, hi, rfl⟩ := List.getElem_of_mem hrow
    have hrl := (curves_rowSound eo_metric_is_constraint hh hc i hi).1
    rw [← List.length_eq_zero_iff, ← hrl, ← List.length_map (f := (·.y)), h]; rfl
  have hylen : ymins.length = cs.length := (allSome_map_get hy).1
  have holen : ((List.range (N + 1)).zipWith (fun i y => objEO obj groups (gridVal N i) y) ymins).length = N + 1 := by
    rw [List.length_zipWith, List.length_range, hylen, hclen, Nat.min_self]
  have hlt := argmaxFirst_lt _ (List.ne_nil_of_length_pos (by rw [holen]; exact Nat.succ_pos N))
  rw [fitEO_eq, hh]; simp only
  rw [hc]; simp only
  rw [hy]; simp only [Option.getD_none]
  rw [List.getElem?_eq_getElem (hlt.trans_eq (holen.trans hclen.symm)), List.getElem?_eq_getElem hlt,
      List.getElem?_eq_getElem (hlt.trans_eq (holen.trans (hclen.symm.trans hylen.symm)))]
  exact ⟨_, rfl⟩

theorem fit_EO_succeeds (flip : Bool) (obj : Metric) (N : Nat) (groups : List (List Row))
    (hN : 1 ≤ N) (hg : groups ≠ []) (hb : BothLabels groups) :
    ∃ fit, fitEO flip obj N groups none = some fit :=
  fit_EO_succeeds_any_grid flip obj N groups hg hb

/-- (f) **parity_EO**: after a successful equalized-odds fit every group's rule (interpolation + p_ignore towards
    the constant `x_best`) has expected FPR exactly `x_best = iBest / N` and expected TPR exactly `y_best`, the
    pointwise minimum of the ROC hulls — on its own training rows, for every group; `p_ignore ∈ [0,1]` -/
theorem parity_EO_any_grid (flip : Bool) (obj : Metric) (N : Nat) (groups : List (List Row)) (force : Option Nat)
    (fit : Fit) (yBest : Rat)
    (hfit : fitEO flip obj N groups force = some (fit, yBest)) :
    BothLabels groups ∧ fit.iBest ≤ N ∧ fit.rules.length = groups.length ∧
    ∀ j (hj : j < groups.length) (hj' : j < fit.rules.length),
      expectedMetric eoXMetric fit.rules[j] groups[j] = gridVal N fit.iBest ∧
      expectedMetric eoYMetric fit.rules[j] groups[j] = yBest ∧
      ∃ pi c, fit.rules[j].ign = some (pi, c) ∧ 0 ≤ pi ∧ pi ≤ 1 ∧ c = gridVal N fit.iBest := by
  obtain ⟨hbl, hiN, hrules, hrow, hmin⟩ := fitEO_sound hfit
  obtain ⟨hymem, hyle⟩ := minList_spec _ _ hmin
  -- `yBest` is one group's interpolated TPR, and the ROC hull is on or above the diagonal
  have hyB : gridVal N fit.iBest ≤ yBest := by
    obtain ⟨r, hr, rfl⟩ := List.mem_map.mp hymem
    obtain ⟨j, hjb, rfl⟩ := List.getElem_of_mem hr
    obtain ⟨H, gc, hs⟩ := hrow.2 j (hrow.1 ▸ hjb) hjb
    exact roc_above_diagonal gc hs (gridVal_nonneg N fit.iBest) (gridVal_le_one hiN)
  refine ⟨hbl, hiN, by rw [hrules, List.length_map]; exact hrow.1, fun j hj hj' => ?_⟩
  have hjb : j < fit.interps.length := hrow.1 ▸ hj
  obtain ⟨H, gc, hs⟩ := hrow.2 j hj hjb
  rw [getElem_of_eq_map hrules j hj' hjb]
  obtain ⟨ex, ey, hp0, hp1⟩ :=
    eoRule_sound gc hs hyB (hyle _ (List.mem_map.mpr ⟨_, List.getElem_mem hjb, rfl⟩))
  exact ⟨ex, ey, _, _, rfl, hp0, hp1, rfl⟩

/-- the case `N ≥ 1` of `parity_EO_any_grid` -/
theorem parity_EO (flip : Bool) (obj : Metric) (N : Nat) (groups : List (List Row)) (force : Option Nat)
    (fit : Fit) (yBest : Rat) (hN : 1 ≤ N)
    (hfit : fitEO flip obj N groups force = some (fit, yBest)) :
    BothLabels groups ∧ fit.iBest ≤ N ∧ fit.rules.length = groups.length ∧
    ∀ j (hj : j < groups.length) (hj' : j < fit.rules.length),
      expectedMetric eoXMetric fit.rules[j] groups[j] = gridVal N fit.iBest ∧
      expectedMetric eoYMetric fit.rules[j] groups[j] = yBest ∧
      ∃ pi c, fit.rules[j].ign = some (pi, c) ∧ 0 ≤ pi ∧ pi ≤ 1 ∧ c = gridVal N fit.iBest :=
  parity_EO_any_grid flip obj N groups force fit yBest hfit

/-! ### The property as ONE statement, and the error branch

`parity_simple` / `parity_EO` take a successful fit as hypothesis; `fit_*_succeeds` derive it from "every group contains both
labels".  Composed: the ONLY hypotheses are `BothLabels groups` and — for the simple constraints — that the metric is one of the
LIFTED `SIMPLE_CONSTRAINTS` (all of them: `all_simple_constraints_covered`).  ANY grid size `N : Nat`, `N = 0` included
(`np.linspace(0, 1, 1) = [0.]`, accepted by fairlearn; `*_any_grid`).  No sortedness, no distinct scores, no lower bound on the number of groups
(equalized odds: at least one group, because `np.amin` of an empty frame raises). -/

/-- every entry of the lifted `SIMPLE_CONSTRAINTS` table (selection rate / demographic parity, FPR, FNR, TPR, TNR) is covered
    by `parity_simple`; equalized odds' x metric (FPR) too -/
theorem all_simple_constraints_covered :
    (∀ p ∈ simpleConstraints, IsConstraintMetric p.2) ∧ IsConstraintMetric eoXMetric ∧
    simpleConstraints.map (·.2) =
      [.selection_rate, .selection_rate, .false_positive_rate, .false_negative_rate, .true_positive_rate,
       .true_negative_rate] := by decide +kernel

/-- **C04, simple constraints, in one statement**: whenever every group contains both labels, the fit succeeds and the
    expected constrained metric of the fitted randomised rule, computed on each group's own training rows, is the same for
    all groups (any scores incl. ties, any number of groups, either `flip`, ANY grid size, any objective) -/
theorem parity_simple_of_bothLabels (flip : Bool) (xm ym : Metric) (N : Nat) (groups : List (List Row))
    (hx : IsConstraintMetric xm) (hb : BothLabels groups) :
    ∃ fit, fitSimple flip xm ym N groups none = some fit ∧ fit.rules.length = groups.length ∧
      ∀ j k (hj : j < groups.length) (hk : k < groups.length) (hj' : j < fit.rules.length) (hk' : k < fit.rules.length),
        expectedMetric xm fit.rules[j] groups[j] = expectedMetric xm fit.rules[k] groups[k] := by
  obtain ⟨fit, hfit⟩ := fit_simple_succeeds_any_grid flip xm ym N groups hx hb
  obtain ⟨_, _, hlen, h⟩ := parity_simple_any_grid flip xm ym N groups none fit hx hfit
  exact ⟨fit, hfit, hlen, fun j k hj hk hj' hk' => by rw [(h j hj hj').1, (h k hk hk').1]⟩

/-- **C04, equalized odds, in one statement**: both the expected FPR and the expected TPR coincide across groups -/
theorem parity_EO_of_bothLabels (flip : Bool) (obj : Metric) (N : Nat) (groups : List (List Row))
    (hg : groups ≠ []) (hb : BothLabels groups) :
    ∃ fit yBest, fitEO flip obj N groups none = some (fit, yBest) ∧ fit.rules.length = groups.length ∧
      ∀ j k (hj : j < groups.length) (hk : k < groups.length) (hj' : j < fit.rules.length) (hk' : k < fit.rules.length),
        expectedMetric eoXMetric fit.rules[j] groups[j] = expectedMetric eoXMetric fit.rules[k] groups[k] ∧
        expectedMetric eoYMetric fit.rules[j] groups[j] = expectedMetric eoYMetric fit.rules[k] groups[k] := by
  obtain ⟨⟨fit, yBest⟩, hfit⟩ := fit_EO_succeeds_any_grid flip obj N groups hg hb
  obtain ⟨_, _, hlen, h⟩ := parity_EO_any_grid flip obj N groups none fit yBest hfit
  refine ⟨fit, yBest, hfit, hlen, fun j k hj hk hj' hk' => ?_⟩
  rw [(h j hj hj').1, (h k hk hk').1, (h j hj hj').2.1, (h k hk hk').2.1]
  exact ⟨rfl, rfl⟩

/-- **error branch** (`ValueError: Degenerate labels`): if some group lacks a label the model fit returns `none` — for
    every metric pair, grid size, `flip`, forced index; no theorem above says anything about such data -/
theorem fit_simple_rejects_degenerate (flip : Bool) (xm ym : Metric) (N : Nat) (groups : List (List Row))
    (force : Option Nat) (g : List Row) (hg : g ∈ groups) (hdeg : nPos g = 0 ∨ nNeg g = 0) :
    fitSimple flip xm ym N groups force = none := by
  cases h : fitSimple flip xm ym N groups force with
  | none => rfl
  | some fit =>
    obtain ⟨_, _, p⟩ := fitSimple_some h
    exact absurd (hullsOf_bothLabels p.hulls_eq g hg) (not_and_or.mpr (hdeg.imp not_not.mpr not_not.mpr))

theorem fit_EO_rejects_degenerate (flip : Bool) (obj : Metric) (N : Nat) (groups : List (List Row))
    (force : Option Nat) (g : List Row) (hg : g ∈ groups) (hdeg : nPos g = 0 ∨ nNeg g = 0) :
    fitEO flip obj N groups force = none := by
  cases h : fitEO flip obj N groups force with
  | none => rfl
  | some fy =>
    obtain ⟨_, _, _, p⟩ := fitEO_some (fit := fy.1) (yBest := fy.2) h
    exact absurd (hullsOf_bothLabels p.hulls_eq g hg) (not_and_or.mpr (hdeg.imp not_not.mpr not_not.mpr))

/-- hence, for a constraint metric and ANY grid size: the fit is rejected IFF some group lacks a label -/
theorem fit_simple_none_iff (flip : Bool) (xm ym : Metric) (N : Nat) (groups : List (List Row))
    (hx : IsConstraintMetric xm) :
    fitSimple flip xm ym N groups none = none ↔ ¬ BothLabels groups := by
  constructor
  · intro h hb
    obtain ⟨fit, hfit⟩ := fit_simple_succeeds_any_grid flip xm ym N groups hx hb
    rw [h] at hfit; cases hfit
  · intro h
    cases hf : fitSimple flip xm ym N groups none with
    | none => rfl
    | some fit => exact absurd (parity_simple_any_grid flip xm ym N groups none fit hx hf).1 h

/-! ### Fit → predict: the parity theorems are about the pmf that `predict` really uses

`ThresholdPredict.dictOf names fit.rules` is the `interpolation_dict` the fit stores (one Bunch per sensitive-feature value),
`Pmf.thrPositive` is `InterpolatedThresholder._pmf_predict` (both over the expressions lifted from the source), and
`predictedMetric m dict name rows` the expected value of metric `m` when every row of `rows` is predicted 1 with the
probability `_pmf_predict` reports for it under sensitive-feature value `name`. -/

open ThresholdPredict in
/-- **fit_predict_consistent_simple**: computed from `_pmf_predict` of the fitted model on the training rows, every
    group's expected constrained metric is exactly `x_best = iBest / N` and its expected objective metric is the `y` of the
    group's interpolated curve at `x_best` -/
theorem fit_predict_consistent_simple (flip : Bool) (xm ym : Metric) (N : Nat) (groups : List (List Row))
    (force : Option Nat) (fit : Fit) (names : List String) (hN : 1 ≤ N) (hx : IsConstraintMetric xm)
    (hfit : fitSimple flip xm ym N groups force = some fit) (hnd : names.Nodup) (hlen : names.length = groups.length) :
    fit.interps.length = groups.length ∧
    ∀ j (hj : j < groups.length) (hn : j < names.length) (hi : j < fit.interps.length),
      predictedMetric xm (dictOf names fit.rules) names[j] groups[j] = gridVal N fit.iBest ∧
      predictedMetric ym (dictOf names fit.rules) names[j] groups[j] = fit.interps[j].y := by
  obtain ⟨_, _, hrules, hrow⟩ := fitSimple_sound hx hfit
  have hrl : names.length = fit.rules.length := by rw [hrules, List.length_map, hrow.1]; exact hlen
  refine ⟨hrow.1, fun j hj hn hji => ?_⟩
  obtain ⟨H, gc, hs⟩ := hrow.2 j hj hji
  rw [predictedMetric_eq xm names fit.rules hnd hrl j hn (hrl ▸ hn),
      predictedMetric_eq ym names fit.rules hnd hrl j hn (hrl ▸ hn), getElem_of_eq_map hrules j (hrl ▸ hn) hji]
  exact expected_simple gc hs

open ThresholdPredict in
/-- **fit_predict_consistent_EO**: computed from `_pmf_predict` of the fitted model (interpolation mixed with the
    constant `prediction_constant = x_best` with weight `p_ignore`) on the training rows, every group's expected false
    positive rate is exactly `x_best` and its expected true positive rate exactly `y_best` -/
theorem fit_predict_consistent_EO (flip : Bool) (obj : Metric) (N : Nat) (groups : List (List Row))
    (force : Option Nat) (fit : Fit) (yBest : Rat) (names : List String) (hN : 1 ≤ N)
    (hfit : fitEO flip obj N groups force = some (fit, yBest)) (hnd : names.Nodup)
    (hlen : names.length = groups.length) :
    ∀ j (hj : j < groups.length) (hn : j < names.length),
      predictedMetric eoXMetric (dictOf names fit.rules) names[j] groups[j] = gridVal N fit.iBest ∧
      predictedMetric eoYMetric (dictOf names fit.rules) names[j] groups[j] = yBest := by
  obtain ⟨_, _, hrl, hpar⟩ := parity_EO flip obj N groups force fit yBest hN hfit
  intro j hj hn
  rw [predictedMetric_eq eoXMetric names fit.rules hnd (by omega) j hn (by omega),
      predictedMetric_eq eoYMetric names fit.rules hnd (by omega) j hn (by omega)]
  exact ⟨(hpar j hj (by omega)).1, (hpar j hj (by omega)).2.1⟩

/-! ### Non-vacuity: a 3-group example with ties and a vertical first hull segment, evaluated by the kernel -/

def gA : List Row := [⟨1, true⟩, ⟨1, true⟩, ⟨1/2, false⟩, ⟨1/2, true⟩, ⟨0, false⟩]
def gB : List Row := [⟨1, true⟩, ⟨3/4, false⟩, ⟨1/2, true⟩, ⟨1/4, false⟩, ⟨1/4, false⟩, ⟨0, false⟩]
def gC : List Row := [⟨1, true⟩, ⟨1, true⟩, ⟨1, false⟩, ⟨0, false⟩, ⟨0, true⟩, ⟨0, false⟩]
def ex : List (List Row) := [gA, gB, gC]

example : BothLabels ex := by decide +kernel
example : IsConstraintMetric .false_positive_rate := by decide +kernel
-- ties: gA has two rows with score 1 and two with score 1/2, so 3 distinct levels give 4 sweep steps
example : (sweepSteps gA).length = 4 := by decide +kernel
-- a vertical first segment: the first two hull vertices share x = 0
example : ((tradeoffCurve false .false_positive_rate .true_positive_rate gA).map
    (fun h => h.map (fun p => (p.x, p.y)))) = some [(0, 0), (0, 2/3), (1/2, 1), (1, 1)] := by decide +kernel
-- simple constraints: interior grid point, all three groups at exactly 1/5 resp. 1/3
example : (fitSimple true .false_positive_rate .accuracy_score 5 ex none).map
    (fun f => (f.iBest, f.objective, List.zipWith (fun r g => expectedMetric .false_positive_rate r g) f.rules ex)) =
    some (1, 63/85, [1/5, 1/5, 1/5]) := by decide +kernel
example : (fitSimple false .selection_rate .balanced_accuracy_score 3 ex none).map
    (fun f => (f.iBest, List.zipWith (fun r g => expectedMetric .selection_rate r g) f.rules ex)) =
    some (1, [1/3, 1/3, 1/3]) := by decide +kernel
-- equalized odds: non-trivial p_ignore (4/7, 2/3, 0), all groups at FPR 1/4 and TPR 1/2
example : (fitEO false .accuracy_score 4 ex none).map (fun f => (f.1.iBest, f.2)) = some (1, 1/2) := by
  decide +kernel
example : (fitEO false .accuracy_score 4 ex none).map (fun f => f.1.rules.map (fun r => r.ign)) =
    some [some (4/7, 1/4), some (2/3, 1/4), some (0, 1/4)] := by decide +kernel
example : (fitEO false .accuracy_score 4 ex none).map (fun f =>
      List.zipWith (fun r g => (expectedMetric .false_positive_rate r g, expectedMetric .true_positive_rate r g))
        f.1.rules ex) = some [(1/4, 1/2), (1/4, 1/2), (1/4, 1/2)] := by decide +kernel

-- fit → predict: the same numbers computed from `_pmf_predict` of the stored interpolation_dict (keys "a", "b", "c")
example : (fitEO false .accuracy_score 4 ex none).map (fun f =>
      List.zipWith (fun n g =>
        (ThresholdPredict.predictedMetric .false_positive_rate (ThresholdPredict.dictOf ["a", "b", "c"] f.1.rules) n g,
         ThresholdPredict.predictedMetric .true_positive_rate (ThresholdPredict.dictOf ["a", "b", "c"] f.1.rules) n g))
        ["a", "b", "c"] ex) = some [(1/4, 1/2), (1/4, 1/2), (1/4, 1/2)] := by decide +kernel
-- unseen scores (7/8; 3/4 = exactly a fitted threshold) and an unseen group under the fitted equalized-odds model
example : (fitEO false .accuracy_score 4 ex none).map (fun f =>
      (ThresholdPredict.predictPmf ["a", "b", "c"] f.1 [("a", 7/8), ("a", 3/4), ("b", 5/8), ("zz", 1)]).map (·.2)) =
    some [4/7, 5/14, 1/2, 0] := by
  decide +kernel


-- the one-statement forms' hypotheses are met by `ex` (3 groups, ties, both labels) ...
example : IsConstraintMetric .false_positive_rate ∧ BothLabels ex ∧ ex ≠ [] ∧ ex.length = 3 := by decide +kernel
-- ... also for grid size 0 (grid {0}): every group sits at FPR 0; equalized odds pulls all groups down to the TPR 0 of the
-- group whose top score level is label-mixed (p_ignore = 1 for the other two)
example : (fitSimple true .false_positive_rate .accuracy_score 0 ex none).map
    (fun f => (f.iBest, List.zipWith (fun r g => expectedMetric .false_positive_rate r g) f.rules ex)) =
    some (0, [0, 0, 0]) := by decide +kernel
example : (fitEO false .accuracy_score 0 ex none).map (fun f =>
      List.zipWith (fun r g => (expectedMetric .false_positive_rate r g, expectedMetric .true_positive_rate r g))
        f.1.rules ex) = some [(0, 0), (0, 0), (0, 0)] := by decide +kernel
-- ... and the error branch: drop the only negative of a group and the fit is rejected, for simple constraints and EO
def exDeg : List (List Row) := [gA, [⟨1, true⟩, ⟨0, true⟩], gC]
example : nNeg [⟨1, true⟩, ⟨0, true⟩] = 0 ∧ [⟨1, true⟩, ⟨0, true⟩] ∈ exDeg := by decide +kernel
example : fitSimple true .false_positive_rate .accuracy_score 5 exDeg none = none := by decide +kernel
example : (fitEO false .accuracy_score 4 exDeg none).isNone = true := by decide +kernel

end C04
