/-
C09 — GridSearch trains a faithful best response per grid point and picks the argmin.
Property theorems only; helper lemmas live in `Lemmas/Grid.lean`, `Lemmas/GridMore.lean`, `Lemmas/GridOracle.lean`;
the model is `Model/Grid.lean` (defined over `Generated/GridSrc.lean`, lifted from the source on every run).
Composition theorems (same namespace): `Properties/C09X.lean` — that is the module the check builds.

CLAUSE → THEOREM TABLE (property text in properties.jsonl, id C09)
  (a) "GridSearch.fit produces exactly grid_size distinct non-negative multiplier vectors whose L1 norm is at most
       grid_limit"                                                                                        FULL, under
       the stated hypotheses: `grid_clause_from_any_start` (ONE statement, for the `while True` loop as the source
       runs it, started at ANY estimate `n0`: succeeds, `n_units ≥ 1`, exactly grid_size vectors, pairwise distinct,
       entries ≥ 0, L1 norm ≤ grid_limit — the bound is proved for the vector AFTER the pos/neg basis map, not only
       for the lattice point).  Hypotheses, each needed:
         * `2 ≤ grid_size`: for grid_size ∈ {0, 1} the source raises ZeroDivisionError (`float(grid_limit)/n_units`
           with n_units = 0) — `grid_size_le_one_raises` (replayed: corpus/C09/gen-grid-size-1-zero-division.json);
         * `1 ≤ trueDim` (a coordinate stays free): with true_dim = 0 (one basis column and force_L1_norm, i.e.
           BoundedGroupLoss on ONE group; or DemographicParity on one group: no column at all) the source raises
           ZeroDivisionError already in the estimate `1.0 / true_dim`, BEFORE the loop; the estimate is an INPUT of the
           model, so `Grid.grid` still answers there (`trueDim_zero_model_answers`): the single-clause theorems
           `grid_length`, `grid_nonneg`, `grid_l1_le_limit`, `grid_distinct` (which do not assume `1 ≤ trueDim`) describe
           the loop, not the estimate.  Outside the quantifier (2..4 groups);
         * `0 < grid_limit` (grid_limit = 0: grid_size copies of the zero vector);
         * `basisOK` (0 ≤ entries, column sums ≤ 1) for sign and L1 bound, `unitBasis` for distinctness: both are
           evaluated by the driver on the bases of EVERY fitted moment.  `unitBasis` holds for DP / ERP / BGL without control
           features (with control features all-zero basis columns occur) and for EO / TPR / FPR unless a non-last group lacks
           a label — finding F6, `grid_duplicates_without_unit_basis`.
       Pieces: grid_exists, grid_length, grid_mem, grid_nonneg, grid_l1_le_limit, grid_distinct; the lattice behind them:
       lattice_mem_iff (sound + complete), lattice_nodup, lattice_lex_sorted, truncation_keeps_least,
       lattice_size_grows, nUnits_least, lattice_length_le_cube; float start of the search: search_from_any_start,
       Grid.noOvershoot_le_least, estimate_harmless (no overshoot ⇒ the SAME grid as from the least radius),
       overshoot_grid_still_valid (any start: coarser, every clause still holds); force_L1_norm:
       forced_grid_l1_eq_limit; zero vector: zero_mem_lattice_iff, zero_point_gives_zero_lambda,
       zero_lambda_mem_grid_iff, forced_grid_excludes_zero; grid_offset: grid_offset_distinct (count + distinctness
       only: sign and L1 bound are FALSE for a shifted grid and not claimed), default_offset_identity (`grid_offset=None`
       changes nothing); estimate_clip_spec (`if n_units < 0: n_units = 0`: why the start `n0` is a natural number).
  (b) "trains one predictor per vector on the data relabelled and reweighted for that vector (so with an exact
       cost-sensitive learner each predictor minimises error + lambda.gamma over the hypothesis class)"
       FULL for the five parity moments: `C09.fit_trains_real_lagrangian_minimisers` (C09X.lean): in the loop `fitLoop`
       run with `Moments.signedWeights` and the ErrorRate weights, every trained predictor (DummyClassifier shortcut
       included) minimises the REAL `Oracle.lagr = error + λ·γ` of ITS OWN λ over the class; one grid point:
       `fit_predictor_minimises_real_lagrangian`.  "Exact learner" is the hypothesis `hex` (weighted 0/1 error on the
       relabelled data minimal over H); `xLearner_exact` shows a concrete learner meets it for every weight vector.
       Abstract forms: best_response (weighted error = Σ max(w,0) − Σ wᵢhᵢ; needs equal lengths — `weighted01`
       truncates like zip — and 0/1 labels), best_response_argmin_hard, fit_predictor_minimises_lagrangian_hard,
       fit_spec.  NOTE `best_response_argmin` / `fit_predictor_minimises_lagrangian` assume the affine form of `F` for
       EVERY list of naturals; the real error + λ·γ has it only on 0/1 labelings of the right length
       (`affine_everywhere_excludes_zero_one_error`), so those two cannot be instantiated with it — the `_hard`
       versions can, and are.
       Rows of combined weight exactly 0 get label 0 and weight 0 (`relabel`; label irrelevant: C07.zero_weight_label_
       irrelevant).  All labels equal ⇒ DummyClassifier: `trainAt`, covered by `trainAt_minimises`.  All weights 0 ⇒
       sklearn's DummyClassifier raises ValueError: finding F12, not modelled (the model trains the constant 0:
       `all_zero_weights_take_dummy_branch` locates the shape).
       BoundedGroupLoss (`is_classification_reduction = False`: `y_reduction = y`, weights not abs'ed) is NOT a branch
       of `fitLoop` (PARTIAL there: the check feeds the model the BGL weights signed by the label, so that `relabel`
       returns (y, w) — correspondence only); the clause itself is proved for that column of `GridSearch.fit` as modelled
       by C07 (`Oracle.callGridLoss`, over Generated/OracleSrc.lean): `C09.bgl_grid_point_minimises_lambda_gamma`
       (C09X.lean, from `C07.loss_grid_identity`): labels unchanged, weights `signed_weights(λ)`, a minimiser of the
       weighted loss over H minimises `λ·γ` over H.  The lifted `if is_classification_reduction` itself (`fitData`):
       src_isClassification, src_regression_keeps_data (original labels, signed weights), src_classification_fitData
       (= `relabel`), src_regression_emulation (why the check may replay the regression branch through `relabel`).
  (c) "records for each predictor the objective and constraint values that its predictions really have"
       FULL in the model: fit_spec (`out.objectives = out.preds.map objOf ∧ out.gammas = out.preds.map gamOf` with
       `out.preds` the trained labelings: the records are functions of the RECORDED predictor, position by position);
       with `gamOf` = `Moments.gamma`: fit_selected_gammaLe (C09X).  That `objective.gamma` / `constraints.gamma` are
       called on `current_estimator.predict` is the lifter's shape check + the oracle comparison `C09.records`.
  (d) "The selected model minimises (1-constraint_weight)*objective + constraint_weight*max(gamma) over the trained
       predictors"    FULL: tradeoff_spec, maxL_spec, argminFirst_spec (in range, minimal, FIRST index), select_spec,
       runningArgmin_eq, fit_spec (last conjunct), C09X.selected_minimises_tradeoff; any rational cw (the theorems need
       no range; the constructor rejects cw ∉ [0,1]: `src_ctor_constraint_weight`, over the lifted check of C20, gives
       both loss coefficients ≥ 0 with sum 1; `loss_objective_weight`: the attribute `objective_weight` is the weight
       the lifted `loss_fct` puts on the objective).  `select` = none exactly for an empty record list
       (source: `min([])` ValueError) or an empty gamma vector (source: NaN loss, best_idx_ = 0 — not modelled, cannot
       occur with ≥ 1 group): `select_eq_none_iff`.
  (e) "predict/predict_proba delegate to exactly that model"   FULL: predict_delegates (`predictWith` is generic in the
       method `run`: one theorem for `predict` and `predict_proba`; the lifter checks both methods read
       `self.predictors_[self.best_idx_]`).
  TIE TO THE SOURCE (Generated/GridSrc.lean): `srcLattice`/`accumulate`, `nUnits`, `searchFrom`, `grid`, `gridFrom`,
    `tradeoff`, `argminFirst`, `relabel`, `relabelReg`, `fitData`, `combineWeights`, `trainAt` are DEFINED over the lifted expressions;
    `source_lattice_eq`, `source_accumulate_eq`, `source_lattice_mem_iff` (+ the `_def` bridge lemmas of
    `Lemmas/Grid.lean`) show they are the closed forms the theorems talk about.
-/
import FairModel.Lemmas.GridOracle
import FairModel.Generated.ValidationTables

namespace C09
open Grid

/-- The integer grid is exactly the set of integer points with one entry per coordinate, non-negative
    where negatives are not allowed, and L1 norm `≤ n` (`= n` when the norm is forced). -/
theorem lattice_mem_iff (na : List Bool) (f : Bool) (n : Nat) (v : List Int) :
    v ∈ lattice na f n ↔ SignOK na v ∧ (if f && !na.isEmpty then l1 v = n else l1 v ≤ n) :=
  mem_lattice na f n v

theorem lattice_nodup (na : List Bool) (f : Bool) (n : Nat) : (lattice na f n).Nodup :=
  Grid.lattice_nodup na f n

/-- The lattice grows strictly with the radius (so the `while True` search terminates). -/
theorem lattice_size_grows (na : List Bool) (f : Bool) (n : Nat) (h : 1 ≤ trueDim na f) :
    (lattice na f n).length < (lattice na f (n + 1)).length :=
  lattice_length_lt h n

/-- The search returns the least radius whose lattice has at least `grid_size` points. -/
theorem nUnits_least (na : List Bool) (f : Bool) (gs : Nat) (h : 1 ≤ trueDim na f) :
    ∃ n, nUnits na f gs = some n ∧ n ≤ gs ∧ gs ≤ (lattice na f n).length ∧
      ∀ k < n, (lattice na f k).length < gs :=
  nUnits_spec h gs

/-- A lattice of radius `n` has at most `2^k (n+1)^true_dim` points: the float expression
    `(grid_size / 2^k)^(1/true_dim) - 1` the implementation starts from is never above `nUnits`. -/
theorem lattice_length_le_cube (na : List Bool) (f : Bool) (n : Nat) :
    (lattice na f n).length ≤ 2 ^ negCount na * (n + 1) ^ trueDim na f :=
  Grid.lattice_length_le_cube na f n

/-- With at least two grid points requested and a free coordinate the generator succeeds, uses the
    least sufficient radius `n ≥ 1` (radius 0 holds the origin alone) and returns exactly `grid_size` vectors. -/
theorem grid_exists (na : List Bool) (f : Bool) (gs : Nat) (limit : Rat)
    (rows : List (List Rat × List Rat)) (h : 1 ≤ trueDim na f) (hgs : 2 ≤ gs) :
    ∃ n g, grid na f gs limit rows = .ok (n, g) ∧ 1 ≤ n ∧ nUnits na f gs = some n ∧ g.length = gs := by
  obtain ⟨n, hn, _, hge, _⟩ := nUnits_spec h gs
  obtain ⟨k, rfl⟩ := Nat.exists_eq_succ_of_ne_zero (Nat.pos_iff_ne_zero.mp (one_le_radius_of_two_le_length hgs hge))
  exact ⟨k + 1, gridAt na f gs limit rows (k + 1), by rw [grid_def, hn]; rfl, Nat.succ_pos k, hn,
    (gridAt_length ..).trans (Nat.min_eq_left hge)⟩

theorem grid_length (na : List Bool) (f : Bool) (gs : Nat) (limit : Rat)
    (rows : List (List Rat × List Rat)) (n : Nat) (g : List (List Rat))
    (hg : grid na f gs limit rows = .ok (n, g)) :
    g.length = min gs (lattice na f n).length ∧ nUnits na f gs = some n ∧ 1 ≤ n := by
  obtain ⟨hk, h1, rfl⟩ := grid_ok hg
  exact ⟨gridAt_length .., hk, h1⟩

theorem grid_mem (na : List Bool) (f : Bool) (gs : Nat) (limit : Rat)
    (rows : List (List Rat × List Rat)) (n : Nat) (g : List (List Rat))
    (hg : grid na f gs limit rows = .ok (n, g)) (lam : List Rat) (hl : lam ∈ g) :
    1 ≤ n ∧ ∃ v ∈ lattice na f n, lam = lambdaOf rows (scaleCoefs limit n v) := by
  obtain ⟨-, h1, rfl⟩ := grid_ok hg
  exact ⟨h1, mem_gridAt hl⟩

/-- Non-negativity of every multiplier (bases with non-negative entries). -/
theorem grid_nonneg (na : List Bool) (f : Bool) (gs : Nat) (limit : Rat)
    (rows : List (List Rat × List Rat)) (n : Nat) (g : List (List Rat))
    (hb : basisOK na.length rows = true)
    (hg : grid na f gs limit rows = .ok (n, g)) : ∀ lam ∈ g, ∀ x ∈ lam, 0 ≤ x := by
  obtain ⟨-, -, rfl⟩ := grid_ok hg
  exact gridAt_nonneg na f gs limit rows n hb

theorem grid_l1_le_limit (na : List Bool) (f : Bool) (gs : Nat) (limit : Rat) (hlim : 0 ≤ limit)
    (rows : List (List Rat × List Rat)) (n : Nat) (g : List (List Rat))
    (hb : basisOK na.length rows = true)
    (hg : grid na f gs limit rows = .ok (n, g)) :
    ∀ lam ∈ g, (lam.map (fun x => |x|)).sum ≤ limit := by
  obtain ⟨-, h1, rfl⟩ := grid_ok hg
  exact gridAt_l1 na f gs limit hlim rows n h1 hb

/-- Distinctness: when every basis column is a distinct unit vector (`unitBasis`, evaluated by the
    driver on every generated case) the `grid_size` multiplier vectors are pairwise distinct. -/
theorem grid_distinct (na : List Bool) (f : Bool) (gs : Nat) (limit : Rat) (hlim : 0 < limit)
    (rows : List (List Rat × List Rat)) (n : Nat) (g : List (List Rat))
    (hu : unitBasis na rows = true)
    (hg : grid na f gs limit rows = .ok (n, g)) : g.Nodup := by
  obtain ⟨-, h1, rfl⟩ := grid_ok hg
  exact gridAt_nodup na f gs limit hlim rows n h1 hu

/-! F6 (pre-existing, KNOWN FINDING): the hypothesis of `grid_distinct` is not met by every data set.
    EqualizedOdds on data where group `a` (not the last-seen group) has no `label=1` row: basis column
    for `(label=1, a)` is all zero.  Model witness, 2 groups (a, b), rows of the index in order
    (+,l0,a) (+,l0,b) (+,l1,b) (-,l0,a) (-,l0,b) (-,l1,b); coordinates 0:(l0,a) 1:(l1,a). -/
def f6Rows : List (List Rat × List Rat) :=
  [([1, 0], [0, 0]), ([0, 0], [0, 0]), ([0, 0], [0, 0]),
   ([0, 0], [1, 0]), ([0, 0], [0, 0]), ([0, 0], [0, 0])]

theorem grid_duplicates_without_unit_basis :
    unitBasis [true, true] f6Rows = false ∧ basisOK 2 f6Rows = true ∧
    ∃ n g, grid [true, true] false 5 2 f6Rows = .ok (n, g) ∧ g.length = 5 ∧ ¬ g.Nodup := by
  refine ⟨by decide +kernel, by decide +kernel, 1, _, rfl, by decide +kernel, by decide +kernel⟩

/-- `losses.index(min(losses))`: the returned index is in range, attains the minimum, and is the
    FIRST index doing so. -/
theorem argminFirst_spec (l : List Rat) (i : Nat) (h : argminFirst l = some i) :
    ∃ hi : i < l.length, (∀ y ∈ l, l[i] ≤ y) ∧ ∀ (j : Nat) (hj : j < i), l[i] < l[j]'(by omega) := by
  cases l with
  | nil => cases h
  | cons x xs =>
    rw [argminFirst_cons] at h
    cases h
    have hle : ∀ y ∈ x :: xs, minL x xs ≤ y := List.forall_mem_cons.mpr ⟨minL_le_init x xs, minL_le_mem x xs⟩
    refine ⟨List.idxOf_lt_length_iff.mpr (minL_mem x xs), fun y hy => ?_, fun j hj => ?_⟩
    · rw [List.getElem_idxOf]; exact hle y hy
    · rw [List.getElem_idxOf]
      exact lt_of_le_of_ne (hle _ (List.getElem_mem _)) (ne_of_lt_idxOf _ _ j hj _).symm

theorem argminFirst_isSome (l : List Rat) (h : l ≠ []) : ∃ i, argminFirst l = some i := by
  cases l with
  | nil => exact absurd rfl h
  | cons x xs => exact ⟨_, rfl⟩

theorem maxL_spec : ∀ (x : Rat) (xs : List Rat), maxL x xs ∈ x :: xs ∧ ∀ y ∈ x :: xs, y ≤ maxL x xs
  | x, [] => ⟨List.mem_cons_self, fun y hy => (List.mem_singleton.mp hy).le⟩
  | x, z :: zs => by
    rw [maxL]
    split
    · next h =>
      obtain ⟨h1, h2⟩ := maxL_spec z zs
      exact ⟨List.mem_cons_of_mem _ h1,
        List.forall_mem_cons.mpr ⟨le_trans h.le (h2 z List.mem_cons_self), h2⟩⟩
    · next h =>
      obtain ⟨h1, h2⟩ := maxL_spec x zs
      refine ⟨?_, fun y hy => ?_⟩
      · rcases List.mem_cons.mp h1 with h1 | h1
        · rw [h1]; exact List.mem_cons_self
        · exact List.mem_cons_of_mem _ (List.mem_cons_of_mem _ h1)
      · rcases List.mem_cons.mp hy with rfl | hy
        · exact h2 _ List.mem_cons_self
        · rcases List.mem_cons.mp hy with rfl | hy
          · exact le_trans (not_lt.mp h) (h2 x List.mem_cons_self)
          · exact h2 y (List.mem_cons_of_mem _ hy)

theorem tradeoff_spec (cw obj g : Rat) (gs : List Rat) :
    ∃ m, tradeoff cw obj (g :: gs) = some ((1 - cw) * obj + cw * m) ∧ m ∈ g :: gs ∧ ∀ y ∈ g :: gs, y ≤ m :=
  ⟨maxL g gs, tradeoff_cons cw obj g gs, (maxL_spec g gs).1, (maxL_spec g gs).2⟩

/-- Best response, part 1: the weighted 0/1 error of a labeling `h` on the data relabelled
    (`1[w>0]`) and reweighted (`|w|`) by GridSearch equals `Σ max(w_i,0) − Σ w_i h_i`. -/
theorem best_response (w : List Rat) (h : List Nat) (hl : w.length = h.length)
    (hb : ∀ x ∈ h, x = 0 ∨ x = 1) :
    weighted01 (relabel w) h = (w.map posPart).sum - dot w (toRat h) := by
  induction w generalizing h with
  | nil => cases h with
    | nil => exact (sub_self 0).symm
    | cons _ _ => cases hl
  | cons x w ih => cases h with
    | nil => cases hl
    | cons a h =>
      rw [List.map_cons, List.sum_cons, toRat_cons, dot_cons, add_sub_add_comm,
        ← relabel_cost x (hb a List.mem_cons_self),
        ← ih h (Nat.succ.inj hl) fun z hz => hb z (List.mem_cons_of_mem _ hz)]
      rfl

/-- Best response, part 2: for ANY objective that has the form `F h = K − c · Σ w_i h_i` with `c > 0` on 0/1 labelings
    with one label per row (where the reduction identity of C07 provides it for `error + λ·γ`, with `c = 1/n`,
    `w` = signed weights), a labeling has smaller weighted 0/1 error on the relabelled data iff it has smaller `F`:
    both sides say `Σ w_i h'_i ≤ Σ w_i h_i`. -/
theorem best_response_argmin_hard (w : List Rat) (K c : Rat) (hc : 0 < c) (F : List Nat → Rat)
    (hF : ∀ h, w.length = h.length → (∀ x ∈ h, x = 0 ∨ x = 1) → F h = K - c * dot w (toRat h))
    (h h' : List Nat) (hl : w.length = h.length) (hl' : w.length = h'.length)
    (hb : ∀ x ∈ h, x = 0 ∨ x = 1) (hb' : ∀ x ∈ h', x = 0 ∨ x = 1) :
    weighted01 (relabel w) h ≤ weighted01 (relabel w) h' ↔ F h ≤ F h' := by
  rw [best_response w h hl hb, best_response w h' hl' hb', hF h hl hb, hF h' hl' hb',
    sub_le_sub_iff_left, sub_le_sub_iff_left, mul_le_mul_iff_right₀ hc]

/-- The same with the affine form of `F` assumed on EVERY list of naturals.  The real `error + λ·γ` has it only on 0/1
    labelings with one label per row (`affine_everywhere_excludes_zero_one_error`), so this statement cannot be
    instantiated with it: `best_response_argmin_hard` is the one that is used. -/
theorem best_response_argmin (w : List Rat) (K c : Rat) (hc : 0 < c) (F : List Nat → Rat)
    (hF : ∀ h, F h = K - c * dot w (toRat h))
    (h h' : List Nat) (hl : w.length = h.length) (hl' : w.length = h'.length)
    (hb : ∀ x ∈ h, x = 0 ∨ x = 1) (hb' : ∀ x ∈ h', x = 0 ∨ x = 1) :
    weighted01 (relabel w) h ≤ weighted01 (relabel w) h' ↔ F h ≤ F h' :=
  best_response_argmin_hard w K c hc F (fun h _ _ => hF h) h h' hl hl' hb hb'

/-- Why the guard matters: the plain 0/1 error of a one-row data set with label 1 (`F h = 0` iff `h = [1]`) is NOT
    of the form `K − c·Σ wᵢhᵢ` on all lists of naturals, so the unguarded hypothesis `hF` of `best_response_argmin` /
    `fit_predictor_minimises_lagrangian` cannot be met by it. -/
theorem affine_everywhere_excludes_zero_one_error :
    ¬ ∃ (K c : Rat) (w : List Rat), ∀ h : List Nat,
        (if h = [1] then (0 : Rat) else 1) = K - c * dot w (toRat h) := by
  rintro ⟨K, c, w, hF⟩
  have e : ∀ k : Nat, dot w (toRat [k]) = (k : Rat) * w.headD 0 := fun k => by
    cases w with
    | nil => rw [dot_nil_left, List.headD_nil, mul_zero]
    | cons a w => rw [toRat_cons, toRat_nil, dot_cons, dot_nil_right, add_zero, mul_comm]; rfl
  -- the labelings `[0]`, `[1]`, `[2]`: the values 1, 0, 1 are not affine in `k`
  have h0 := hF [0]; have h1 := hF [1]; have h2 := hF [2]
  rw [e, if_neg (by decide), Nat.cast_zero, zero_mul, mul_zero, sub_zero] at h0
  rw [e, if_pos rfl, Nat.cast_one, one_mul] at h1
  rw [e, if_neg (by decide), Nat.cast_ofNat, mul_left_comm] at h2
  linarith

/-! ### tie to the source -/

/-- The recursion of `_GridGenerator.accumulate_integer_grid`, run over the LIFTED expressions (base-case
    test, last-coordinate rule, `range(min_val, max_val + 1)`, `index + 1`, `max_val - abs(current_value)`),
    enumerates from coordinate `i` on exactly the closed-form lattice of the remaining coordinates. -/
theorem source_accumulate_eq (na : List Bool) (f : Bool) (fuel i m : Nat) (hi : i ≤ na.length)
    (hf : na.length - i + 1 ≤ fuel) :
    accumulate na.length na f fuel (i : Int) (m : Int) = lattice (na.drop i) f m :=
  accumulate_eq na f fuel i m hi hf

/-- `build_integer_grid(m)` as lifted from the source is the lattice all theorems above are about. -/
theorem source_lattice_eq (na : List Bool) (f : Bool) (m : Nat) : srcLattice na f m = lattice na f m :=
  srcLattice_eq na f m

/-- … hence the sound-and-complete description holds of the source-derived enumeration itself. -/
theorem source_lattice_mem_iff (na : List Bool) (f : Bool) (n : Nat) (v : List Int) :
    v ∈ srcLattice na f n ↔ SignOK na v ∧ (if f && !na.isEmpty then l1 v = n else l1 v ≤ n) := by
  rw [srcLattice_eq]; exact mem_lattice na f n v

/-! ### the float starting point of the `while True` search (the estimate is an INPUT `n0`) -/

/-- From ANY start `n0` the loop `if enough: break; n_units = n_units + 1` stops at
    `max n0 (least sufficient radius)`. -/
theorem search_from_any_start (na : List Bool) (f : Bool) (gs n0 : Nat) (h : 1 ≤ trueDim na f) :
    ∃ nl, nUnits na f gs = some nl ∧
      searchFrom na f gs (gs + 2) (n0 : Nat) = some ((max n0 nl : Nat) : Int) := by
  obtain ⟨nl, hn, _, hs⟩ := searchFrom_nUnits h gs n0
  exact ⟨nl, hn, hs⟩

/-- If the float estimate does not exceed the exact value of the lifted expression
    `⌊(grid_size / 2^k)^(1/true_dim) − 1⌋` (predicate `GridSrc.noOvershoot`, evaluated by the driver on the
    float estimate of every generated case), then it is at most the least sufficient radius
    (`Grid.noOvershoot_le_least`) and the generated grid is the SAME for every such start: float error in
    `** (1 / true_dim)` is harmless as long as it does not overshoot. -/
theorem estimate_harmless (na : List Bool) (f : Bool) (gs : Nat) (limit : Rat)
    (rows : List (List Rat × List Rat)) (n0 : Nat) (h : 1 ≤ trueDim na f)
    (hno : GridSrc.noOvershoot gs (negCount na) (trueDim na f) n0 = true) :
    gridFrom na f gs limit rows n0 = grid na f gs limit rows := by
  obtain ⟨nl, hn, hge, hs⟩ := searchFrom_nUnits h gs n0
  rw [gridFrom_of_search hs, Nat.max_eq_right (noOvershoot_le_least na f gs n0 nl h hno hge), grid_def, hn]
  cases nl <;> rfl

/-- On OVERSHOOT (any start `n0` whatsoever) the grid is built at radius `max n0 nl ≥ nl` — coarser — but
    still satisfies every clause: `grid_size` vectors, non-negative, L1 norm ≤ `grid_limit`, distinct. -/
theorem overshoot_grid_still_valid (na : List Bool) (f : Bool) (gs : Nat) (limit : Rat) (hlim : 0 < limit)
    (rows : List (List Rat × List Rat)) (n0 n : Nat) (g : List (List Rat)) (h : 1 ≤ trueDim na f)
    (hb : basisOK na.length rows = true)
    (hg : gridFrom na f gs limit rows n0 = .ok (n, g)) :
    (∃ nl, nUnits na f gs = some nl ∧ n = max n0 nl) ∧ 1 ≤ n ∧ g.length = gs ∧
    (∀ lam ∈ g, ∀ x ∈ lam, 0 ≤ x) ∧ (∀ lam ∈ g, (lam.map (fun x => |x|)).sum ≤ limit) ∧
    (unitBasis na rows = true → g.Nodup) := by
  obtain ⟨nl, hn, hge, hs⟩ := searchFrom_nUnits h gs n0
  rw [gridFrom_of_search hs] at hg
  split at hg
  · cases hg
  · next hpos =>
    cases hg
    have hn1 : 1 ≤ max n0 nl := Nat.pos_of_ne_zero hpos
    exact ⟨⟨nl, hn, rfl⟩, hn1,
      (gridAt_length ..).trans (Nat.min_eq_left (le_trans hge (lattice_length_mono h (Nat.le_max_right ..)))),
      gridAt_nonneg _ f gs limit rows _ hb, gridAt_l1 _ f gs limit hlim.le rows _ hn1 hb,
      gridAt_nodup _ f gs limit hlim rows _ hn1⟩

/-! ### order of the enumeration -/

/-- The integer grid is enumerated in strictly increasing LEXICOGRAPHIC order. -/
theorem lattice_lex_sorted (na : List Bool) (f : Bool) (n : Nat) :
    (lattice na f n).Pairwise (List.Lex (· < ·)) :=
  lattice_sorted na f n

/-- `accumulator[:grid_size]` keeps a prefix: the kept points are the `grid_size` lexicographically smallest
    ones (each kept point precedes each dropped point). -/
theorem truncation_keeps_least (na : List Bool) (f : Bool) (n gs : Nat) :
    ∀ v ∈ (lattice na f n).take gs, ∀ w ∈ (lattice na f n).drop gs, List.Lex (· < ·) v w :=
  (List.pairwise_append.mp (by rw [List.take_append_drop]; exact lattice_sorted na f n)).2.2

/-! ### the zero vector -/

/-- The all-zero point belongs to the integer grid iff the L1 norm is not forced (or the radius is 0). -/
theorem zero_mem_lattice_iff (na : List Bool) (f : Bool) (n : Nat) :
    List.replicate na.length (0 : Int) ∈ lattice na f n ↔ (f = true → na ≠ [] → n = 0) := by
  rw [mem_lattice, l1_zero, and_iff_right (signOK_zero na)]
  cases f <;> cases na <;> simp [eq_comm]

/-- The zero point is mapped to the zero multiplier vector (whatever the bases). -/
theorem zero_point_gives_zero_lambda (rows : List (List Rat × List Rat)) (limit : Rat) (n d : Nat) :
    lambdaOf rows (scaleCoefs limit n (List.replicate d 0)) = List.replicate rows.length 0 := by
  rw [lambdaOf, scaleCoefs, List.map_replicate, Int.cast_zero, zero_mul, List.map_replicate, List.map_replicate,
    posPart_of_nonneg le_rfl, negPart_of_nonneg le_rfl, ← List.map_const']
  exact List.map_congr_left fun r _ => by rw [dot_zeros_right, dot_zeros_right, add_zero]

/-- On a unit basis the zero multiplier vector is in the grid iff the zero point is among the first
    `grid_size` lattice points (position in the lexicographic enumeration `< grid_size`). -/
theorem zero_lambda_mem_grid_iff (na : List Bool) (f : Bool) (gs : Nat) (limit : Rat) (hlim : 0 < limit)
    (rows : List (List Rat × List Rat)) (n : Nat) (g : List (List Rat))
    (hu : unitBasis na rows = true) (hg : grid na f gs limit rows = .ok (n, g)) :
    List.replicate rows.length (0 : Rat) ∈ g ↔
      List.replicate na.length (0 : Int) ∈ (lattice na f n).take gs := by
  obtain ⟨-, hn, rfl⟩ := grid_ok hg
  have hs : (0 : Rat) < limit / (n : Rat) := div_pos hlim (by exact_mod_cast hn)
  rw [← zero_point_gives_zero_lambda rows limit n na.length]
  refine ⟨fun hm => ?_, fun hm => List.mem_map_of_mem hm⟩
  obtain ⟨v, hv, he⟩ := List.mem_map.mp hm
  have h1 := (mem_lattice na f n v).mp (List.mem_of_mem_take hv)
  rwa [← lambdaOf_inj hu limit n hs v _ h1.1 (signOK_zero na) he]

/-- With the L1 norm forced (objective in the span: BoundedGroupLoss) the zero multiplier vector is never
    a grid point (unit basis). -/
theorem forced_grid_excludes_zero (na : List Bool) (gs : Nat) (limit : Rat) (hlim : 0 < limit)
    (rows : List (List Rat × List Rat)) (n : Nat) (g : List (List Rat)) (hna : na ≠ [])
    (hu : unitBasis na rows = true) (hg : grid na true gs limit rows = .ok (n, g)) :
    List.replicate rows.length (0 : Rat) ∉ g := by
  rw [zero_lambda_mem_grid_iff na true gs limit hlim rows n g hu hg]
  intro hm
  have h1 := (zero_mem_lattice_iff na true n).mp (List.mem_of_mem_take hm) rfl hna
  have := (grid_length na true gs limit rows n g hg).2.2
  omega

/-- On a unit basis whose columns sum to at most 1 (both hypotheses are evaluated by the driver on the bases of
    every fitted moment) the L1 norm of EVERY grid vector is exactly `l1(v)·grid_limit/n_units` of its lattice
    point; with `force_L1_norm` (objective in the span: BoundedGroupLoss) it is EXACTLY `grid_limit`, as the
    docstring of `_GridGenerator` promises. -/
theorem forced_grid_l1_eq_limit (na : List Bool) (gs : Nat) (limit : Rat) (hlim : 0 < limit)
    (rows : List (List Rat × List Rat)) (n : Nat) (g : List (List Rat)) (hna : na ≠ [])
    (hu : unitBasis na rows = true) (hb : basisOK na.length rows = true)
    (hg : grid na true gs limit rows = .ok (n, g)) :
    ∀ lam ∈ g, (lam.map (fun x => |x|)).sum = limit := by
  intro lam hl
  rw [sum_abs_of_nonneg lam (grid_nonneg na true gs limit rows n g hb hg lam hl)]
  obtain ⟨hn, v, hv, rfl⟩ := grid_mem na true gs limit rows n g hg lam hl
  have hnpos : (0 : Rat) < n := by exact_mod_cast hn
  rw [mem_lattice, Bool.true_and, if_pos (by cases na; exact absurd rfl hna; rfl)] at hv
  rw [lambdaOf_sum_eq hu hb limit n (div_pos hlim hnpos) v hv.1, hv.2, mul_div_cancel₀ _ hnpos.ne']

/-! ### grid_offset -/

/-- Shifting every multiplier vector by `grid_offset` (`_grid.add(self.grid_offset, axis="index")`)
    preserves their number and their distinctness. -/
theorem grid_offset_distinct (na : List Bool) (f : Bool) (gs : Nat) (limit : Rat) (hlim : 0 < limit)
    (rows : List (List Rat × List Rat)) (n : Nat) (g : List (List Rat)) (off : List Rat)
    (hoff : off.length = rows.length) (hu : unitBasis na rows = true)
    (hg : grid na f gs limit rows = .ok (n, g)) :
    (addOffset off g).length = g.length ∧ (addOffset off g).Nodup := by
  refine ⟨by simp [addOffset], addOffset_nodup off g ?_ (grid_distinct na f gs limit hlim rows n g hu hg)⟩
  intro lam hl
  obtain ⟨_, v, _, rfl⟩ := grid_mem na f gs limit rows n g hg lam hl
  rw [lambdaOf, List.length_map, hoff]

/-! ### selection across the whole loop, delegation -/

/-- a running arg-min (`best`, `best_idx` updated on a strictly smaller loss while scanning the losses)
    returns the same index as `losses.index(min(losses))` -/
theorem runningArgmin_eq (l : List Rat) : runningArgmin l = argminFirst l := by
  cases l with
  | nil => rfl
  | cons x xs =>
    rw [argminFirst_cons, runningArgmin, runningArgmin_fold]
    congr 1
    by_cases hlt : minL x xs < x
    · rw [if_pos hlt, List.idxOf_cons_ne _ (ne_of_gt hlt), Nat.add_comm]
    · rw [if_neg hlt, le_antisymm (minL_le_init x xs) (not_lt.mp hlt), List.idxOf_cons_self]

/-- For ANY list of `(objective, gamma)` records: the selected index is in range, its trade-off loss
    `(1-cw)·objective + cw·max(gamma)` is minimal, and it is the first index with that loss. -/
theorem select_spec (cw : Rat) (recs : List (Rat × List Rat)) (i : Nat) (h : select cw recs = some i) :
    ∃ losses : List Rat, recs.map (fun r => tradeoff cw r.1 r.2) = losses.map some ∧
      ∃ hi : i < losses.length, (∀ y ∈ losses, losses[i] ≤ y) ∧
        ∀ (j : Nat) (hj : j < i), losses[i] < losses[j]'(by omega) := by
  simp only [select, Option.bind_eq_some_iff] at h
  obtain ⟨losses, hl, ha⟩ := h
  exact ⟨losses, allSomeR_spec _ _ hl, argminFirst_spec losses i ha⟩

/-- `Grid.select` (hence `fitLoop`) answers `none` in exactly two situations: no record at all (source: `min([])`
    raises ValueError) or a record with an EMPTY gamma vector (source: pandas `max()` of an empty column is NaN; not
    modelled).  In every other case `select_spec` applies: there is no default index. -/
theorem select_eq_none_iff (cw : Rat) (recs : List (Rat × List Rat)) :
    select cw recs = none ↔ recs = [] ∨ ∃ r ∈ recs, r.2 = [] := by
  unfold select
  cases hA : allSomeR (recs.map (fun r => tradeoff cw r.1 r.2)) with
  | none =>
    obtain ⟨r, hr, ht⟩ := List.mem_map.mp (allSomeR_eq_none _ hA)
    refine iff_of_true rfl (Or.inr ⟨r, hr, ?_⟩)
    cases hg : r.2 with
    | nil => rfl
    | cons g gs => rw [hg, tradeoff_cons] at ht; cases ht
  | some l =>
    have hall := allSomeR_spec _ _ hA
    rw [Option.bind_some]
    constructor
    · intro hn
      cases l with
      | nil => exact Or.inl (List.map_eq_nil_iff.mp hall)
      | cons x xs => cases hn
    · rintro (rfl | ⟨r, hr, hg⟩)
      · rw [List.map_eq_nil_iff.mp hall.symm]; rfl
      · have : tradeoff cw r.1 r.2 ∈ l.map some := hall ▸ List.mem_map_of_mem hr
        rw [hg] at this
        obtain ⟨_, _, h⟩ := List.mem_map.mp this
        cases h

/-- `predict` / `predict_proba` return what the selected predictor returns. -/
theorem predict_delegates {P Y : Type} (run : P → Y) (preds : List P) (best : Nat) (hb : best < preds.length) :
    predictWith run preds best = some (run preds[best]) := by
  simp [predictWith, hb]

/-! ### the whole loop of `GridSearch.fit` -/

/-- THE PROPERTY IN ONE STATEMENT, for the loop `for i in grid.columns: …` as modelled by `fitLoop` (weights =
    constraint weights [+ objective weights], lifted relabelling, lifted dummy rule, base learner = parameter, records
    computed from the trained predictor, lifted trade-off loss and arg-min):  with a base learner that minimises the
    weighted 0/1 error over a class `H` of labelings,
      * one predictor per grid point, and each minimises the weighted 0/1 error on the data relabelled / reweighted
        for ITS OWN multiplier vector over `H` (the DummyClassifier shortcut included),
      * `objectives_` / `gammas_` are the values of exactly those predictors,
      * `best_idx_` is in range, minimises `(1-cw)·objective + cw·max(gamma)` and is the first such index. -/
theorem fit_spec (span : Bool) (cwOf : List Rat → List Rat) (ow : List Rat)
    (learner : List (Nat × Rat) → List Nat) (objOf : List Nat → Rat) (gamOf : List Nat → List Rat)
    (cw : Rat) (grid : List (List Rat)) (out : FitOut) (H : List Nat → Prop)
    (hex : ∀ w h', H h' → weighted01 (relabel w) (learner (relabel w)) ≤ weighted01 (relabel w) h')
    (h : fitLoop span cwOf ow learner objOf gamOf cw grid = some out) :
    out.preds = grid.map (fun lam => trainAt learner (relabel (combineWeights span (cwOf lam) ow))) ∧
    (∀ lam ∈ grid, ∀ h', H h' →
      weighted01 (relabel (combineWeights span (cwOf lam) ow))
          (trainAt learner (relabel (combineWeights span (cwOf lam) ow))) ≤
        weighted01 (relabel (combineWeights span (cwOf lam) ow)) h') ∧
    out.objectives = out.preds.map objOf ∧ out.gammas = out.preds.map gamOf ∧
    ∃ losses : List Rat, out.preds.map (fun p => tradeoff cw (objOf p) (gamOf p)) = losses.map some ∧
      ∃ hb : out.best < losses.length, (∀ y ∈ losses, losses[out.best] ≤ y) ∧
        ∀ (j : Nat) (hj : j < out.best), losses[out.best] < losses[j]'(by omega) := by
  simp only [fitLoop, Option.map_eq_some_iff] at h
  obtain ⟨b, hsel, rfl⟩ := h
  refine ⟨rfl, ?_, by simp, by simp, ?_⟩
  · intro lam _ h' hh'
    exact trainAt_minimises learner H _ (hex _) h' hh'
  · obtain ⟨losses, hl, hspec⟩ := select_spec cw _ b hsel
    refine ⟨losses, ?_, hspec⟩
    rw [← hl]; simp only [List.map_map]; rfl

/-- … hence (reduction identity of C07: `error + λ·γ = K − c·Σ wᵢhᵢ` on 0/1 labelings with one label per row, `c > 0`,
    `w` = the combined signed weights) every trained predictor minimises `error + λ·γ` of its own multiplier over the
    class.  `C09.fit_predictor_minimises_real_lagrangian` (C09X.lean) is the instance for `Oracle.lagr` (ErrorRate
    objective + `λ·γ` of a parity moment). -/
theorem fit_predictor_minimises_lagrangian_hard (learner : List (Nat × Rat) → List Nat) (H : List Nat → Prop)
    (w : List Rat) (K c : Rat) (hc : 0 < c) (F : List Nat → Rat)
    (hF : ∀ h, w.length = h.length → (∀ x ∈ h, x = 0 ∨ x = 1) → F h = K - c * dot w (toRat h))
    (hex : ∀ h', H h' → weighted01 (relabel w) (learner (relabel w)) ≤ weighted01 (relabel w) h')
    (hshape : (learner (relabel w)).length = w.length ∧ ∀ x ∈ learner (relabel w), x = 0 ∨ x = 1)
    (hH : ∀ h', H h' → w.length = h'.length ∧ ∀ x ∈ h', x = 0 ∨ x = 1) :
    ∀ h', H h' → F (trainAt learner (relabel w)) ≤ F h' := by
  intro h' hh'
  obtain ⟨hl, hb⟩ := trainAt_shape learner w hshape
  obtain ⟨hl', hb'⟩ := hH h' hh'
  exact (best_response_argmin_hard w K c hc F hF _ h' hl.symm hl' hb hb').mp
    (trainAt_minimises learner H w hex h' hh')

/-- The same with the affine form of `F` assumed on every list of naturals: like `best_response_argmin`, not
    satisfiable by the real Lagrangian. -/
theorem fit_predictor_minimises_lagrangian (learner : List (Nat × Rat) → List Nat) (H : List Nat → Prop)
    (w : List Rat) (K c : Rat) (hc : 0 < c) (F : List Nat → Rat)
    (hF : ∀ h, F h = K - c * dot w (toRat h))
    (hex : ∀ h', H h' → weighted01 (relabel w) (learner (relabel w)) ≤ weighted01 (relabel w) h')
    (hshape : (learner (relabel w)).length = w.length ∧ ∀ x ∈ learner (relabel w), x = 0 ∨ x = 1)
    (hH : ∀ h', H h' → w.length = h'.length ∧ ∀ x ∈ h', x = 0 ∨ x = 1) :
    ∀ h', H h' → F (trainAt learner (relabel w)) ≤ F h' :=
  fit_predictor_minimises_lagrangian_hard learner H w K c hc F (fun h _ _ => hF h) hex hshape hH

/-! ### error branches; clause (a) in one statement -/

/-- ERROR BRANCH of clause (a): for `grid_size ∈ {0, 1}` one lattice point is enough, the search stops at
    `n_units = 0`, and `float(grid_limit) / n_units` raises ZeroDivisionError — whatever the dimension, the bases and
    the limit; both for the least-radius search and for the loop started at the source's estimate (which is 0 there).
    Replayed on fairlearn: `_GridGenerator(1, 2.0, …)` and `_GridGenerator(0, 2.0, …)` raise ZeroDivisionError. -/
theorem grid_size_le_one_raises (na : List Bool) (f : Bool) (gs : Nat) (limit : Rat)
    (rows : List (List Rat × List Rat)) (h : gs ≤ 1) :
    grid na f gs limit rows = .error .zeroDiv ∧ gridFrom na f gs limit rows 0 = .error .zeroDiv := by
  have h0 : decide (gs ≤ (lattice na f 0).length) = true :=
    decide_eq_true (le_trans h (lattice_length_pos na f 0))
  have hs : searchFrom na f gs (gs + 2) ((0 : Nat) : Int) = some ((0 : Nat) : Int) := by
    rw [searchFrom, Int.toNat_natCast, srcLattice_eq, enough_def, if_pos h0]
  exact ⟨by rw [grid_def, nUnits_of_le_one na f gs h], by rw [gridFrom_of_search hs]; rfl⟩

/-- TOTALISATION NOTE (not a property of the source): with `true_dim = 0` (one basis column, `force_L1_norm`) the
    source raises ZeroDivisionError in `1.0 / true_dim` before the search starts (replayed:
    `_GridGenerator(2, 2.0, 1 column, neg_allowed=[True], force_L1_norm=True)`), but the estimate is an INPUT of the
    model, so `Grid.grid` answers with the two points `-2, 2`.  Every statement about the source's behaviour therefore
    carries `1 ≤ trueDim`. -/
theorem trueDim_zero_model_answers :
    trueDim [true] true = 0 ∧
    grid [true] true 2 2 [([1], [0]), ([0], [1])] = .ok (1, [[0, 2], [2, 0]]) := by
  refine ⟨by decide, by decide +kernel⟩

/-- **CLAUSE (a) IN ONE STATEMENT**, for the `while True` loop as the source runs it, started at ANY estimate `n0`
    (whether or not the float root overshoots): with a free coordinate, `grid_size ≥ 2`, `grid_limit > 0` and bases
    that are a unit basis with column sums ≤ 1, the generator succeeds with `n_units ≥ 1` and returns exactly
    `grid_size` pairwise distinct multiplier vectors with non-negative entries and L1 norm at most `grid_limit`. -/
theorem grid_clause_from_any_start (na : List Bool) (f : Bool) (gs : Nat) (limit : Rat) (hlim : 0 < limit)
    (rows : List (List Rat × List Rat)) (n0 : Nat) (h : 1 ≤ trueDim na f) (hgs : 2 ≤ gs)
    (hb : basisOK na.length rows = true) (hu : unitBasis na rows = true) :
    ∃ n g, gridFrom na f gs limit rows n0 = .ok (n, g) ∧ 1 ≤ n ∧ g.length = gs ∧ g.Nodup ∧
      (∀ lam ∈ g, ∀ x ∈ lam, 0 ≤ x) ∧ (∀ lam ∈ g, (lam.map (fun x => |x|)).sum ≤ limit) := by
  obtain ⟨nl, _, hge, hs⟩ := searchFrom_nUnits h gs n0
  have hg : gridFrom na f gs limit rows n0 = .ok (max n0 nl, gridAt na f gs limit rows (max n0 nl)) := by
    rw [gridFrom_of_search hs, if_neg (Nat.pos_iff_ne_zero.mp
      (Nat.lt_of_lt_of_le (one_le_radius_of_two_le_length hgs hge) (Nat.le_max_right n0 nl)))]
  obtain ⟨_, h1, hlen, hnn, hl1, hnd⟩ := overshoot_grid_still_valid na f gs limit hlim rows n0 _ _ h hb hg
  exact ⟨_, _, hg, h1, hlen, hnd hu, hnn, hl1⟩

/-! ### a concrete exact learner -/

/-- a concrete "exact cost-sensitive learner": predict the relabelled target.  It meets the hypothesis `hex` of
    `fit_spec` / `fit_predictor_minimises_lagrangian(_hard)` for EVERY weight vector and every class. -/
def xLearner : List (Nat × Rat) → List Nat := fun d => d.map (·.1)

theorem xLearner_exact (w : List Rat) (h' : List Nat) :
    weighted01 (relabel w) (xLearner (relabel w)) ≤ weighted01 (relabel w) h' := by
  rw [xLearner, weighted01_map_eq_zero _ _ fun _ _ => rfl]; exact weighted01_nonneg _ _ (relabel_weights_nonneg w)

theorem xLearner_shape (w : List Rat) :
    (xLearner (relabel w)).length = w.length ∧ ∀ x ∈ xLearner (relabel w), x = 0 ∨ x = 1 := by
  refine ⟨by simp [xLearner, relabel_length], ?_⟩
  intro x hx
  obtain ⟨p, hp, rfl⟩ := List.mem_map.mp hx
  exact relabel_labels_binary w p hp

/-! ### all combined signed weights zero -/

/-- WHERE FINDING F12 SITS IN THE MODEL (totalisation note): when every combined signed weight is exactly 0 (constraint
    weights cancel the objective weights on all rows) the relabelled data has the single label 0 and all sample weights
    0, the lifted dummy rule fires, and the model trains the constant-0 predictor.  The source takes the same branch but
    sklearn's `DummyClassifier.fit` rejects an all-zero `sample_weight` with ValueError (replayed:
    corpus/C09/f12-all-signed-weights-zero.json) — an error the model does not have; `fit_spec` and the best-response
    theorems describe the model's answer there, not an answer of the source. -/
theorem all_zero_weights_take_dummy_branch (learner : List (Nat × Rat) → List Nat) (w : List Rat) (hne : w ≠ [])
    (hz : ∀ x ∈ w, x = 0) :
    GridSrc.useDummy (nUnique (relabel w) : Nat) = true ∧
    trainAt learner (relabel w) = List.replicate w.length 0 ∧ ∀ p ∈ relabel w, p.2 = 0 := by
  obtain ⟨n, hn⟩ := Nat.exists_eq_succ_of_ne_zero (mt List.eq_nil_of_length_eq_zero hne)
  rw [List.eq_replicate_iff.mpr ⟨hn, hz⟩, relabel_zeros]
  have hd : GridSrc.useDummy (nUnique (List.replicate (n + 1) ((0 : Nat), (0 : Rat))) : Nat) = true := by
    rw [nUnique, List.map_replicate, eraseDups_replicate_succ]; rfl
  refine ⟨hd, ?_, fun p hp => List.eq_of_mem_replicate hp ▸ rfl⟩
  rw [trainAt, if_pos hd, List.map_replicate, List.map_replicate, List.length_replicate]; rfl

/-! ### lifted definitions that no model function consumes: tied by a theorem each -/

/-- `if n_units < 0: n_units = 0` (lifted `GridSrc.estClip`): the start of the search is a natural number and the
    clip changes nothing on non-negative estimates — this is what lets `searchFrom` / `gridFrom` take `n0 : Nat`. -/
theorem estimate_clip_spec (n : Int) :
    0 ≤ GridSrc.estClip n ∧ (0 ≤ n → GridSrc.estClip n = n) ∧ (n < 0 → GridSrc.estClip n = 0) := by
  unfold GridSrc.estClip
  by_cases h : n < 0
  · rw [if_pos (decide_eq_true h)]; exact ⟨le_refl _, fun h0 => absurd h (not_lt.mpr h0), fun _ => rfl⟩
  · rw [if_neg (fun hd => h (of_decide_eq_true hd))]; exact ⟨not_lt.mp h, fun _ => rfl, fun h0 => absurd h0 h⟩

/-- `grid_offset=None` (lifted `GridSrc.defaultOffset`, a Series of zeros over the constraint index) leaves every
    multiplier vector unchanged: for the default call `lambda_vecs_` ARE the vectors clause (a) talks about. -/
theorem default_offset_identity (g : List (List Rat)) (k : Nat) (hl : ∀ lam ∈ g, lam.length = k) :
    addOffset (List.replicate k GridSrc.defaultOffset) g = g := by
  unfold addOffset
  conv_rhs => rw [← List.map_id g]
  apply List.map_congr_left
  intro lam hlam
  rw [← hl lam hlam]
  exact zipWith_withOffset_default lam

/-- the attribute `self.objective_weight` (lifted `GridSrc.objectiveWeight`, `1.0 - constraint_weight`) is the weight
    the lifted `loss_fct` puts on the objective, in either spelling of the source. -/
theorem loss_objective_weight (cw obj g : Rat) :
    GridSrc.loss cw obj g = GridSrc.objectiveWeight cw * obj + cw * g := by
  simp [GridSrc.loss, GridSrc.objectiveWeight]

/-! ### the regression branch and the constructor check (lifted) -/

/-- `is_classification_reduction` is exactly "the constraints object is a `ClassificationMoment`" (lifted) -/
theorem src_isClassification (b : Bool) : GridSrc.isClassification b = b := by cases b <;> rfl

/-- the lifted `else:` branch (`y_reduction = self.constraints._y_as_series`): for a moment that is not a
    `ClassificationMoment` (BoundedGroupLoss) the estimator is fitted on the ORIGINAL labels with the signed weights,
    row by row — nothing is relabelled or reweighted -/
theorem src_regression_keeps_data (y w : List Rat) : fitData false y w = y.zip w := by
  simp only [fitData, src_isClassification, relabelReg, GridSrc.regressionY, GridSrc.regressionW, Bool.false_eq_true, if_false]
  induction y generalizing w with
  | nil => simp
  | cons a as ih => cases w with
    | nil => simp
    | cons b bs => simp [ih]

/-- … while for a `ClassificationMoment` it is the relabelled / reweighted data of `relabel` -/
theorem src_classification_fitData (y w : List Rat) :
    fitData true y w = (relabel w).map (fun p => (((p.1 : Nat) : Rat), p.2)) := by
  simp [fitData, src_isClassification]

/-- why the check may replay the regression branch through the classification ops: on a 0/1 label `y` with a POSITIVE
    weight `w` (BoundedGroupLoss weights are `lambda_g / n ≥ 0`; a zero weight row costs nothing under either label) the
    relabelling of the signed weight `±w` gives back exactly `(y, w)`, the regression branch's data -/
theorem src_regression_emulation (y : Nat) (hy : y = 0 ∨ y = 1) (w : Rat) (hw : 0 < w) :
    ((GridSrc.relabelY (if y = 1 then w else -w)).toNat, GridSrc.relabelW (if y = 1 then w else -w)) =
      (y, GridSrc.regressionW w) := by
  rw [relabelY_toNat, relabelW_def, GridSrc.regressionW]
  rcases hy with rfl | rfl
  · rw [if_neg (show ¬ (0 : Nat) = 1 by decide), if_neg (not_lt.mpr (neg_nonpos.mpr hw.le)),
      if_pos (neg_lt_zero.mpr hw), neg_neg]
  · rw [if_pos rfl, if_pos hw, if_neg (not_lt.mpr hw.le)]

/-- the lifted constructor check (`Generated/ValidationTables.gridSearchCtor`, the same definition C20's
    `gridSearch_ok_iff` is about): a GridSearch object that was constructed has `0 ≤ constraint_weight ≤ 1` — the
    quantifier of this property — hence both coefficients of the lifted trade-off loss are non-negative and sum to 1 -/
theorem src_ctor_constraint_weight (isMoment ruleOk : Bool) (cw : Rat)
    (h : Generated.ValidationTables.gridSearchCtor isMoment ruleOk cw = true) :
    0 ≤ cw ∧ cw ≤ 1 ∧ 0 ≤ GridSrc.objectiveWeight cw ∧ GridSrc.objectiveWeight cw + cw = 1 ∧
      ∀ obj g, GridSrc.loss cw obj g = GridSrc.objectiveWeight cw * obj + cw * g := by
  have hc : 0 ≤ cw ∧ cw ≤ 1 := by
    cases isMoment
    · cases h
    · cases ruleOk
      · cases h
      · simpa [Generated.ValidationTables.gridSearchCtor] using h
  exact ⟨hc.1, hc.2, sub_nonneg.mpr hc.2, sub_add_cancel 1 cw, fun _ _ => rfl⟩

/-! Non-vacuity: concrete inputs evaluated by the kernel. -/
example : lattice [true, false] false 1 = [[-1, 0], [0, 0], [0, 1], [1, 0]] := by decide +kernel
example : lattice [false, false, false] true 2 =
    [[0, 0, 2], [0, 1, 1], [0, 2, 0], [1, 0, 1], [1, 1, 0], [2, 0, 0]] := by decide +kernel
example : lattice [true, true] true 1 = [[-1, 0], [0, -1], [0, 1], [1, 0]] := by decide +kernel
example : nUnits [true, true] false 7 = some 2 := by decide +kernel
example : 1 ≤ trueDim [false, false] true := by decide
/-- DemographicParity, 3 groups (a, b | c last): a unit basis; 4 distinct vectors of L1 norm ≤ 2 -/
def dpRows : List (List Rat × List Rat) :=
  [([1, 0], [0, 0]), ([0, 1], [0, 0]), ([0, 0], [0, 0]),
   ([0, 0], [1, 0]), ([0, 0], [0, 1]), ([0, 0], [0, 0])]
example : unitBasis [true, true] dpRows = true ∧ basisOK 2 dpRows = true := by decide +kernel
example : grid [true, true] false 4 2 dpRows = .ok (1,
    [[0, 0, 0, 2, 0, 0], [0, 0, 0, 0, 2, 0], [0, 0, 0, 0, 0, 0], [0, 2, 0, 0, 0, 0]]) := by decide +kernel
example : argminFirst [3, 1, 2, 1] = some 1 := by decide +kernel
example : tradeoff (1/2) (1/4) [-1/8, 1/8] = some (3/16) := by decide +kernel
example : weighted01 (relabel [2, -1, 0]) [0, 1, 1] = 3 := by decide +kernel
example : srcLattice [true, false] false 1 = [[-1, 0], [0, 0], [0, 1], [1, 0]] := by decide +kernel
example : GridSrc.noOvershoot 7 2 2 0 = true ∧ GridSrc.noOvershoot 9 0 2 2 = true ∧
    GridSrc.noOvershoot 8 0 2 2 = false := by decide +kernel
example : searchFrom [true, true] false 7 9 0 = some 2 ∧ searchFrom [true, true] false 7 9 4 = some 4 := by
  decide +kernel
example : runningArgmin [3, 1, 2, 1] = some 1 := by decide +kernel
example : trainAt (fun _ => [1, 0, 1]) (relabel [-1, -2, 0]) = [0, 0, 0] ∧
    trainAt (fun _ => [1, 0, 1]) (relabel [-1, 2, 0]) = [1, 0, 1] := by decide +kernel
example : select (1/2) [(1/4, [-1/8, 1/8]), (0, [1/2]), (1/8, [1/8, 0])] = some 2 := by decide +kernel
example : (lattice [true, true] false 1).take 2 = [[-1, 0], [0, -1]] := by decide +kernel

/-! Joint non-vacuity: all hypotheses of a theorem at once, on the interesting branch. -/
/-- `grid_nonneg`, `grid_l1_le_limit`, `grid_distinct`, `grid_offset_distinct`, `zero_lambda_mem_grid_iff`, `grid_length`,
    `grid_mem`: DemographicParity with 3 groups (two free coordinates, both signs), 4 of the 5 points of radius 1 -/
example : grid [true, true] false 4 2 dpRows = .ok (1,
      [[0, 0, 0, 2, 0, 0], [0, 0, 0, 0, 2, 0], [0, 0, 0, 0, 0, 0], [0, 2, 0, 0, 0, 0]]) ∧
    (0 : Rat) < 2 ∧ unitBasis [true, true] dpRows = true ∧ basisOK [true, true].length dpRows = true ∧
    ([1/4, 0, 0, 1/2, 0, 0] : List Rat).length = dpRows.length := by
  refine ⟨by decide +kernel, by norm_num, by decide +kernel, by decide +kernel, by decide +kernel⟩
/-- `grid_clause_from_any_start`, `grid_exists`, `search_from_any_start`, `overshoot_grid_still_valid`,
    `estimate_harmless`: every hypothesis holds for that moment; started at the exact estimate 0 the loop stops at the
    least radius 1, started at an overshooting 3 it stops at 3 and still returns 4 vectors -/
example : 1 ≤ trueDim [true, true] false ∧ 2 ≤ 4 ∧ (0 : Rat) < 2 ∧ basisOK [true, true].length dpRows = true ∧
    unitBasis [true, true] dpRows = true ∧
    GridSrc.noOvershoot 4 (negCount [true, true]) (trueDim [true, true] false) 0 = true ∧
    GridSrc.noOvershoot 4 (negCount [true, true]) (trueDim [true, true] false) 3 = false ∧
    (gridFrom [true, true] false 4 2 dpRows 0).toOption.map (fun p => (p.1, p.2.length)) = some (1, 4) ∧
    (gridFrom [true, true] false 4 2 dpRows 3).toOption.map (fun p => (p.1, p.2.length)) = some (3, 4) := by
  refine ⟨by decide, by decide, by norm_num, by decide +kernel, by decide +kernel, by decide +kernel,
    by decide +kernel, by decide +kernel, by decide +kernel⟩
/-- BoundedGroupLoss with 3 groups (3 non-negative coordinates, L1 norm forced): hypotheses of
    `forced_grid_l1_eq_limit` / `forced_grid_excludes_zero`; 6 vectors, each of L1 norm exactly 3 -/
def bglRows : List (List Rat × List Rat) :=
  [([1, 0, 0], [0, 0, 0]), ([0, 1, 0], [0, 0, 0]), ([0, 0, 1], [0, 0, 0])]
example : ([false, false, false] : List Bool) ≠ [] ∧ (0 : Rat) < 3 ∧ unitBasis [false, false, false] bglRows = true ∧
    basisOK [false, false, false].length bglRows = true ∧
    (grid [false, false, false] true 6 3 bglRows).toOption.map (fun p => (p.1, p.2.map List.sum)) =
      some (2, [3, 3, 3, 3, 3, 3]) := by
  refine ⟨by decide, by norm_num, by decide +kernel, by decide +kernel, by decide +kernel⟩
/-- error branch: grid_size 1 -/
example : grid [true, true] false 1 2 dpRows = .error .zeroDiv := (grid_size_le_one_raises _ _ 1 _ _ (by decide)).1
/-- `select_spec` / `argminFirst_spec` with a TIE (indices 1 and 3 have the same loss: the first is returned), and
    the two `none` situations of `select_eq_none_iff` -/
example : select (1/2) [(1/2, [0, 1/4]), (1/4, [1/4]), (1/2, [1/2]), (1/4, [1/4, 0])] = some 1 ∧
    select (1/2) [] = none ∧ select (1/2) [(1/4, [])] = none := by decide +kernel
/-- `fit_spec`: a real run of the loop (two grid points, the exact learner `xLearner`; the second point takes the
    DummyClassifier branch: all combined weights ≤ 0 … the relabelled data has the single label 0) -/
example : (fitLoop false (fun lam => lam) [0, 0, 0, 0] xLearner
      (fun p => ((p.map (fun x => if x = 1 then (1 : Rat) / 4 else 0)).sum)) (fun p => [(p.sum : Rat) / 4, -(p.sum : Rat) / 4])
      (1/2) [[1, 1, -1, -1], [-1, -1, -1, -1/2]]).map (fun o => (o.preds, o.objectives, o.gammas, o.best)) =
    some ([[1, 1, 0, 0], [0, 0, 0, 0]], [1/2, 0], [[1/2, -1/2], [0, 0]], 1) := by decide +kernel
/-- `predict_delegates`: in range -/
example : predictWith (fun (p : List Nat) => p.sum) [[1, 1, 0, 0], [0, 0, 0, 1]] 1 = some 1 := by decide +kernel
/-- `all_zero_weights_take_dummy_branch`: the F12 shape (constraint weights cancel the objective weights on every row) -/
example : combineWeights false [1, -1, 1, -1] [-1, 1, -1, 1] = [0, 0, 0, 0] ∧
    trainAt xLearner (relabel [0, 0, 0, 0]) = [0, 0, 0, 0] ∧ ([0, 0, 0, 0] : List Rat) ≠ [] := by decide +kernel

example : fitData false [1, 0, 1] [1/4, 1/2, 0] = [(1, 1/4), (0, 1/2), (1, 0)] := by decide +kernel
example : fitData true [1, 0, 1] [1/4, -1/2, 0] = [(1, 1/4), (0, 1/2), (0, 0)] := by decide +kernel
example : Generated.ValidationTables.gridSearchCtor true true (1/2) = true ∧
    Generated.ValidationTables.gridSearchCtor true true (3/2) = false := by decide +kernel

end C09
