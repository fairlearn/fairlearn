/-
C13 — multiple sensitive/control columns group rows by tuple equality, collision-free.
Property theorems only; helper lemmas live in `Lemmas/Merge.lean`.

The encoder (`Merge.escape`, `Merge.joinNames`) is built from `Generated/MergeConsts.lean`, i.e. from
the separator and the `.replace(..)` chain that `_merge_columns` contains *now*; the encoder theorems (decoding,
injectivity, same group, partition by merged key) rest on `Merge.escape_eq_flatMap` (= `escape_spec`), which is proved
from those generated constants.  The partition laws of `classes` and the caller theorems over
`Generated/MergeCallers.lean` do not depend on the replacement chain.

CLAUSE → THEOREM TABLE (property text in properties.jsonl, id C13)
  (1) "two rows belong to the same group exactly when they agree in every column (compared as strings)"
        several columns (merged): `same_group_iff` (equal widths ≥ 1, column-wise form), `join_injective` (ANY two
        non-empty rows, widths may differ), `join_injective_same_width` (rows of one table), `mergeKey_injective` (on Lean `String`s, what the driver runs);
        what the callers really do (1 column: NOT merged, NOT stringified; ≥ 2 columns: merged — thresholds lifted):
        `encode_single`, `encode_multi`, `encode_injective`, `encode_same_group_iff` (+ `_control`), all widths ≥ 1.
        "compared as strings": the model's cell IS the string numpy's `astype(str)` produced; `astype(str)` itself
        (fixed-width `<U` truncation of a pre-typed unicode array, stripping of trailing NULs) is NOT modelled — it is in
        the trusted list of harness/props/c13.py and observed by corpus/C13/truncated-stringification.json.
  (2) "whatever characters the values contain – commas and backslashes included": all theorems quantify over
        arbitrary `List Char` cells (empty strings, separators, escape characters): `escape_spec`, `split_join`.
        Necessity of non-emptiness of the row: `empty_row_collides`.
  (3) "so the induced partition equals MetricFrame's partition into non-empty intersectional groups":
        `partition_eq_tuple`, `partition_eq_metricframe` (merged keys, width ≥ 1) and — for the group ids the callers
        actually produce, single column included — `encode_partition_eq_tuple`, `encode_partition_eq_metricframe`
        (sensitive and control).  `class_membership` / `same_class_iff`: what "partition" means position-wise;
        `classes_cover_unique`, `classes_disjoint`, `classes_nonempty_inrange`, `classes_count`: `classes` IS a
        partition of the row positions (for any key list), `merged_partition`: the instance for the merged keys.
        Control features go through the same encoder under the same column-count test: `control_uses_same_encoder`.
  (4) "ThresholdOptimizer applies at predict time the rule learned for the same tuple at fit time":
        THEOREM at encoder level: `predict_selects_same_tuple` (the predict-time group id of a row equals the fit-time
        group id of row i iff the two rows are the same tuple) + `fit_predict_same_encoder` (the lifted call sites of
        fit and `_pmf_predict` reach the same function).  The dictionary lookup `interpolation_dict[group_id]` and the
        application of the rule are NOT in the Lean model: they are CORRESPONDENCE only (c13.py relations
        `C13.predict_rule_same_tuple`, `C13.to_keys`), checked against a first-principles per-tuple refit.
-/
import FairModel.Lemmas.Merge

namespace C13
open Merge

/-- The source's replacement chain is the per-character encoding: the escape character and the
    separator get an escape character in front, every other character is kept. -/
theorem escape_spec (s : Str) :
    escape s = s.flatMap (fun c => if c = esc ∨ c = sep then [esc, c] else [c]) :=
  escape_eq_flatMap s

/-- **Decoding inverts the merge** for every non-empty row over arbitrary characters
    (commas, backslashes, empty strings, anything). -/
theorem split_join (fs : List Str) (hne : fs ≠ []) : split (joinNames fs) = fs :=
  split_joinWith_escape fs hne

/-- **Collision freedom**: two non-empty rows with the same merged key are the same tuple —
    whatever their widths.  (The code merges only when there are ≥ 2 columns, and all rows of one
    table have the same width; neither fact is needed beyond non-emptiness.) -/
theorem join_injective (fs gs : List Str) (hf : fs ≠ []) (hg : gs ≠ [])
    (h : joinNames fs = joinNames gs) : fs = gs :=
  joinNames_injective hf hg h

/-- rows of one table (equal width ≥ 2) -/
theorem join_injective_same_width (fs gs : List Str) (hlen : fs.length = gs.length)
    (h2 : 2 ≤ fs.length) (h : joinNames fs = joinNames gs) : fs = gs :=
  have hpos : 0 < fs.length := Nat.lt_of_lt_of_le Nat.zero_lt_two h2
  join_injective fs gs (List.ne_nil_of_length_pos hpos) (List.ne_nil_of_length_pos (hlen ▸ hpos)) h

/-- Non-emptiness cannot be dropped: the zero-column row and the one-column row holding the empty
    string get the same key.  This is why `_validate_and_reformat_input`'s guard `shape[1] > 1`
    matters (a table with ≥ 2 columns has no empty row). -/
theorem empty_row_collides : joinNames [] = joinNames [[]] ∧ ([] : List Str) ≠ [[]] := by
  constructor
  · decide
  · simp

/-- Two rows of a table get the same merged key **iff they agree in every column** (as strings). -/
theorem same_group_iff (r₁ r₂ : List Str) (hlen : r₁.length = r₂.length) (hpos : 0 < r₁.length) :
    joinNames r₁ = joinNames r₂ ↔ ∀ k, k < r₁.length → r₁.getD k [] = r₂.getD k [] := by
  constructor
  · intro h k _
    rw [join_injective r₁ r₂ (List.ne_nil_of_length_pos hpos) (List.ne_nil_of_length_pos (hlen ▸ hpos)) h]
  · intro h
    congr 1
    apply List.ext_getElem hlen
    intro i hi1 hi2
    have := h i hi1
    rwa [List.getD_eq_getElem?_getD, List.getD_eq_getElem?_getD, List.getElem?_eq_getElem hi1,
      List.getElem?_eq_getElem hi2] at this

/-- the same statement on Lean `String`s, as the compiled driver computes it -/
theorem mergeKey_injective (r₁ r₂ : List String) (h1 : r₁ ≠ []) (h2 : r₂ ≠ [])
    (h : mergeKey r₁ = mergeKey r₂) : r₁ = r₂ := by
  unfold mergeKey ofStr at h
  have h' := join_injective _ _ (by simpa using h1) (by simpa using h2) (String.ofList_injective h)
  exact List.map_injective_iff.mpr (fun a b hab => String.toList_injective hab) h'

/-- position `i` lies in the class of key `k` exactly when the `i`-th key is `k`: `classes` really is
    "group the row positions by key" -/
theorem class_membership {α : Type} [DecidableEq α] (k : α) (keys : List α) (i : Nat) :
    i ∈ positions k keys ↔ keys[i]? = some k :=
  mem_positions k keys i

/-- the merged keys of a table with no empty row are pairwise equal exactly where the rows are -/
theorem same_class_iff (rows : List (List Str)) (hne : ∀ r ∈ rows, r ≠ []) (i j : Nat)
    (hi : i < rows.length) (hj : j < rows.length) :
    (mergeColumns rows)[i]? = (mergeColumns rows)[j]? ↔ rows[i] = rows[j] := by
  unfold mergeColumns
  simp only [List.getElem?_map, List.getElem?_eq_getElem hi, List.getElem?_eq_getElem hj,
    Option.map_some, Option.some.injEq]
  constructor
  · intro h
    exact join_injective _ _ (hne _ (List.getElem_mem hi)) (hne _ (List.getElem_mem hj)) h
  · intro h; rw [h]

/-- **The partition induced by the merged keys is the partition by tuple equality.** -/
theorem partition_eq_tuple (rows : List (List Str)) (hne : ∀ r ∈ rows, r ≠ []) :
    classes (mergeColumns rows) = classes rows := by
  unfold mergeColumns
  exact classes_map joinNames rows (fun x hx y hy h => join_injective x y (hne x hx) (hne y hy) h)

/-- **... and it is MetricFrame's partition**: the non-empty cells of the product of the per-column
    levels are exactly the classes of the merged keys (as sets of row positions), for every
    rectangular table with at least one column. -/
theorem partition_eq_metricframe (rows : List (List Str)) (w : Nat) (hw : 0 < w)
    (hrect : ∀ r ∈ rows, r.length = w) (c : List Nat) :
    c ∈ interCells rows w ↔ c ∈ classes (mergeColumns rows) := by
  rw [partition_eq_tuple rows fun r hr => List.ne_nil_of_length_pos (hrect r hr ▸ hw), mem_classes]
  unfold interCells
  simp only [List.mem_filter, List.mem_map, Bool.not_eq_true', List.isEmpty_eq_false_iff]
  constructor
  · rintro ⟨⟨combo, _, rfl⟩, hc⟩
    exact ⟨combo, (positions_ne_nil combo rows).mp hc, rfl⟩
  · rintro ⟨r, hr, rfl⟩
    exact ⟨⟨r, row_mem_combos rows w r hr (hrect r hr), rfl⟩, (positions_ne_nil r rows).mpr hr⟩

/-! ### the callers of `_merge_columns` (lifted into `Generated/MergeCallers.lean`) -/

/-- a single column is NOT merged and NOT stringified: the cell value itself is the group id, for sensitive and for
    control features alike … -/
theorem encode_single (v : Str) : encodeSensitive [v] = .raw v ∧ encodeControl [v] = .raw v :=
  ⟨rfl, rfl⟩

/-- … and two or more columns are merged with `_join_names` -/
theorem encode_multi (r : List Str) (h : 2 ≤ r.length) :
    encodeSensitive r = .merged (joinNames r) ∧ encodeControl r = .merged (joinNames r) :=
  ⟨if_pos h, if_pos h⟩

/-- the group id is injective on rows of one table (any width ≥ 1): the single-column passthrough is injective too -/
theorem encode_injective (r₁ r₂ : List Str) (hlen : r₁.length = r₂.length) (hpos : 0 < r₁.length) :
    (encodeSensitive r₁ = encodeSensitive r₂ → r₁ = r₂) ∧ (encodeControl r₁ = encodeControl r₂ → r₁ = r₂) :=
  ⟨encodeWith_injective (Nat.le_refl 1) hlen hpos, encodeWith_injective (Nat.le_refl 1) hlen hpos⟩

/-- hence, at any width, two rows are in the same group exactly when they agree in every column -/
theorem encode_same_group_iff (r₁ r₂ : List Str) (hlen : r₁.length = r₂.length) (hpos : 0 < r₁.length) :
    encodeSensitive r₁ = encodeSensitive r₂ ↔ r₁ = r₂ :=
  ⟨(encode_injective r₁ r₂ hlen hpos).1, fun h => by rw [h]⟩

/-- control features are merged separately from the sensitive features, by the same function under the same
    column-count test -/
theorem control_uses_same_encoder :
    MergeCallers.cfMerger = MergeCallers.sfMerger ∧ MergeCallers.sfMerger = "_merge_columns" ∧
    MergeCallers.cfThreshold = MergeCallers.sfThreshold ∧ (∀ r, encodeControl r = encodeSensitive r) :=
  ⟨rfl, rfl, rfl, fun _ => rfl⟩

/-- every fit-time call site (ThresholdOptimizer.fit, the `load_data` of all moments) and the predict-time call site
    (InterpolatedThresholder._pmf_predict, reached unchanged from ThresholdOptimizer.predict) encode their sensitive
    features with the same function: the lifted call targets are equal -/
theorem fit_predict_same_encoder :
    (∀ a ∈ MergeCallers.callSites, ∀ b ∈ MergeCallers.callSites, a.2.2 = b.2.2) ∧
    (∃ a ∈ MergeCallers.callSites, a.1 = "ThresholdOptimizer.fit" ∧ a.2.1 = "fit") ∧
    (∃ b ∈ MergeCallers.callSites, b.1 = "InterpolatedThresholder._pmf_predict" ∧ b.2.1 = "predict") := by
  refine ⟨by decide +kernel, ⟨_, List.mem_cons_self, rfl, rfl⟩, ⟨_, List.mem_cons_of_mem _ List.mem_cons_self, rfl, rfl⟩⟩

/-- so a row presented at predict time selects the rule learned for a fit-time row exactly when the two rows are the
    same tuple (the encoder is one function of the row, whatever the other rows of either table are) -/
theorem predict_selects_same_tuple (fitRows : List (List Str)) (q : List Str) (i : Nat) (hi : i < fitRows.length)
    (hlen : q.length = fitRows[i].length) (hpos : 0 < q.length) :
    encodeSensitive q = (fitRows.map encodeSensitive)[i]'(by simpa using hi) ↔ q = fitRows[i] := by
  rw [List.getElem_map]
  exact encode_same_group_iff q fitRows[i] hlen hpos

/-- the partition induced by the group ids the callers actually produce (single column passed through, several
    columns merged) is the partition by tuple equality — every rectangular table of width ≥ 1, sensitive and control -/
theorem encode_partition_eq_tuple (rows : List (List Str)) (w : Nat) (hw : 0 < w) (hrect : ∀ r ∈ rows, r.length = w) :
    classes (rows.map encodeSensitive) = classes rows ∧ classes (rows.map encodeControl) = classes rows := by
  have inj := fun x hx y hy =>
    encode_injective x y (by rw [hrect x hx, hrect y hy]) (by rw [hrect x hx]; exact hw)
  exact ⟨classes_map _ rows fun x hx y hy => (inj x hx y hy).1, classes_map _ rows fun x hx y hy => (inj x hx y hy).2⟩

/-- … and hence MetricFrame's partition into non-empty intersectional cells, at every width ≥ 1 (for width 1 the
    "intersection" is the single column's levels) -/
theorem encode_partition_eq_metricframe (rows : List (List Str)) (w : Nat) (hw : 0 < w)
    (hrect : ∀ r ∈ rows, r.length = w) (c : List Nat) :
    (c ∈ interCells rows w ↔ c ∈ classes (rows.map encodeSensitive)) ∧
    (c ∈ interCells rows w ↔ c ∈ classes (rows.map encodeControl)) := by
  have h := partition_eq_metricframe rows w hw hrect c
  rw [partition_eq_tuple rows fun r hr => List.ne_nil_of_length_pos (hrect r hr ▸ hw)] at h
  obtain ⟨h1, h2⟩ := encode_partition_eq_tuple rows w hw hrect
  rw [h1, h2]
  exact ⟨h, h⟩

/-- control features: same statement as `encode_same_group_iff` -/
theorem encode_same_group_iff_control (r₁ r₂ : List Str) (hlen : r₁.length = r₂.length) (hpos : 0 < r₁.length) :
    encodeControl r₁ = encodeControl r₂ ↔ r₁ = r₂ :=
  ⟨(encode_injective r₁ r₂ hlen hpos).2, fun h => by rw [h]⟩

/-- equal widths cannot be dropped for the CALLERS' group ids (they can for `join_injective`): the one-column row
    `("a,b")` is passed through raw while the two-column row `("a","b")` is merged — different constructors, so no
    collision arises in the model; in the code both become the Python string `'a,b'`, but never inside one table
    (a table has one width), and fit/predict tables of different widths are outside the property -/
example : encodeSensitive [['a', ',', 'b']] = .raw ['a', ',', 'b'] ∧
    encodeSensitive [['a'], ['b']] = .merged ['a', ',', 'b'] := by decide +kernel

example : encodeSensitive [['1']] = .raw ['1'] := by decide +kernel
example : encodeSensitive [['1'], ['1', '.', '0']] = .merged ['1', ',', '1', '.', '0'] := by decide +kernel

/-! ### The classes are a partition of the row positions (no row lost, none counted twice, no empty group) -/

/-- **Every row lies in exactly one class**: for every position of the key list there is one class containing
    it, and any class containing it is that one. -/
theorem classes_cover_unique {α : Type} [DecidableEq α] (keys : List α) (i : Nat) (hi : i < keys.length) :
    ∃ c ∈ classes keys, i ∈ c ∧ ∀ c' ∈ classes keys, i ∈ c' → c' = c := by
  refine ⟨positions keys[i] keys, ?_, ?_, ?_⟩
  · rw [mem_classes]; exact ⟨keys[i], List.getElem_mem hi, rfl⟩
  · rw [mem_positions]; exact List.getElem?_eq_getElem hi
  · intro c' hc' hic'
    obtain ⟨k, _, rfl⟩ := (mem_classes c' keys).mp hc'
    rw [mem_positions, List.getElem?_eq_getElem hi] at hic'
    rw [Option.some.inj hic']

/-- two different classes share no row -/
theorem classes_disjoint {α : Type} [DecidableEq α] (keys : List α) (c c' : List Nat)
    (hc : c ∈ classes keys) (hc' : c' ∈ classes keys) (i : Nat) (hi : i ∈ c) (hi' : i ∈ c') : c = c' := by
  obtain ⟨k, _, rfl⟩ := (mem_classes c keys).mp hc
  have hlt : i < keys.length := positions_lt k keys i hi
  obtain ⟨d, _, _, huniq⟩ := classes_cover_unique keys i hlt
  rw [huniq _ hc hi, huniq _ hc' hi']

/-- classes only contain row positions, and **no class is empty** (the groups are the NON-EMPTY intersections) -/
theorem classes_nonempty_inrange {α : Type} [DecidableEq α] (keys : List α) (c : List Nat) (hc : c ∈ classes keys) :
    c ≠ [] ∧ ∀ i ∈ c, i < keys.length := by
  obtain ⟨k, hk, rfl⟩ := (mem_classes c keys).mp hc
  exact ⟨(positions_ne_nil k keys).mpr hk, fun i hi => positions_lt k keys i hi⟩

/-- one class per distinct key, each class listed once -/
theorem classes_count {α : Type} [DecidableEq α] (keys : List α) :
    (classes keys).length = (distinct keys).length ∧ (classes keys).Nodup := by
  refine ⟨by simp [classes], ?_⟩
  unfold classes
  refine (List.nodup_map_iff_inj_on (distinct_nodup keys)).mpr ?_
  intro k hk k' _ h
  exact positions_injective k k' keys ((mem_distinct k keys).mp hk) h

/-- every row of a multi-column table lies in exactly one class of the merged keys -/
theorem merged_partition (rows : List (List Str)) (i : Nat) (hi : i < rows.length) :
    ∃ c ∈ classes (mergeColumns rows), i ∈ c ∧ ∀ c' ∈ classes (mergeColumns rows), i ∈ c' → c' = c :=
  classes_cover_unique (mergeColumns rows) i (by simpa [mergeColumns] using hi)

example : ∃ c ∈ classes ([3, 5, 3] : List Nat), 2 ∈ c := ⟨[0, 2], by decide +kernel, by decide⟩
example : classes ([3, 5, 3] : List Nat) = [[0, 2], [1]] := by decide +kernel

/-! Non-vacuity and regression examples (evaluated by the kernel). -/

/-- adversarial values: separator, escape character, empty string -/
def exRows : List (List Str) :=
  [[[','], ['\\']], [[], [',', '\\']], [['\\', ','], []], [[','], ['\\']], [['a'], ['1', '.', '0']]]

example : mergeColumns exRows =
    [['\\', ',', ',', '\\', '\\'], [',', '\\', ',', '\\', '\\'], ['\\', '\\', '\\', ',', ','],
     ['\\', ',', ',', '\\', '\\'], ['a', ',', '1', '.', '0']] := by decide +kernel
example : ∀ r ∈ exRows, r.length = 2 := by decide +kernel
example : classes (mergeColumns exRows) = [[0, 3], [1], [2], [4]] := by decide +kernel
example : interCells exRows 2 = [[0, 3], [1], [2], [4]] := by decide +kernel
example : split (joinNames [[','], ['\\'], []]) = [[','], ['\\'], []] := by decide +kernel
example : mergeKey ["a,", "\\"] = "a\\,,\\\\" := by decide +kernel

/-- Regression witnesses: escaping the comma only (no backslash escape) lets the rows `("\\", ",")` and
    `(",\\", "")` collide; no escaping at all lets `("a,", "b")` and `("a", ",b")` collide. -/
example : joinWith ([['\\'], [',']].map (replaceChar ',' ['\\', ','])) =
          joinWith ([[',', '\\'], []].map (replaceChar ',' ['\\', ','])) := by decide +kernel
example : joinWith [['a', ','], ['b']] = joinWith [['a'], [',', 'b']] := by decide +kernel

/-! non-vacuity of the caller-level theorems: width 1 and width 2 tables meeting every hypothesis -/
def exRows1 : List (List Str) := [[[',']], [[]], [[',']], [['\\']]]
example : ∀ r ∈ exRows1, r.length = 1 := by decide +kernel
example : classes (exRows1.map encodeSensitive) = [[0, 2], [1], [3]] ∧ interCells exRows1 1 = [[0, 2], [1], [3]] := by
  decide +kernel
example : classes (exRows.map encodeSensitive) = [[0, 3], [1], [2], [4]] ∧
    classes (exRows.map encodeControl) = classes exRows := by decide +kernel
-- `predict_selects_same_tuple`: query row = fit row 3 (≠ fit row 1 although both contain only separators/escapes)
example : (exRows.map encodeSensitive)[3]'(by decide) = encodeSensitive [[','], ['\\']] ∧
    (exRows.map encodeSensitive)[1]'(by decide) ≠ encodeSensitive [[','], ['\\']] := by decide +kernel
example : ([[','], ['\\']] : List Str).length = exRows[3].length ∧ 0 < ([[','], ['\\']] : List Str).length := by decide
-- `same_group_iff`: both directions on concrete rows
example : joinNames [[','], []] ≠ joinNames [[], [',']] ∧ joinNames [['a'], []] = joinNames [['a'], []] := by decide +kernel

end C13
