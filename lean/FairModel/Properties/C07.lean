/-
C07 — reduction identity: sample re-weighting is the exact gradient of the Lagrangian.
Property theorems only; helper lemmas live in `Lemmas/Moments*.lean`, `Lemmas/Oracle.lean`.

Everything is stated for arbitrary rational multipliers `lam` and arbitrary (soft) prediction vectors
`h`, `h'` of the right length, and for an arbitrary event
assignment `ev` (so it covers the documented rule and the pre-F3-fix code alike).

CLAUSE → THEOREM TABLE (property text in properties.jsonl, id C07)
  (1) "for every constraint moment … every non-negative λ and any two (soft) predictors h, h′:
       λ·γ(h) − λ·γ(h′) = −(1/n) Σ_i w_i (h_i − h′_i), w = signed_weights(λ)"
        `reduction_identity` — all five parity moments (any `ev`, any `Util`), ANY rational λ (non-negativity is not
        needed; a λ shorter/longer than the index is read on the common prefix on both sides), ANY rational h, h′ of
        length n (not only [0,1]); `shared_U` (same `U` in both).  n = 0: both sides are 0 (Lean `1/0 = 0`); the
        case does not exist in the code (`_validate_and_reformat_input` rejects empty y; the driver rejects empty rows).
  (2) "… and objective"      `objective_identity` (ErrorRate with costs; labels 0/1 and h, h′ ∈ [0,1] are NEEDED: the
        code's `y − pred` is split by sign, `objective_needs_unit_interval` is the counterexample outside [0,1]),
        `objective_weights_scaled`; objective + constraints together: `lagrangian_identity`.
  (3) "for loss moments λ·γ(h) = (1/n) Σ_i w_i loss_i(h)"     `loss_identity`, `loss_weights_default`
  (4) "Consequently a learner that minimises the weighted 0/1 error against labels 1[w>0] with weights |w| minimises
       objective + λ·γ over its hypothesis class"
        `best_response` (identity), `best_response_minimises_lagrangian` (pairwise) in the words of the property
        (`Moments.relabel / absWeights / egWeights`; the same vectors as the lifted ones: `Oracle.eg_eq_spec`), and over the LIFTED
        `_call_oracle` / `GridSearch.fit` expressions, for an ARBITRARY class `H` of hard predictors and INCLUDING the
        objective term: `eg_argmin_iff`, `grid_argmin_iff` (both directions), `eg/grid_weighted_error_affine` (exact
        constants), `eg_normalisation_preserves_order`; tie at w = 0 (`>` vs `≥`): `relabel_nonstrict_harmless`,
        `zero_signed_weight_zero_weight`, `zero_weight_label_irrelevant`; all-zero weights (0/0 normalisation):
        `call_oracle_nan_iff`; DummyClassifier shortcut: `dummy_is_minimiser`, `eg/grid_dummy_minimises_lagrangian`;
        regression reductions: `loss_oracle_identity`, `loss_grid_identity`.
  (5) "project_lambda returns a non-negative vector whose Lagrangian value is never lower than the original for any
       predictor"   `project_lambda_guarantee` (ANY ratio, both parts), from `project_lambda_sound` (ratio 1) and
        `project_lambda_identity` (ratio ≠ 1: the code returns λ unchanged), `project_lambda_flat`,
        `gamma_minus_eq_neg_plus`.  Hypotheses λ ≥ 0 and slack ≥ 0 are NEEDED: `project_lambda_needs_nonneg_slack`
        (replayed on fairlearn: L drops from 2 to 0; since fairlearn c80f72a the constructor rejects a negative slack —
        lifted into `mkConfig` — so `accepted_config_slack_nonneg` discharges the slack hypothesis for every object that
        can exist: `project_lambda_guarantee_of_config`).
        TIE: `projectLambda` is computed with the guard and the entry formulas LIFTED from `UtilityParity.project_lambda`
        (`Generated/ProjectLambdaSrc.lean`, lifter `projlambda.py`: symbolic execution of the method body, so the order
        "negate, then clip in place" is part of the lifted text); `project_lambda_lifted` (through
        `Lemmas/Moments.lean:src_posOf_clip0/src_negOf_clip0/src_projects_iff`) is where a source edit breaks.
-/
import FairModel.Lemmas.Oracle
import FairModel.Properties.C06

namespace C07
open Moments

/-! ### constraint moments -/

/-- `λ·γ(h) − λ·γ(h') = −(1/n) Σ_i w_i (h_i − h'_i)` with `w = signed_weights(λ)` -/
theorem reduction_identity (ev : Ev) (rows : List Row) (ratio : Rat) (ut : Util) (lam h h' : List Rat)
    (hl : h.length = rows.length) (hl' : h'.length = rows.length) :
    dot lam (gamma ev rows ratio ut h) - dot lam (gamma ev rows ratio ut h')
      = -(1 / (rows.length : Rat)) * dot (signedWeights ev rows ratio ut lam) (vsub h h') :=
  reduction_keys ev rows ratio ut (index ev rows) lam h h' hl hl'

/-- the same `U` is used by `gamma` and `signed_weights`: entry `i` of the weights is
    `utility_diff_i * Σ_k U[i,k] λ_k`, entry `k` of gamma is `−(Σ_i U[i,k] pred_i)/n` -/
theorem shared_U (ev : Ev) (rows : List Row) (ratio : Rat) (ut : Util) (lam h : List Rat) :
    signedWeights ev rows ratio ut lam
      = List.zipWith (fun r urow => ut.ud r * dot urow lam) rows (U ev rows ratio) ∧
    gamma ev rows ratio ut h
      = (index ev rows).map (fun k => -(dot (uCol ev rows ratio k) (predOf ut rows h)) / (rows.length : Rat)) := by
  constructor
  · rw [U, List.zipWith_map_right, List.zipWith_self]; rfl
  · simp [gamma, gammaAt, MomentsSrc.gammaOf]

/-! ### loss moments -/

/-- BoundedGroupLoss: `λ·γ(h) = (1/n) Σ_i w_i loss_i(h)` with `w = signed_weights(λ)`, `w_i = λ_{g_i}/P(g_i)` -/
theorem loss_identity (l : Loss) (rows : List LRow) (lam h : List Rat) (hne : rows ≠ []) :
    dot lam (bglGamma l rows h)
      = (1 / (rows.length : Rat)) * dot (bglSignedWeights rows (some lam)) (lossOf l rows h) := by
  have hn : (rows.length : Rat) ≠ 0 := Nat.cast_ne_zero.mpr (List.length_pos_of_ne_nil hne).ne'
  rw [bglGamma, List.map_congr_left fun g _ => (bglGammaAt_eq l rows h g).trans
      ((div_eq_inv_mul _ _).trans (dot_map_smul _ _ rows _).symm), dot_dot_swap, bglSignedWeights, ← dot_map_smul]
  refine congrArg (dot · _) (List.map_congr_left fun r _ => ?_)
  -- only the key `g = r.g` contributes, so `#g` may be read at `r.g`
  have hkey : (bglIndex rows).map (fun g => (countG rows g : Rat)⁻¹ * ind (r.g == g))
      = (bglIndex rows).map (fun g => (countG rows r.g : Rat)⁻¹ * ind (g == r.g)) := by
    refine List.map_congr_left fun g _ => ?_
    by_cases hg : g = r.g
    · rw [hg]
    · rw [ind, ind, if_neg (beq_iff_eq.not.mpr (Ne.symm hg)), if_neg (beq_iff_eq.not.mpr hg), mul_zero, mul_zero]
  rw [hkey, dot_map_smul, MomentsSrc.bglAdjust, lookup, probG, div_div_eq_mul_div, mul_comm _ (rows.length : Rat),
    mul_div_assoc, one_div, inv_mul_cancel_left₀ hn, div_eq_inv_mul]

/-- without multipliers (`MeanLoss` as objective, `signed_weights()`), every sample has weight 1 -/
theorem loss_weights_default (rows : List LRow) :
    bglSignedWeights rows none = List.replicate rows.length 1 := by
  simp [bglSignedWeights]

/-! ### the objective -/

/-- ErrorRate with costs: `err(h) − err(h') = −(1/n) Σ_i w_i (h_i − h'_i)`, `w_i = −c_fp + (c_fp + c_fn)·y_i` -/
theorem objective_identity (fp fn : Rat) (ys h h' : List Rat)
    (hl : h.length = ys.length) (hl' : h'.length = ys.length) (hy : Hard ys) (hh : Soft h) (hh' : Soft h') :
    errGamma fp fn ys h - errGamma fp fn ys h'
      = -(1 / (ys.length : Rat)) * dot (errWeights fp fn ys none) (vsub h h') :=
  errGamma_sub fp fn ys h h' hl hl' hy hh hh'

/-- the restriction of `objective_identity` to predictions in [0,1] is necessary: `ErrorRate.gamma` splits `y − pred`
    by sign, so outside [0,1] it is not affine in the prediction (label 1, predictions 2 and 0, unit costs) -/
theorem objective_needs_unit_interval :
    errGamma 1 1 [1] [2] - errGamma 1 1 [1] [0] ≠ -(1 / ((([1] : List Rat).length : Nat) : Rat)) * dot (errWeights 1 1 [1] none) (vsub [2] [0]) := by
  decide +kernel

/-- a multiplier on the objective just scales its weights -/
theorem objective_weights_scaled (fp fn l : Rat) (ys : List Rat) :
    errWeights fp fn ys (some l) = (errWeights fp fn ys none).map (fun w => l * w) := by
  simp [errWeights, List.map_map, Function.comp_def]

/-- **the Lagrangian's gradient is the total sample weight**: for soft predictors `h, h'` and 0/1 labels,
    `(err + λ·γ)(h) − (err + λ·γ)(h') = −(1/n) Σ_i (w^obj_i + w_i)(h_i − h'_i)` with `w^obj = ErrorRate.signed_weights()`,
    `w = signed_weights(λ)` — any rational λ, any costs -/
theorem lagrangian_identity (ev : Ev) (rows : List Row) (ratio : Rat) (ut : Util) (fp fn : Rat)
    (lam h h' : List Rat) (hl : h.length = rows.length) (hl' : h'.length = rows.length)
    (hy : Hard (labelsOf rows)) (hh : Soft h) (hh' : Soft h') :
    (errGamma fp fn (labelsOf rows) h + dot lam (gamma ev rows ratio ut h))
      - (errGamma fp fn (labelsOf rows) h' + dot lam (gamma ev rows ratio ut h'))
      = -(1 / (rows.length : Rat))
          * dot (vadd (errWeights fp fn (labelsOf rows) none) (signedWeights ev rows ratio ut lam)) (vsub h h') :=
  Oracle.lagr_sub ev rows ratio ut fp fn lam h h' hl hl' hy hh hh'

/-! ### best response -/

/-- weighted 0/1 error against the labels `1[w>0]` with weights `|w|` is `C(w) − Σ w_i h_i` for hard `h` -/
theorem best_response (w h : List Rat) (hl : h.length = w.length) (hh : Hard h) :
    weighted01 (relabel w) (absWeights w) h = posPart w - dot w h :=
  Oracle.weighted01_of_reduces _ _ Oracle.relabel_reduces w h hl hh

/-- hence, with `w = objective weights + signed_weights(λ)`: `h` has smaller relabelled/reweighted 0/1 error
    than `h'` iff it has smaller `err + λ·γ` — a learner minimising the former over its hypothesis class
    minimises the latter (labels in {0,1}, hard predictions) -/
theorem best_response_minimises_lagrangian (ev : Ev) (rows : List Row) (ratio : Rat) (ut : Util) (fp fn : Rat)
    (lam h h' : List Rat) (hne : rows ≠ [])
    (hl : h.length = rows.length) (hl' : h'.length = rows.length)
    (hy : Hard (labelsOf rows)) (hh : Hard h) (hh' : Hard h') :
    let w := vadd (errWeights fp fn (labelsOf rows) none) (signedWeights ev rows ratio ut lam)
    weighted01 (relabel w) (absWeights w) h ≤ weighted01 (relabel w) (absWeights w) h'
      ↔ errGamma fp fn (labelsOf rows) h + dot lam (gamma ev rows ratio ut h)
          ≤ errGamma fp fn (labelsOf rows) h' + dot lam (gamma ev rows ratio ut h') := by
  intro w
  have hn : (0 : Rat) < (rows.length : Rat) := Nat.cast_pos.mpr (List.length_pos_of_ne_nil hne)
  -- both errors are the same increasing affine function `n·L + const` of the Lagrangian `L = err + λ·γ`
  have aff := Oracle.weighted01_affine _ _ Oracle.relabel_reduces ev rows ratio ut fp fn lam
  show weighted01 (relabel w) (absWeights w) h ≤ weighted01 (relabel w) (absWeights w) h'
    ↔ Oracle.lagr ev rows ratio ut fp fn lam h ≤ Oracle.lagr ev rows ratio ut fp fn lam h'
  rw [show weighted01 (relabel w) (absWeights w) h = _ from aff h hne hl hy hh,
    show weighted01 (relabel w) (absWeights w) h' = _ from aff h' hne hl' hy hh',
    add_le_add_iff_right, mul_le_mul_iff_of_pos_left hn]

/-- `_call_oracle` rescales the weights to `n·|w|/Σ|w|`; a positive rescaling does not change which of two
    hypotheses has the smaller weighted error (GridSearch passes `|w|` itself) -/
theorem eg_normalisation_preserves_order (w h h' : List Rat) (hne : w ≠ []) (hs : 0 < (absWeights w).sum) :
    weighted01 (relabel w) (egWeights w) h ≤ weighted01 (relabel w) (egWeights w) h'
      ↔ weighted01 (relabel w) (absWeights w) h ≤ weighted01 (relabel w) (absWeights w) h' := by
  have hc : 0 < (w.length : Rat) / (absWeights w).sum :=
    div_pos (Nat.cast_pos.mpr (List.length_pos_of_ne_nil hne)) hs
  rw [← (Oracle.eg_eq_spec w).2.2, Oracle.egNormWeights_scale, (Oracle.eg_eq_spec w).2.1, Oracle.weighted01_scale,
    Oracle.weighted01_scale]
  exact mul_le_mul_iff_of_pos_left hc

/-! ### project_lambda -/

/-- **the tie of (5) to the source**: `projectLambda` is computed with the entry formulas and the guard LIFTED from
    `UtilityParity.project_lambda` (`Generated/ProjectLambdaSrc.lean`: `lambda_pos = λ⁺ − λ⁻`, `lambda_neg = −lambda_pos`
    taken before the in-place clips, both clipped at 0, keyed `+` / `-`, only `if self.ratio == 1.0`); for the text in
    the tree it is the projection of every pair onto the positive / negative part of its difference.  A sign, threshold,
    key or data-flow change in the source changes the lifted text and this theorem (hence `project_lambda_sound`,
    `project_lambda_guarantee`) no longer checks. -/
theorem project_lambda_lifted (ratio : Rat) (lp lm : List Rat) :
    projectLambda ratio lp lm =
      if ratio = 1 then ((List.zipWith (· - ·) lp lm).map clip0, (List.zipWith (· - ·) lp lm).map (fun x => clip0 (-x)))
      else (lp, lm) := by
  rw [projectLambda, List.map_zipWith, List.map_zipWith]
  simp only [← src_posOf_clip0, ← src_negOf_clip0]
  exact if_congr (src_projects_iff ratio) rfl rfl

/-- for ratio ≠ 1 `project_lambda` is the identity (so a non-negative vector stays non-negative and the
    Lagrangian value is unchanged) -/
theorem project_lambda_identity (ratio : Rat) (lp lm : List Rat) (hr : ratio ≠ 1) :
    projectLambda ratio lp lm = (lp, lm) := by
  rw [project_lambda_lifted, if_neg hr]

/-- the flat version used on the `index`-ordered vector splits it into its `+` and `-` halves -/
theorem project_lambda_flat (ratio : Rat) (lp lm : List Rat) (hlen : lp.length = lm.length) :
    projectLambdaFlat ratio (lp ++ lm) = (projectLambda ratio lp lm).1 ++ (projectLambda ratio lp lm).2 := by
  have : (lp ++ lm).length / 2 = lp.length := by
    rw [List.length_append, ← hlen, ← two_mul, Nat.mul_div_cancel_left _ (by decide)]
  rw [projectLambdaFlat, this, List.take_left' rfl, List.drop_left' rfl]

/-- for ratio 1 the `-` entries of gamma are the negated `+` entries … -/
theorem gamma_minus_eq_neg_plus (ev : Ev) (rows : List Row) (ut : Util) (h : List Rat) (e g : String) :
    gammaAt ev rows 1 ut h ⟨.minus, e, g⟩ = - gammaAt ev rows 1 ut h ⟨.plus, e, g⟩ :=
  gammaAt_minus_ratio_one ev rows ut h e g

/-- … so projecting every (λ⁺, λ⁻) pair onto its difference gives a non-negative vector whose Lagrangian
    value `err + Σ λ·(γ − ε)` is not lower than the original, for every predictor `h` (ratio 1, ε ≥ 0, λ ≥ 0) -/
theorem project_lambda_sound (ev : Ev) (rows : List Row) (ut : Util) (h : List Rat) (eps err : Rat)
    (lp lm : List Rat) (heps : 0 ≤ eps) (hp : ∀ x ∈ lp, 0 ≤ x) (hm : ∀ x ∈ lm, 0 ≤ x)
    (h1 : lp.length = (observedPairs ev rows).length) (h2 : lm.length = (observedPairs ev rows).length) :
    let p := projectLambda 1 lp lm
    (∀ x ∈ p.1 ++ p.2, 0 ≤ x) ∧
    lagrangianValue err (lp ++ lm) (gamma ev rows 1 ut h) (bound ev rows eps)
      ≤ lagrangianValue err (p.1 ++ p.2) (gamma ev rows 1 ut h) (bound ev rows eps) := by
  intro p
  have hpe : p = ((List.zipWith (· - ·) lp lm).map clip0, (List.zipWith (· - ·) lp lm).map (fun x => clip0 (-x))) :=
    (project_lambda_lifted 1 lp lm).trans (if_pos rfl)
  rw [hpe]
  constructor
  · intro x hx
    rcases List.mem_append.mp hx with hx | hx <;> obtain ⟨y, _, rfl⟩ := List.mem_map.mp hx <;> exact clip0_nonneg _
  · rw [lagrangianValue_ratio_one ev rows ut h eps err lp lm h1,
      lagrangianValue_ratio_one ev rows ut h eps err _ _
        (by rw [List.length_map, List.length_zipWith, h1, h2, Nat.min_self])]
    exact add_le_add_right (project_pairs_le eps heps lp lm _ hp hm
      (by rw [h1, List.length_map]) (by rw [h2, List.length_map])) err

/-- a pair with both multipliers positive is replaced by its difference; for ratio ≠ 1 nothing changes -/
example : projectLambda 1 [3, 1] [1, 2] = ([2, 0], [0, 1]) := by decide +kernel
example : projectLambdaFlat 1 [3, 1, 1, 2] = [2, 0, 0, 1] := by decide +kernel
example : projectLambdaFlat (1/2) [3, 1, 1, 2] = [3, 1, 1, 2] := by decide +kernel

/-- **project_lambda, every ratio**: for non-negative multipliers and a non-negative slack the result is non-negative
    and its Lagrangian value is not lower than the original's, for every predictor `h` — the projection for ratio 1,
    the identity otherwise (as coded) -/
theorem project_lambda_guarantee (ev : Ev) (rows : List Row) (ratio : Rat) (ut : Util) (h : List Rat) (eps err : Rat)
    (lp lm : List Rat) (heps : 0 ≤ eps) (hp : ∀ x ∈ lp, 0 ≤ x) (hm : ∀ x ∈ lm, 0 ≤ x)
    (h1 : lp.length = (observedPairs ev rows).length) (h2 : lm.length = (observedPairs ev rows).length) :
    let p := projectLambda ratio lp lm
    (∀ x ∈ p.1 ++ p.2, 0 ≤ x) ∧
    lagrangianValue err (lp ++ lm) (gamma ev rows ratio ut h) (bound ev rows eps)
      ≤ lagrangianValue err (p.1 ++ p.2) (gamma ev rows ratio ut h) (bound ev rows eps) := by
  by_cases hr : ratio = 1
  · subst hr
    exact project_lambda_sound ev rows ut h eps err lp lm heps hp hm h1 h2
  · intro p
    have hp' : p = (lp, lm) := project_lambda_identity ratio lp lm hr
    rw [hp']
    refine ⟨?_, le_refl _⟩
    intro x hx
    rcases List.mem_append.mp hx with hx | hx
    · exact hp x hx
    · exact hm x hx

/-- the slack must be non-negative for that guarantee: with slack −1, projecting λ = (1, 0 | 1, 0) to (0, 0 | 0, 0) lowers
    `Σ λ·(γ − ε)` from 2 to 0 (two rows, two groups, predictor 0; replayed on fairlearn — finding F24).  Since
    fairlearn c80f72a the constructor REJECTS such a configuration (`if self.eps < 0: raise`, lifted into `mkConfig`
    through `slackMustBeNonneg`), first conjunct; before that commit it was accepted. -/
theorem project_lambda_needs_nonneg_slack :
    let rows : List Row := [⟨0, "a", none⟩, ⟨0, "b", none⟩]
    let p := projectLambda 1 [1, 0] [1, 0]
    mkConfig (some (-1)) none 0 = .error .negSlack ∧
    lagrangianValue 0 ([1, 0] ++ [1, 0]) (gamma (eventOf .dp) rows 1 defaultUtil [0, 0]) (bound (eventOf .dp) rows (-1)) = 2 ∧
    lagrangianValue 0 (p.1 ++ p.2) (gamma (eventOf .dp) rows 1 defaultUtil [0, 0]) (bound (eventOf .dp) rows (-1)) = 0 := by
  decide +kernel

/-- every configuration the (lifted) constructor accepts has a non-negative slack — so the hypothesis `0 ≤ eps` of
    `project_lambda_guarantee` holds for every `UtilityParity` object that exists -/
theorem accepted_config_slack_nonneg (d r : Option Rat) (s eps ratio : Rat) (h : mkConfig d r s = .ok (eps, ratio)) :
    0 ≤ eps :=
  C06.config_slack_nonneg d r s eps ratio h

/-- `project_lambda_guarantee` for every constructible moment: the slack hypothesis is discharged by the constructor -/
theorem project_lambda_guarantee_of_config (d r : Option Rat) (s eps ratio : Rat) (hcfg : mkConfig d r s = .ok (eps, ratio))
    (ev : Ev) (rows : List Row) (ut : Util) (h : List Rat) (err : Rat)
    (lp lm : List Rat) (hp : ∀ x ∈ lp, 0 ≤ x) (hm : ∀ x ∈ lm, 0 ≤ x)
    (h1 : lp.length = (observedPairs ev rows).length) (h2 : lm.length = (observedPairs ev rows).length) :
    let p := projectLambda ratio lp lm
    (∀ x ∈ p.1 ++ p.2, 0 ≤ x) ∧
    lagrangianValue err (lp ++ lm) (gamma ev rows ratio ut h) (bound ev rows eps)
      ≤ lagrangianValue err (p.1 ++ p.2) (gamma ev rows ratio ut h) (bound ev rows eps) :=
  project_lambda_guarantee ev rows ratio ut h eps err lp lm (accepted_config_slack_nonneg d r s eps ratio hcfg) hp hm h1 h2

example : mkConfig (some (1/8)) none 0 = .ok (1/8, 1) := by decide +kernel

/-! ### `_Lagrangian._call_oracle` and `GridSearch.fit` as lifted from the source (`Generated/OracleSrc.lean`)

`Oracle.callOracle*` / `Oracle.callGrid*` arrange the lifted expressions in the order of the code.  Below,
`w = totalW … = ErrorRate(costs).signed_weights() + constraints.signed_weights(λ)` and
`L(h) = lagr … h = objective(h) + λ·γ(h)`; `λ` is ANY rational vector (non-negativity is not needed). -/

open Oracle in
/-- what `_call_oracle` hands to the learner: unless all total weights are 0 (then the normalisation is 0/0), it
    fits either a copy of the learner or a constant on labels `egLabel(w_i)` and weights `n·|w_i|/Σ|w|`; the
    constant is used only when every label equals it -/
theorem call_oracle_cases (ow cw : List Rat) (hS : (egAbsWeights (vadd ow cw)).sum ≠ 0) :
    callOracle ow cw = .fit (egLabels (vadd ow cw)) (egNormWeights (vadd ow cw)) ∨
    ∃ c, callOracle ow cw = .dummy c (egLabels (vadd ow cw)) (egNormWeights (vadd ow cw)) ∧
      ∀ x ∈ egLabels (vadd ow cw), x = c := by
  unfold callOracle
  simp only [egSignedWeights_eq, hS, if_false]
  exact eg_shortcut_cases _ _

open Oracle in
theorem call_oracle_nan_iff (ow cw : List Rat) :
    callOracle ow cw = .nanWeights ↔ (egAbsWeights (vadd ow cw)).sum = 0 := by
  unfold callOracle
  simp only [egSignedWeights_eq]
  constructor
  · intro h
    by_contra hS
    simp only [hS, if_false] at h
    rcases eg_shortcut_cases (egLabels (vadd ow cw)) (egNormWeights (vadd ow cw)) with h' | ⟨c, h', _⟩ <;>
      rw [h'] at h <;> cases h
  · intro h; simp [h]

open Oracle in
/-- one `GridSearch.fit` column: labels `gridLabel(w_i)`, weights `|w_i|` (no normalisation), where the objective's
    weights are added exactly when the objective is not in the span of the constraints -/
theorem call_grid_cases (inSpan : Bool) (cw ow : List Rat) :
    let w := gridSignedWeights inSpan cw ow
    (w = if inSpan then cw else vadd ow cw) ∧
    (callGrid inSpan cw ow = .fit (gridLabels w) (gridAbsWeights w) ∨
     ∃ c, callGrid inSpan cw ow = .dummy c (gridLabels w) (gridAbsWeights w) ∧ ∀ x ∈ gridLabels w, x = c) := by
  intro w
  refine ⟨?_, grid_shortcut_cases _ _⟩
  cases inSpan
  · exact (if_pos rfl).trans (gridSignedWeights_eq cw ow)
  · exact if_neg Bool.false_ne_true

open Oracle in
/-- exact constant and scale, `_call_oracle`: for every hard `h`
    `weighted error(h) = (n²/S)·L(h) + (n/S)·(Σ max(w_i,0) − n·L(0))`, `S = Σ|w_i|`, `n` = number of rows (no hypothesis `S ≠ 0`: at `S = 0` the oracle
    call is `nanWeights` and both sides are 0 by Lean's `x / 0 = 0`; `eg_argmin_iff` carries `S ≠ 0`) -/
theorem eg_weighted_error_affine (ev : Ev) (rows : List Row) (ratio : Rat) (ut : Util) (fp fn : Rat)
    (lam h : List Rat) (hne : rows ≠ []) (hl : h.length = rows.length)
    (hy : Hard (labelsOf rows)) (hh : Hard h) :
    let w := totalW ev rows ratio ut fp fn lam
    let n := (rows.length : Rat)
    let S := (egAbsWeights w).sum
    weighted01 (egLabels w) (egNormWeights w) h
      = (n ^ 2 / S) * lagr ev rows ratio ut fp fn lam h
        + (n / S) * (posPart w - n * lagr ev rows ratio ut fp fn lam (List.replicate rows.length 0)) := by
  intro w n S
  rw [egNormWeights_scale, weighted01_scale, totalW_length,
    show weighted01 (egLabels w) (egAbsWeights w) h = _ from
      weighted01_affine _ _ eg_reduces ev rows ratio ut fp fn lam h hne hl hy hh]
  ring

open Oracle in
/-- the same for a `GridSearch.fit` column (weights `|w_i|`): scale `n`, constant `Σ max(w_i,0) − n·L(0)` -/
theorem grid_weighted_error_affine (ev : Ev) (rows : List Row) (ratio : Rat) (ut : Util) (fp fn : Rat)
    (lam h : List Rat) (hne : rows ≠ []) (hl : h.length = rows.length)
    (hy : Hard (labelsOf rows)) (hh : Hard h) :
    let w := totalW ev rows ratio ut fp fn lam
    let n := (rows.length : Rat)
    weighted01 (gridLabels w) (gridAbsWeights w) h
      = n * lagr ev rows ratio ut fp fn lam h
        + (posPart w - n * lagr ev rows ratio ut fp fn lam (List.replicate rows.length 0)) := by
  exact weighted01_affine _ _ grid_reduces ev rows ratio ut fp fn lam h hne hl hy hh

open Oracle in
/-- hence the arg-min sets coincide, in both directions, over ANY class `H` of hard predictors: `h` minimises the
    weighted 0/1 error the learner is given iff it minimises `objective + λ·γ` -/
theorem eg_argmin_iff (ev : Ev) (rows : List Row) (ratio : Rat) (ut : Util) (fp fn : Rat) (lam : List Rat)
    (H : List Rat → Prop) (hH : ∀ h, H h → h.length = rows.length ∧ Hard h)
    (hne : rows ≠ []) (hy : Hard (labelsOf rows))
    (hS : (egAbsWeights (totalW ev rows ratio ut fp fn lam)).sum ≠ 0) (h : List Rat) :
    MinOver H (weighted01 (egLabels (totalW ev rows ratio ut fp fn lam)) (egNormWeights (totalW ev rows ratio ut fp fn lam))) h
      ↔ MinOver H (lagr ev rows ratio ut fp fn lam) h := by
  have hn : (0 : Rat) < (rows.length : Rat) := Nat.cast_pos.mpr (List.length_pos_of_ne_nil hne)
  have hSpos : 0 < (egAbsWeights (totalW ev rows ratio ut fp fn lam)).sum :=
    lt_of_le_of_ne (egAbsWeights_sum_nonneg _) (Ne.symm hS)
  exact minOver_affine H _ _ _ _ (div_pos (pow_pos hn 2) hSpos)
    (fun h' hh' => eg_weighted_error_affine ev rows ratio ut fp fn lam h' hne (hH h' hh').1 hy (hH h' hh').2) h

open Oracle in
theorem grid_argmin_iff (ev : Ev) (rows : List Row) (ratio : Rat) (ut : Util) (fp fn : Rat) (lam : List Rat)
    (H : List Rat → Prop) (hH : ∀ h, H h → h.length = rows.length ∧ Hard h)
    (hne : rows ≠ []) (hy : Hard (labelsOf rows)) (h : List Rat) :
    MinOver H (weighted01 (gridLabels (totalW ev rows ratio ut fp fn lam)) (gridAbsWeights (totalW ev rows ratio ut fp fn lam))) h
      ↔ MinOver H (lagr ev rows ratio ut fp fn lam) h := by
  exact minOver_affine H _ _ _ _ (Nat.cast_pos.mpr (List.length_pos_of_ne_nil hne))
    (fun h' hh' => grid_weighted_error_affine ev rows ratio ut fp fn lam h' hne (hH h' hh').1 hy (hH h' hh').2) h

open Oracle in
/-- the `DummyClassifier` shortcut is consistent: when every label equals `c`, the constant predictor `c` has
    weighted error 0, which no predictor whatsoever can beat (non-negative weights) — so it is a minimiser over
    ANY hypothesis class that contains it, and no worse than every member of one that does not -/
theorem dummy_is_minimiser (z wt h : List Rat) (c : Rat) (hz : ∀ x ∈ z, x = c) (hw : ∀ x ∈ wt, 0 ≤ x) :
    weighted01 z wt (List.replicate z.length c) = 0 ∧
    weighted01 z wt (List.replicate z.length c) ≤ weighted01 z wt h := by
  have h0 : weighted01 z wt (List.replicate z.length c) = 0 := by
    rw [← List.eq_replicate_iff.mpr ⟨rfl, hz⟩]; exact weighted01_self z wt
  exact ⟨h0, by rw [h0]; exact weighted01_nonneg z wt h hw⟩

open Oracle in
/-- in terms of the Lagrangian: whenever `_call_oracle` takes the shortcut with constant `c`, the constant
    predictor `c` minimises `objective + λ·γ` over ALL hard predictors -/
theorem eg_dummy_minimises_lagrangian (ev : Ev) (rows : List Row) (ratio : Rat) (ut : Util) (fp fn : Rat)
    (lam h y wt : List Rat) (c : Rat) (hne : rows ≠ []) (hl : h.length = rows.length)
    (hy : Hard (labelsOf rows)) (hh : Hard h)
    (hcall : callOracleParity ev rows ratio ut fp fn lam = .dummy c y wt) :
    lagr ev rows ratio ut fp fn lam (List.replicate rows.length c) ≤ lagr ev rows ratio ut fp fn lam h := by
  dsimp only [callOracleParity, callOracle] at hcall
  split at hcall
  · cases hcall
  · exact const_minimises_lagr _ _ eg_reduces egLabel_hard egAbs_nonneg ev rows ratio ut fp fn lam h c hne hl hy hh
      (eg_shortcut_dummy _ _ _ _ _ hcall).2.2

open Oracle in
/-- the same for a `GridSearch.fit` column of a parity moment -/
theorem grid_dummy_minimises_lagrangian (ev : Ev) (rows : List Row) (ratio : Rat) (ut : Util) (fp fn : Rat)
    (lam h y wt : List Rat) (c : Rat) (hne : rows ≠ []) (hl : h.length = rows.length)
    (hy : Hard (labelsOf rows)) (hh : Hard h)
    (hcall : callGridParity ev rows ratio ut fp fn lam = .dummy c y wt) :
    lagr ev rows ratio ut fp fn lam (List.replicate rows.length c) ≤ lagr ev rows ratio ut fp fn lam h := by
  have hall := (grid_shortcut_dummy _ _ _ _ _ hcall).2.2
  rw [gridSignedWeights, if_pos (show OracleSrc.gridAddsObjective OracleSrc.parityObjectiveInSpan = true from rfl),
    gridSignedWeights_eq] at hall
  -- `gridLabel` / `gridAbs` are the text of `egLabel` / `egAbs` (`grid_eq_eg`)
  exact const_minimises_lagr _ _ grid_reduces egLabel_hard egAbs_nonneg ev rows ratio ut fp fn lam h c hne hl hy hh hall

open Oracle in
/-- a row with signed weight 0 gets sample weight 0 … -/
theorem zero_signed_weight_zero_weight : OracleSrc.egAbs 0 = 0 ∧ OracleSrc.gridAbs 0 = 0 ∧
    ∀ n s : Rat, OracleSrc.egNorm n (OracleSrc.egAbs 0) s = 0 := by
  refine ⟨egAbs_zero, egAbs_zero, fun n s => ?_⟩
  rw [egAbs_zero]; unfold OracleSrc.egNorm; simp

open Oracle in
/-- … and the label of a zero-weight row is irrelevant to every predictor's weighted error … -/
theorem zero_weight_label_irrelevant (z z' wt h : List Rat) (hlen : z.length = z'.length)
    (H : ∀ t ∈ (z.zip z').zip wt, t.2 = 0 ∨ t.1.1 = t.1.2) :
    weighted01 z wt h = weighted01 z' wt h :=
  weighted01_congr_labels z z' wt h hlen H

open Oracle in
/-- … so relabelling with `w ≥ 0` instead of `w > 0` gives every predictor the same weighted error, for the
    plain `|w|` weights of GridSearch and the normalised ones of `_call_oracle` alike -/
theorem relabel_nonstrict_harmless (w h : List Rat) :
    weighted01 (w.map (fun x => if x ≥ 0 then (1 : Rat) else 0)) (egAbsWeights w) h
      = weighted01 (egLabels w) (egAbsWeights w) h ∧
    weighted01 (w.map (fun x => if x ≥ 0 then (1 : Rat) else 0)) (egNormWeights w) h
      = weighted01 (egLabels w) (egNormWeights w) h ∧
    weighted01 (w.map (fun x => if x ≥ 0 then (1 : Rat) else 0)) (gridAbsWeights w) h
      = weighted01 (gridLabels w) (gridAbsWeights w) h := by
  -- the two comparisons differ only at `x = 0`, where the weight is 0 (`gridLabel` / `gridAbs` are the same text)
  have key : ∀ x : Rat, OracleSrc.egAbs x = 0 ∨ (if x ≥ 0 then (1 : Rat) else 0) = OracleSrc.egLabel x := by
    intro x
    rcases eq_or_ne x 0 with rfl | hx
    · exact Or.inl egAbs_zero
    · right
      rw [OracleSrc.egLabel, one_mul]
      exact if_congr ⟨fun h => lt_of_le_of_ne h hx.symm, le_of_lt⟩ rfl rfl
  refine ⟨weighted01_map_congr _ _ _ w h key, ?_, weighted01_map_congr _ _ _ w h key⟩
  rw [egNormWeights_scale, weighted01_scale, weighted01_scale]
  exact congrArg _ (weighted01_map_congr _ _ _ w h key)

/-! ### the regression reductions (loss moments) -/

open Oracle in
/-- `_call_oracle` for `BoundedGroupLoss` with non-negative multipliers: the labels are passed unchanged, row `i` gets
    weight `n·(1 + λ_{g_i}/P(g_i)) / S` (the objective `MeanLoss` contributes the 1), and the weighted loss the learner
    is asked to minimise is an increasing affine function of `mean loss + λ·γ`:
    `Σ_i redW_i·loss_i(h) = (n²/S)·(mean loss(h) + λ·γ(h))`, `S = Σ_i (1 + λ_{g_i}/P(g_i)) ≥ n > 0` -/
theorem loss_oracle_identity (l : Loss) (rows : List LRow) (lam h : List Rat) (hne : rows ≠ [])
    (hlam : ∀ x ∈ lam, 0 ≤ x) (hl : h.length = rows.length) :
    let w := vadd (bglSignedWeights (allGroup rows) none) (bglSignedWeights rows (some lam))
    let n := (rows.length : Rat)
    let S := w.sum
    n ≤ S ∧
    (callOracleLoss rows lam = .fit (rows.map (·.y)) (egNormWeights w) ∨
      ∃ c, callOracleLoss rows lam = .dummy c (rows.map (·.y)) (egNormWeights w) ∧ ∀ r ∈ rows, r.y = c) ∧
    dot (egNormWeights w) (lossOf l rows h)
      = (n ^ 2 / S) * ((lossOf l rows h).sum / n + dot lam (bglGamma l rows h)) := by
  intro w n S
  have hn : (0 : Rat) < n := Nat.cast_pos.mpr (List.length_pos_of_ne_nil hne)
  -- (1) the objective contributes weight 1 per row, the constraints `λ_g/P(g) ≥ 0`: so `w ≥ 0` and `S = n + Σ λ/P ≥ n`
  have hones : bglSignedWeights (allGroup rows) none = List.replicate rows.length 1 := by
    rw [loss_weights_default, allGroup, List.length_map]
  have hsw := bglSignedWeights_nonneg rows lam hlam
  have hlen : (bglSignedWeights (allGroup rows) none).length = (bglSignedWeights rows (some lam)).length := by
    rw [hones, List.length_replicate, bglSignedWeights, List.length_map]
  have hwn : ∀ x ∈ w, 0 ≤ x :=
    vadd_nonneg _ _ (fun x hx => by rw [hones] at hx; rw [(List.mem_replicate.mp hx).2]; exact zero_le_one) hsw
  have hS : S = n + (bglSignedWeights rows (some lam)).sum := by
    show w.sum = _
    rw [sum_vadd _ _ hlen, hones, List.sum_replicate, nsmul_eq_mul, mul_one]
  have hSn : n ≤ S := hS ▸ le_add_of_nonneg_right (List.sum_nonneg hsw)
  have hS0 : S ≠ 0 := (hn.trans_le hSn).ne'
  -- (2) on non-negative weights `egAbs` is the identity, so the weights handed over are `n·w/S`
  have habs : egAbsWeights w = w := egAbsWeights_of_nonneg w hwn
  refine ⟨hSn, ?_, ?_⟩
  · have hcall : callOracleLoss rows lam
        = shortcut OracleSrc.egDummyWhen OracleSrc.egDummyPick (rows.map (·.y)) (egNormWeights w) :=
      if_neg (by rw [egSignedWeights_eq, habs]; exact hS0)
    rw [hcall]
    exact (eg_shortcut_cases _ _).imp_right fun ⟨c, hd, hc⟩ => ⟨c, hd, fun r hr => hc _ (List.mem_map_of_mem hr)⟩
  · -- (3) `w·loss = Σ loss + (λ/P)·loss`, and the second summand is `n·λ·γ` by `loss_identity`
    have hwl : (w.length : Rat) = n := by
      show ((List.zipWith _ _ _).length : Rat) = _
      rw [List.length_zipWith, ← hlen, Nat.min_self, hones, List.length_replicate]
    rw [egNormWeights_scale, habs, hwl, dot_map_smul _ (fun a => a), List.map_id', dot_vadd_left _ _ _ hlen, hones,
      ← show (lossOf l rows h).length = rows.length by rw [lossOf, List.length_zipWith, hl, Nat.min_self],
      dot_comm, dot_ones_right, loss_identity l rows lam h hne]
    have hn0 : n ≠ 0 := hn.ne'
    show n / S * _ = n ^ 2 / S * (_ / n + 1 / n * _)
    rw [show n ^ 2 / S = n / S * n by rw [sq, mul_div_right_comm], mul_assoc, mul_add n, ← mul_div_assoc n,
      mul_div_cancel_left₀ _ hn0, one_div, mul_inv_cancel_left₀ hn0]

open Oracle in
/-- one `GridSearch.fit` column for `BoundedGroupLoss`: the objective is in the span of the constraints (lifted flag),
    so the learner gets the labels unchanged and the raw weights `λ_{g_i}/P(g_i)`, whose weighted loss is `n·λ·γ(h)` -/
theorem loss_grid_identity (l : Loss) (rows : List LRow) (lam h : List Rat) (hne : rows ≠ []) :
    (callGridLoss rows lam = .fit (rows.map (·.y)) (bglSignedWeights rows (some lam)) ∨
      ∃ c, callGridLoss rows lam = .dummy c (rows.map (·.y)) (bglSignedWeights rows (some lam)) ∧ ∀ r ∈ rows, r.y = c) ∧
    dot (bglSignedWeights rows (some lam)) (lossOf l rows h) = (rows.length : Rat) * dot lam (bglGamma l rows h) := by
  have hn0 : (rows.length : Rat) ≠ 0 := Nat.cast_ne_zero.mpr (List.length_pos_of_ne_nil hne).ne'
  constructor
  · exact (grid_shortcut_cases _ _).imp_right fun ⟨c, hd, hc⟩ => ⟨c, hd, fun r hr => hc _ (List.mem_map_of_mem hr)⟩
  · rw [loss_identity l rows lam h hne, one_div, mul_inv_cancel_left₀ hn0]

example : Oracle.callOracleLoss [⟨1, "a"⟩, ⟨0, "b"⟩, ⟨1/2, "b"⟩] [1, 2] = .fit [1, 0, 1/2] [1, 1, 1] := by decide +kernel
example : Oracle.callGridLoss [⟨1, "a"⟩, ⟨0, "b"⟩, ⟨1/2, "b"⟩] [1, 2] = .fit [1, 0, 1/2] [3, 3, 3] := by decide +kernel

/-! ### non-vacuity: concrete inputs meeting the hypotheses, evaluated by the kernel -/

def ex1 : List Row :=
  [⟨1, "a", some "x"⟩, ⟨0, "b", some "x"⟩, ⟨1, "a", some "y"⟩, ⟨0, "b", some "y"⟩, ⟨1, "b", some "x"⟩, ⟨1, "a", some "y"⟩]
def hA : List Rat := [1, 0, 1/2, 1, 0, 1]
def hB : List Rat := [0, 1, 1, 1/4, 1, 0]
def lam1 : List Rat := [1, 0, 2, 1/2, 0, 3, 0, 1, 1/4, 2]

example : (index (eventOf .eo) ex1).length = 10 := by decide +kernel
example : signedWeights (eventOf .eo) ex1 (1/2) defaultUtil lam1 = [9/2, 12, 3, 9/4, 9/2, 3] := by
  decide +kernel
example : dot lam1 (gamma (eventOf .eo) ex1 (1/2) defaultUtil hA) - dot lam1 (gamma (eventOf .eo) ex1 (1/2) defaultUtil hB)
    = -(1 / 6) * dot (signedWeights (eventOf .eo) ex1 (1/2) defaultUtil lam1) (vsub hA hB) := by decide +kernel
example : Hard (labelsOf ex1) := by
  show ∀ x ∈ labelsOf ex1, x = 0 ∨ x = 1
  decide +kernel
example : weighted01 (relabel [2, -1, 0]) (absWeights [2, -1, 0]) [0, 1, 1] = 3 := by decide +kernel
example : bglSignedWeights [⟨1, "a"⟩, ⟨0, "b"⟩, ⟨1, "b"⟩] (some [1, 2]) = [3, 3, 3] := by decide +kernel
example : errWeights 2 3 [1, 0] none = [3, -2] := by decide +kernel

example : Oracle.callOracle [1, -1, 1] [1/2, 3, -2] = .fit [1, 1, 0] [1, 4/3, 2/3] := by decide +kernel
example : Oracle.callOracle [1, 1] [1/2, 3] = .dummy 1 [1, 1] [6/11, 16/11] := by decide +kernel
example : Oracle.callOracle [1, -1] [-1, 1] = .nanWeights := by decide +kernel
example : Oracle.callGrid false [1/2, 3, -2] [1, -1, 1] = .fit [1, 1, 0] [3/2, 2, 1] := by decide +kernel
example : Oracle.callGrid true [1/2, 3, -2] [1, -1, 1] = .fit [1, 1, 0] [1/2, 3, 2] := by decide +kernel
example : Oracle.callOracleParity (eventOf .eo) ex1 (1/2) defaultUtil 1 1 lam1
    = .dummy 1 [1, 1, 1, 1, 1, 1] [132/125, 264/125, 96/125, 6/25, 132/125, 96/125] := by decide +kernel
example : (Oracle.egAbsWeights (Oracle.totalW (eventOf .eo) ex1 (1/2) defaultUtil 1 1 lam1)).sum ≠ 0 := by decide +kernel

/-! all hypotheses of the main theorems met simultaneously by `ex1` (6 rows, 2 groups, 2 strata, both
    labels), non-trivial multipliers and two different predictors -/
def hC : List Rat := [1, 0, 1, 1, 0, 1]
def hD : List Rat := [0, 1, 1, 0, 1, 0]
example : ex1 ≠ [] ∧ hC.length = ex1.length ∧ hD.length = ex1.length := by decide +kernel
example : Hard hC ∧ Hard hD := by
  constructor
  · show ∀ x ∈ hC, x = 0 ∨ x = 1
    decide +kernel
  · show ∀ x ∈ hD, x = 0 ∨ x = 1
    decide +kernel
example : Soft hA ∧ Soft hB := by
  constructor
  · show ∀ x ∈ hA, 0 ≤ x ∧ x ≤ 1
    decide +kernel
  · show ∀ x ∈ hB, 0 ≤ x ∧ x ≤ 1
    decide +kernel
-- `objective_identity` / `lagrangian_identity`: both sides are the same NON-ZERO number
example : errGamma 2 3 (labelsOf ex1) hA - errGamma 2 3 (labelsOf ex1) hB
    = -(1 / 6) * dot (errWeights 2 3 (labelsOf ex1) none) (vsub hA hB) ∧
    errGamma 2 3 (labelsOf ex1) hA - errGamma 2 3 (labelsOf ex1) hB ≠ 0 := by decide +kernel
-- `best_response_minimises_lagrangian`: both sides of the ↔ on concrete hard predictors: `hD` beats `hC` on the
-- weighted 0/1 error (43/4 < 33/2) and on the Lagrangian (−11/4 < −43/24); the differences are in ratio n = 6
example :
    let w := vadd (errWeights 1 1 (labelsOf ex1) none) (signedWeights (eventOf .eo) ex1 (1/2) defaultUtil lam1)
    weighted01 (relabel w) (absWeights w) hC = 33/2 ∧ weighted01 (relabel w) (absWeights w) hD = 43/4 ∧
    errGamma 1 1 (labelsOf ex1) hC + dot lam1 (gamma (eventOf .eo) ex1 (1/2) defaultUtil hC) = -43/24 ∧
    errGamma 1 1 (labelsOf ex1) hD + dot lam1 (gamma (eventOf .eo) ex1 (1/2) defaultUtil hD) = -11/4 := by decide +kernel
-- `project_lambda_sound` / `_guarantee`: ratio 1, slack 1/8, λ ≥ 0 with both members of a pair positive; the value
-- strictly increases
example : (observedPairs (eventOf .tpr) ex1).length = 3 := by decide +kernel
example :
    let p := projectLambda 1 [3, 1, 0] [1, 2, 0]
    lagrangianValue 0 ([3, 1, 0] ++ [1, 2, 0]) (gamma (eventOf .tpr) ex1 1 defaultUtil hA) (bound (eventOf .tpr) ex1 (1/8)) = 5/8 ∧
    lagrangianValue 0 (p.1 ++ p.2) (gamma (eventOf .tpr) ex1 1 defaultUtil hA) (bound (eventOf .tpr) ex1 (1/8)) = 9/8 := by
  decide +kernel
-- `loss_identity`: three rows, two groups, non-trivial multipliers, clipping active
example : dot [1, 2] (bglGamma (.square 0 1) [⟨1, "a"⟩, ⟨0, "b"⟩, ⟨1, "b"⟩] [1/2, 2, 1/4])
    = (1 / 3) * dot (bglSignedWeights [⟨1, "a"⟩, ⟨0, "b"⟩, ⟨1, "b"⟩] (some [1, 2])) (lossOf (.square 0 1) [⟨1, "a"⟩, ⟨0, "b"⟩, ⟨1, "b"⟩] [1/2, 2, 1/4]) ∧
    dot [1, 2] (bglGamma (.square 0 1) [⟨1, "a"⟩, ⟨0, "b"⟩, ⟨1, "b"⟩] [1/2, 2, 1/4]) ≠ 0 := by decide +kernel
-- `eg_argmin_iff` / `grid_argmin_iff`: a concrete two-element hypothesis class meets `hH`; `hS` is the example above
open Oracle in
example : ∀ h, (fun h => h = hC ∨ h = hD) h → h.length = ex1.length ∧ Hard h := by
  rintro h (rfl | rfl)
  · exact ⟨by decide, by show ∀ x ∈ hC, x = 0 ∨ x = 1; decide +kernel⟩
  · exact ⟨by decide, by show ∀ x ∈ hD, x = 0 ∨ x = 1; decide +kernel⟩
-- `loss_oracle_identity`: λ ≥ 0 on three rows
example : (∀ x ∈ ([1, 2] : List Rat), 0 ≤ x) := by decide +kernel

end C07
