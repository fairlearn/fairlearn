/-
C06X — composition theorems C06 ↔ C03: "the moment's constraint is satisfied" ⇒ "the user-facing fairness
metric of `fairlearn.metrics` is bounded".

Left-hand sides are stated with the moments model (`Moments.gamma`, `Moments.bound`, any event rule `ev`,
any number of rows / groups / control strata); right-hand sides with the named-metric model of C03
(`Fairness.named`, `Fairness.eodds`, `Fairness.run`) evaluated on the frame `Cross.toFrame S rows h` a user
would build from the same samples (unit weights, the moment's group as the sensitive feature, `S` = all
rows or one control stratum).  Bridge lemmas: `Lemmas/CrossRates.lean` (means), `CrossFrame.lean` (frames),
`CrossError.lean` (error rates), `CrossStrings.lean` (event labels and selectors).

Reading guide: `GammaLe ev rows ratio ut h eps` ⇔ `gamma(h) ≤ bound()` entrywise (`constraint_iff_bound`).
`h` is ANY rational prediction vector.  Hard predictions (`Hard h`, entries 0/1) are where MetricFrame's
`selection_rate` / `true_positive_rate` / `false_positive_rate` apply directly; for a randomised classifier
the same inequalities hold for the EXPECTED rates (`expected_rates_of_constraint`, via affinity of gamma).

The generic theorems take the event's row selector as a hypothesis `hS : ∀ r, inE ev e r = (S r && r.y == c)`;
the `*_constraint_bounds_*` theorems instantiate it for the real rules `eventOf .tpr / .fpr / .eo`
(`S := fun r => r.c == none` without control features — NOT `fun _ => true`, which no real rule satisfies for rows carrying a control value —, and
`S := fun r => r.c == some c0` inside a stratum).
-/
import FairModel.Lemmas.CrossFrame
import FairModel.Lemmas.CrossError
import FairModel.Lemmas.CrossStrings

namespace C06
open Moments Cross Fairness Frame MetricPool XR Aggregate

/-- `gamma(h) ≤ bound()` entry by entry is `GammaLe` -/
theorem constraint_iff_bound (ev : Ev) (rows : List Row) (ratio : Rat) (ut : Util) (h : List Rat) (eps : Rat) :
    (∀ p ∈ (gamma ev rows ratio ut h).zip (bound ev rows eps), p.1 ≤ p.2) ↔ GammaLe ev rows ratio ut h eps :=
  (gammaLe_iff_bound ev rows ratio ut h eps).symm

/-- **constraint ⇔ rate inequalities**: `gamma(h) ≤ eps` entrywise iff for every observed (event, group):
    `ratio·mean_{e,g} − mean_e ≤ eps` and `ratio·mean_e − mean_{e,g} ≤ eps` (means of the utility) -/
theorem constraint_iff_rates (ev : Ev) (rows : List Row) (ratio : Rat) (ut : Util) (h : List Rat) (eps : Rat) :
    GammaLe ev rows ratio ut h eps ↔
      ∀ e g, Observed ev rows e g →
        ratio * mEG ev rows ut h e g - mE ev rows ut h e ≤ eps ∧
        ratio * mE ev rows ut h e - mEG ev rows ut h e g ≤ eps :=
  ⟨fun hg _ _ hobs => rates_of_gammaLe hg hobs, gammaLe_of_rates⟩

/-- difference bound: `|mean_{e,g} − mean_e| ≤ eps`, and `|mean_{e,g} − mean_{e,g'}| ≤ 2·eps` -/
theorem constraint_difference (ev : Ev) (rows : List Row) (ut : Util) (h : List Rat) (eps : Rat)
    (hg : GammaLe ev rows 1 ut h eps) (e g g' : String)
    (hobs : Observed ev rows e g) (hobs' : Observed ev rows e g') :
    |mEG ev rows ut h e g - mE ev rows ut h e| ≤ eps ∧
    |mEG ev rows ut h e g - mEG ev rows ut h e g'| ≤ 2 * eps :=
  ⟨abs_le_of_gammaLe hg hobs, abs_pair_le_of_gammaLe hg hobs hobs'⟩

/-- the "2" is sharp: two groups at `m − eps` and `m + eps` (equal sizes) satisfy the constraint with slack
    exactly `eps = 1/4` and differ by `2·eps` -/
theorem constraint_difference_two_sharp :
    let rows : List Row := [⟨0, "a", none⟩, ⟨0, "a", none⟩, ⟨0, "a", none⟩, ⟨0, "a", none⟩,
                            ⟨0, "b", none⟩, ⟨0, "b", none⟩, ⟨0, "b", none⟩, ⟨0, "b", none⟩]
    let h : List Rat := [1, 0, 0, 0, 1, 1, 1, 0]
    GammaLe (eventOf .dp) rows 1 defaultUtil h (1/4) ∧
    mEG (eventOf .dp) rows defaultUtil h "all" "b" - mEG (eventOf .dp) rows defaultUtil h "all" "a" = 2 * (1/4) := by
  decide +kernel

/-- the overall (event) mean is a frequency-weighted mean of the group means … -/
theorem mixing (ev : Ev) (rows : List Row) (u : List Rat) (e : String) :
    meanOn (inE ev e) rows u * (countE ev rows e : Rat)
      = ((groupVals rows).map (fun g => meanOn (inEG ev e g) rows u * (countEG ev rows e g : Rat))).sum ∧
    (countE ev rows e : Rat) = ((groupVals rows).map (fun g => (countEG ev rows e g : Rat))).sum := by
  -- over ALL group names of the data (groups not occurring in the event contribute 0); the bounds below use the
  -- same identity over the observed groups only (`Cross.mE_between`)
  have hp : ∀ u, sumOn (inE ev e) rows u = ((groupVals rows).map (fun g => sumOn (inEG ev e g) rows u)).sum :=
    fun u => (sum_groups (groupVals rows) (nodup_dedupFirst _) (inE ev e) rows u
      (fun r hr _ => (mem_dedupFirst _ _).mpr (List.mem_map.mpr ⟨r, hr, rfl⟩))).symm
  unfold countE countEG
  constructor
  · rw [meanOn_mul_count, hp u]
    simp only [meanOn_mul_count]
  · rw [← sumOn_ones, hp]
    simp only [sumOn_ones]

/-- … hence lies between the smallest and the largest of them -/
theorem overall_between_groups (ev : Ev) (rows : List Row) (u : List Rat) (e : String) (lo hi : Rat)
    (hb : ∀ g, Observed ev rows e g → lo ≤ meanOn (inEG ev e g) rows u ∧ meanOn (inEG ev e g) rows u ≤ hi)
    (hne : ∃ g, Observed ev rows e g) :
    lo ≤ meanOn (inE ev e) rows u ∧ meanOn (inE ev e) rows u ≤ hi :=
  mE_between ev rows u e lo hi hb hne

/-- `spec` (a C03 base-rate specification) on the frame `frows` reads off the means of event `e` -/
structure Dict (ev : Ev) (rows : List Row) (h : List Rat) (e : String) (spec : List Dat → Rat)
    (frows : List (Frame.Row Dat)) : Prop where
  grp : ∀ r' ∈ frows, ∃ g, Observed ev rows e g ∧ spec (groupOf frows r') = mEG ev rows defaultUtil h e g
  all : spec (slice frows) = mE ev rows defaultUtil h e

/-- `spec` on the frame reads off `a·(mean of the utility) + b` of event `e` (`Dict` is `a = 1`, `b = 0`, default
    utilities; accuracy under ErrorRateParity is `a = −1`, `b = 1`) -/
structure DictA (ev : Ev) (rows : List Row) (ut : Util) (h : List Rat) (e : String) (a b : Rat)
    (spec : List Dat → Rat) (frows : List (Frame.Row Dat)) : Prop where
  grp : ∀ r' ∈ frows, ∃ g, Observed ev rows e g ∧ spec (groupOf frows r') = a * mEG ev rows ut h e g + b
  all : spec (slice frows) = a * mE ev rows ut h e + b

theorem Dict.toDictA {ev : Ev} {rows : List Row} {h : List Rat} {e : String} {spec : List Dat → Rat}
    {frows : List (Frame.Row Dat)} (hd : Dict ev rows h e spec frows) :
    DictA ev rows defaultUtil h e 1 0 spec frows :=
  ⟨fun r' hr' => by obtain ⟨g, ho, hv⟩ := hd.grp r' hr'; exact ⟨g, ho, by rw [hv]; ring⟩, by rw [hd.all]; ring⟩

/-- every observed group of the event has a row in the frame, with the group's mean as its value -/
def Covers (ev : Ev) (rows : List Row) (h : List Rat) (e : String) (spec : List Dat → Rat)
    (frows : List (Frame.Row Dat)) : Prop :=
  ∀ g, Observed ev rows e g → ∃ r' ∈ frows, spec (groupOf frows r') = mEG ev rows defaultUtil h e g

/-- **the one dictionary**: event `e` selects the rows of stratum `S` that satisfy `L` (`L` = a label class for
    TPR / FPR, everything for selection rate, mean prediction, error rates), and on every non-empty selection `P`
    the specification is `φ` of the mean utility over the `L`-rows of `P`.  Then on the frame of `S` (ALL its rows)
    every group that has an `L`-row is an observed group of `e` with value `φ(mean_{e,g})`, the whole frame has
    value `φ(mean_e)`, and every observed group of `e` has a row in the frame -/
theorem dict_of_selector {ev : Ev} {rows : List Row} {ut : Util} {h : List Rat} {e : String} {spec : List Dat → Rat}
    (φ : Rat → Rat) (S L : Row → Bool) (hl : h.length = rows.length)
    (hspec : ∀ P : Row → Bool, rows.filter P ≠ [] →
      spec (selDat P rows h) = φ (meanOn (fun r => P r && L r) rows (predOf ut rows h)))
    (hS : ∀ r, inE ev e r = (S r && L r)) (hne : rows.filter S ≠ [])
    (hcov : ∀ r ∈ rows, S r = true → ∃ r2 ∈ rows, S r2 = true ∧ r2.g = r.g ∧ L r2 = true) :
    (∀ r' ∈ toFrame S rows h, ∃ g, Observed ev rows e g ∧
      spec (groupOf (toFrame S rows h) r') = φ (mEG ev rows ut h e g)) ∧
    spec (slice (toFrame S rows h)) = φ (mE ev rows ut h e) ∧
    ∀ g, Observed ev rows e g →
      ∃ r' ∈ toFrame S rows h, spec (groupOf (toFrame S rows h) r') = φ (mEG ev rows ut h e g) := by
  have key : ∀ t : Row × Rat, t.1 ∈ rows → S t.1 = true →
      spec (groupOf (toFrame S rows h) (frow t)) = φ (mEG ev rows ut h e t.1.g) := by
    intro t ht hs
    rw [groupOf_toFrame, hspec _ (List.ne_nil_of_mem (List.mem_filter.mpr ⟨ht, by simp [hs]⟩))]
    congr 2
    funext r
    rw [inEG_eq, hS, Bool.and_right_comm]
  refine ⟨fun r' hr' => ?_, ?_, fun g ⟨r, hr, hre, hrg⟩ => ?_⟩
  · obtain ⟨r, p, hz, hs, rfl⟩ := mem_toFrame hr'
    have ht := (List.of_mem_zip hz).1
    obtain ⟨r2, hr2, hs2, hg2, hL2⟩ := hcov r ht hs
    exact ⟨r.g, hg2 ▸ observed_of_inE hr2 (by rw [hS, hs2, hL2]; rfl), key (r, p) ht hs⟩
  · rw [slice_toFrame, hspec S hne]
    congr 2
    funext r
    exact (hS r).symm
  · have hs : S r = true := by
      have hin : inE ev e r = true := by simp [inE, hre]
      rw [hS, Bool.and_eq_true] at hin
      exact hin.1
    obtain ⟨p, hp⟩ := mem_toFrame_of_mem (h := h) hl hr hs
    exact ⟨_, hp, hrg ▸ key (r, p) hr hs⟩

/-- a specification that is the plain mean of the predictions over the selected rows (selection rate of a hard
    predictor, mean prediction) -/
theorem mean_dict (ev : Ev) (rows : List Row) (h : List Rat) (e : String) (spec : List Dat → Rat)
    (hspec : ∀ P : Row → Bool, spec (selDat P rows h) = meanOn P rows h)
    (hl : h.length = rows.length) (hne : ∃ g, Observed ev rows e g) :
    Dict ev rows h e spec (toFrame (inE ev e) rows h) ∧ Covers ev rows h e spec (toFrame (inE ev e) rows h) := by
  obtain ⟨h1, h2, h3⟩ := dict_of_selector (ev := ev) (e := e) (ut := defaultUtil) (spec := spec) (fun x => x)
    (inE ev e) (fun _ => true) hl (fun P _ => by rw [hspec, pred_default rows h hl]; simp only [Bool.and_true])
    (fun r => (Bool.and_true _).symm) (filter_inE_ne_nil hne) (fun r hr hs => ⟨r, hr, hs, rfl, rfl⟩)
  exact ⟨⟨h1, h2⟩, h3⟩

theorem selrate_covers (ev : Ev) (rows : List Row) (h : List Rat) (e : String)
    (hl : h.length = rows.length) (hh : Hard h) :
    Covers ev rows h e selRateSpec (toFrame (inE ev e) rows h) :=
  fun g hobs => (mean_dict ev rows h e _ (fun P => selRateSpec_selDat P rows h hl hh) hl ⟨g, hobs⟩).2 g hobs

/-- TPR (`c = 1`) / FPR (`c = 0`) on the frame of stratum `S` (ALL labels), when event `e` selects the
    label-`c` rows of `S` and every group of `S` has a label-`c` row -/
theorem rate_dict (ev : Ev) (rows : List Row) (h : List Rat) (e : String) (S : Row → Bool) (c : Int)
    (spec : List Dat → Rat)
    (hspec : ∀ P : Row → Bool, spec (selDat P rows h) = meanOn (fun r => P r && (r.y == c)) rows h)
    (hl : h.length = rows.length) (hne : rows.filter S ≠ [])
    (hS : ∀ r, inE ev e r = (S r && (r.y == c)))
    (hcov : ∀ r ∈ rows, S r = true → ∃ r2 ∈ rows, S r2 = true ∧ r2.g = r.g ∧ r2.y = c) :
    Dict ev rows h e spec (toFrame S rows h) ∧ Covers ev rows h e spec (toFrame S rows h) := by
  obtain ⟨h1, h2, h3⟩ := dict_of_selector (ev := ev) (e := e) (ut := defaultUtil) (spec := spec) (fun x => x) S
    (fun r => r.y == c) hl (fun P _ => by rw [hspec, pred_default rows h hl]) hS hne
    (fun r hr hs => by obtain ⟨r2, h2, hs2, hg2, hy2⟩ := hcov r hr hs; exact ⟨r2, h2, hs2, hg2, by simp [hy2]⟩)
  exact ⟨⟨h1, h2⟩, h3⟩

/-- the named functions return `some` / `some (some ·)` of the MetricFrame value: carry a bound across -/
theorem exists_value_map {α β γ : Type} (f : β → γ) {x : β} {v : α → β} {P : α → Prop}
    (h : ∃ D, x = v D ∧ P D) : ∃ D, f x = f (v D) ∧ P D :=
  h.imp fun _ hD => ⟨congrArg f hD.1, hD.2⟩

/-- the generated functions `accuracy_score_difference`, `zero_one_loss_difference`, `false_positive_rate_ratio` (entries
    of the lifted `METRICS_SPEC`) are the MetricFrame aggregate of their base metric -/
theorem accuracy_score_difference_def (meth : Method) (nsf : Nat) (frows : List (Frame.Row Dat)) :
    generated "accuracy_score_difference" meth nsf frows = some (some (run .accuracy .difference meth true nsf frows)) :=
  C03.generated_of_mem (g := ("accuracy_score_difference", "accuracy_score", "difference")) (by decide +kernel)
    (m := .accuracy) (by decide +kernel) meth nsf frows

theorem zero_one_loss_difference_def (meth : Method) (nsf : Nat) (frows : List (Frame.Row Dat)) :
    generated "zero_one_loss_difference" meth nsf frows = some (some (run .zeroOne .difference meth true nsf frows)) :=
  C03.generated_of_mem (g := ("zero_one_loss_difference", "zero_one_loss", "difference")) (by decide +kernel)
    (m := .zeroOne) (by decide +kernel) meth nsf frows

theorem false_positive_rate_ratio_def (meth : Method) (nsf : Nat) (frows : List (Frame.Row Dat)) :
    generated "false_positive_rate_ratio" meth nsf frows = some (some (run .fpr .ratio meth true nsf frows)) :=
  C03.generated_of_mem (g := ("false_positive_rate_ratio", "false_positive_rate", "ratio")) (by decide +kernel)
    (m := .fpr) (by decide +kernel) meth nsf frows

/-- **constraint ⇒ MetricFrame difference**, for any utilities and any affine reading `a·mean + b` with `|a| ≤ 1` of
    the metric's per-group values: if the difference constraint holds with slack `eps`, the metric has
    `difference(method="to_overall") ≤ eps` and `difference(method="between_groups") ≤ 2·eps` -/
theorem difference_le_of_constraint_affine {ev : Ev} {rows : List Row} {ut : Util} {h : List Rat} {e : String}
    {a b : Rat} {spec : List Dat → Rat} {frows : List (Frame.Row Dat)} {m : Metric}
    (hv : C03.Valid 1 frows) (hf : FiniteOn (eval m) spec frows)
    (hd : DictA ev rows ut h e a b spec frows) (ha : |a| ≤ 1) {eps : Rat} (hg : GammaLe ev rows 1 ut h eps) :
    (∃ D, run m .difference .toOverall true 1 frows = .value (fin D) ∧ 0 ≤ D ∧ D ≤ eps) ∧
    (∃ D, run m .difference .between true 1 frows = .value (fin D) ∧ 0 ≤ D ∧ D ≤ 2 * eps) := by
  have key : ∀ x y c : Rat, |x - y| ≤ c → |a * x + b - (a * y + b)| ≤ c := by
    intro x y c hxy
    rw [add_sub_add_right_eq_sub, ← mul_sub, abs_mul]
    exact (mul_le_of_le_one_left (abs_nonneg _) ha).trans hxy
  constructor
  · apply diff_overall_le hv hf
    intro r hr
    obtain ⟨g, hobs, hgv⟩ := hd.grp r hr
    rw [hgv, hd.all]
    exact key _ _ _ (abs_le_of_gammaLe hg hobs)
  · apply diff_between_le hv hf
    intro r hr r' hr'
    obtain ⟨g, hobs, hgv⟩ := hd.grp r hr
    obtain ⟨g', hobs', hgv'⟩ := hd.grp r' hr'
    rw [hgv, hgv']
    exact key _ _ _ (abs_pair_le_of_gammaLe hg hobs hobs')

/-- which rows the DP events select: all rows when there are no control features … -/
theorem dp_all_rows (rows : List Row) (h : List Rat) (hc : ∀ r ∈ rows, r.c = none) :
    toFrame (inE (eventOf .dp) MomentsSrc.allEvent) rows h = toFrame (fun _ => true) rows h := by
  unfold toFrame
  congr 1
  apply List.filter_congr
  intro t ht
  rw [dp_event_selects, hc t.1 (List.of_mem_zip ht).1]; rfl

/-- … and exactly the rows of stratum `c0` for the event `control=c0,all` -/
theorem dp_stratum_rows (rows : List Row) (h : List Rat) (c0 : String) :
    toFrame (inE (eventOf .dp) (MomentsSrc.ctrlFormat c0 MomentsSrc.allEvent)) rows h
      = toFrame (fun r => r.c == some c0) rows h := by
  unfold toFrame
  congr 1
  apply List.filter_congr
  intro t _
  rw [dp_event_selects_in_stratum]

/-- **DemographicParity(difference_bound = eps) satisfied ⇒ demographic_parity_difference ≤ eps (to_overall),
    ≤ 2·eps (between_groups)** — for a hard predictor `h`, on the rows of event `e`: `e = "all"` (no control
    features: every row, `dp_all_rows`) or `e = "control=c,all"` (the rows of control stratum `c`,
    `dp_stratum_rows`), i.e. per stratum -/
theorem dp_difference_le_of_constraint (ev : Ev) (rows : List Row) (h : List Rat) (eps : Rat) (e : String)
    (hl : h.length = rows.length) (hh : Hard h) (hne : ∃ g, Observed ev rows e g)
    (hg : GammaLe ev rows 1 defaultUtil h eps) :
    (∃ D, named "demographic_parity_difference" .toOverall 1 (toFrame (inE ev e) rows h) = some (.value (fin D)) ∧
      0 ≤ D ∧ D ≤ eps) ∧
    (∃ D, named "demographic_parity_difference" .between 1 (toFrame (inE ev e) rows h) = some (.value (fin D)) ∧
      0 ≤ D ∧ D ≤ 2 * eps) := by
  have hv := toFrame_valid (inE ev e) rows h hl (filter_inE_ne_nil hne)
  have := difference_le_of_constraint_affine (m := .selrate) hv (C03.selrate_finiteOn hv)
    (mean_dict ev rows h e _ (fun P => selRateSpec_selDat P rows h hl hh) hl hne).1.toDictA abs_one.le hg
  simp only [C03.demographic_parity_difference_def]
  exact ⟨exists_value_map some this.1, exists_value_map some this.2⟩

/-- **soft / expected predictions**: DemographicParity satisfied ⇒
    `MetricFrame(metrics=mean_prediction, …).difference(method="to_overall") ≤ eps`, `"between_groups" ≤ 2·eps`
    (for hard predictions `mean_prediction` = `selection_rate`, i.e. this is demographic_parity_difference) -/
theorem meanpred_difference_le_of_constraint (ev : Ev) (rows : List Row) (h : List Rat) (eps : Rat) (e : String)
    (hl : h.length = rows.length) (hne : ∃ g, Observed ev rows e g)
    (hg : GammaLe ev rows 1 defaultUtil h eps) :
    (∃ D, run .meanpred .difference .toOverall true 1 (toFrame (inE ev e) rows h) = .value (fin D) ∧ 0 ≤ D ∧ D ≤ eps) ∧
    (∃ D, run .meanpred .difference .between true 1 (toFrame (inE ev e) rows h) = .value (fin D) ∧ 0 ≤ D ∧ D ≤ 2 * eps) := by
  have hv := toFrame_valid (inE ev e) rows h hl (filter_inE_ne_nil hne)
  exact difference_le_of_constraint_affine (m := .meanpred) hv (meanpred_finiteOn hv)
    (mean_dict ev rows h e _ (fun P => meanPredSpec_selDat P rows h hl) hl hne).1.toDictA abs_one.le hg

/-- **TruePositiveRateParity satisfied ⇒ equal_opportunity_difference ≤ eps / 2·eps** on stratum `S`
    (`S = fun r => r.c == none` without control features), provided every group of `S` has a positive example -/
theorem eopp_difference_le_of_constraint (ev : Ev) (rows : List Row) (h : List Rat) (eps : Rat) (e : String)
    (S : Row → Bool) (hl : h.length = rows.length) (hh : Hard h) (hy : ∀ r ∈ rows, r.y = 0 ∨ r.y = 1)
    (hne : rows.filter S ≠ [])
    (hS : ∀ r, inE ev e r = (S r && (r.y == 1)))
    (hcov : ∀ r ∈ rows, S r = true → ∃ r2 ∈ rows, S r2 = true ∧ r2.g = r.g ∧ r2.y = 1)
    (hg : GammaLe ev rows 1 defaultUtil h eps) :
    (∃ D, named "equal_opportunity_difference" .toOverall 1 (toFrame S rows h) = some (.value (fin D)) ∧
      0 ≤ D ∧ D ≤ eps) ∧
    (∃ D, named "equal_opportunity_difference" .between 1 (toFrame S rows h) = some (.value (fin D)) ∧
      0 ≤ D ∧ D ≤ 2 * eps) := by
  have hv := toFrame_valid S rows h hl hne
  have hb := toFrame_binary S rows h hy hh
  have := difference_le_of_constraint_affine (m := .tpr) hv (C03.tpr_finiteOn hb)
    (rate_dict ev rows h e S 1 tprSpec (fun P => tprSpec_selDat P rows h hl hh) hl hne hS hcov).1.toDictA abs_one.le hg
  simp only [C03.equal_opportunity_difference_def]
  exact ⟨exists_value_map some this.1, exists_value_map some this.2⟩

/-- **the coverage hypothesis is necessary**: group "b" has no positive example, so TruePositiveRateParity
    places NO constraint on it (its index has no entry for "b") and is satisfied with slack 0, while
    `true_positive_rate` of "b" is 0 by convention and equal_opportunity_difference is 1 -/
theorem eopp_uncovered_group_counterexample :
    let rows : List Row := [⟨1, "a", none⟩, ⟨0, "b", none⟩]
    let h : List Rat := [1, 0]
    GammaLe (eventOf .tpr) rows 1 defaultUtil h 0 ∧
    named "equal_opportunity_difference" .between 1 (toFrame (fun _ => true) rows h) = some (.value (fin 1)) := by
  decide +kernel

/-- **FalsePositiveRateParity satisfied ⇒ false_positive_rate difference ≤ eps / 2·eps** -/
theorem fpr_difference_le_of_constraint (ev : Ev) (rows : List Row) (h : List Rat) (eps : Rat) (e : String)
    (S : Row → Bool) (hl : h.length = rows.length) (hh : Hard h) (hy : ∀ r ∈ rows, r.y = 0 ∨ r.y = 1)
    (hne : rows.filter S ≠ [])
    (hS : ∀ r, inE ev e r = (S r && (r.y == 0)))
    (hcov : ∀ r ∈ rows, S r = true → ∃ r2 ∈ rows, S r2 = true ∧ r2.g = r.g ∧ r2.y = 0)
    (hg : GammaLe ev rows 1 defaultUtil h eps) :
    (∃ D, run .fpr .difference .toOverall true 1 (toFrame S rows h) = .value (fin D) ∧ 0 ≤ D ∧ D ≤ eps) ∧
    (∃ D, run .fpr .difference .between true 1 (toFrame S rows h) = .value (fin D) ∧ 0 ≤ D ∧ D ≤ 2 * eps) := by
  have hv := toFrame_valid S rows h hl hne
  have hb := toFrame_binary S rows h hy hh
  exact difference_le_of_constraint_affine (m := .fpr) hv (C03.fpr_finiteOn hb)
    (rate_dict ev rows h e S 0 fprSpec (fun P => fprSpec_selDat P rows h hl hh) hl hne hS hcov).1.toDictA abs_one.le hg

/-- **EqualizedOdds satisfied ⇒ equalized_odds_difference (agg = worst_case) ≤ eps (to_overall), ≤ 2·eps
    (between_groups)**: `e1` / `e0` are the events selecting the positives / negatives of stratum `S`; every
    group of `S` has both labels -/
theorem eodds_difference_le_of_constraint (ev : Ev) (rows : List Row) (h : List Rat) (eps : Rat) (e1 e0 : String)
    (S : Row → Bool) (hl : h.length = rows.length) (hh : Hard h) (hy : ∀ r ∈ rows, r.y = 0 ∨ r.y = 1)
    (hne : rows.filter S ≠ [])
    (hS1 : ∀ r, inE ev e1 r = (S r && (r.y == 1))) (hS0 : ∀ r, inE ev e0 r = (S r && (r.y == 0)))
    (hcov1 : ∀ r ∈ rows, S r = true → ∃ r2 ∈ rows, S r2 = true ∧ r2.g = r.g ∧ r2.y = 1)
    (hcov0 : ∀ r ∈ rows, S r = true → ∃ r2 ∈ rows, S r2 = true ∧ r2.g = r.g ∧ r2.y = 0)
    (hg : GammaLe ev rows 1 defaultUtil h eps) :
    (∃ D, eodds "equalized_odds_difference" .toOverall .worstCase 1 (toFrame S rows h) = some (.value (fin D)) ∧
      0 ≤ D ∧ D ≤ eps) ∧
    (∃ D, eodds "equalized_odds_difference" .between .worstCase 1 (toFrame S rows h) = some (.value (fin D)) ∧
      0 ≤ D ∧ D ≤ 2 * eps) := by
  have hv := toFrame_valid S rows h hl hne
  have hb := toFrame_binary S rows h hy hh
  obtain ⟨⟨Dt, ht, ht0, hte⟩, ⟨Dt', ht', ht0', hte'⟩⟩ :=
    difference_le_of_constraint_affine (m := .tpr) hv (C03.tpr_finiteOn hb)
    (rate_dict ev rows h e1 S 1 tprSpec (fun P => tprSpec_selDat P rows h hl hh) hl hne hS1 hcov1).1.toDictA abs_one.le hg
  obtain ⟨⟨Df, hf, _, hfe⟩, ⟨Df', hf', _, hfe'⟩⟩ :=
    difference_le_of_constraint_affine (m := .fpr) hv (C03.fpr_finiteOn hb)
    (rate_dict ev rows h e0 S 0 fprSpec (fun P => fprSpec_selDat P rows h hl hh) hl hne hS0 hcov0).1.toDictA abs_one.le hg
  exact ⟨⟨max Dt Df, (eodds_difference_of_runs ht hf .worstCase).trans (congrArg (Option.map Res.value) (C03.pyFold_max_fin ..)), le_trans ht0 (le_max_left _ _), max_le hte hfe⟩,
    ⟨max Dt' Df', (eodds_difference_of_runs ht' hf' .worstCase).trans (congrArg (Option.map Res.value) (C03.pyFold_max_fin ..)), le_trans ht0' (le_max_left _ _), max_le hte' hfe'⟩⟩

/-- **ErrorRateParity(difference_bound = eps) satisfied ⇒ `accuracy_score_difference` and `zero_one_loss_difference`
    are ≤ eps (to_overall) and ≤ 2·eps (between_groups)** — hard predictor, 0/1 labels, on the rows of event `e`
    (`"all"`: every row; `"control=c,all"`: the rows of control stratum `c` — `erp_constraint_bounds`) -/
theorem erp_difference_le_of_constraint (ev : Ev) (rows : List Row) (h : List Rat) (eps : Rat) (e : String)
    (hl : h.length = rows.length) (hh : Hard h) (hy : ∀ r ∈ rows, r.y = 0 ∨ r.y = 1)
    (hne : ∃ g, Observed ev rows e g) (hg : GammaLe ev rows 1 erpUtil h eps) :
    ((∃ D, generated "accuracy_score_difference" .toOverall 1 (toFrame (inE ev e) rows h) = some (some (.value (fin D))) ∧
        0 ≤ D ∧ D ≤ eps) ∧
     (∃ D, generated "accuracy_score_difference" .between 1 (toFrame (inE ev e) rows h) = some (some (.value (fin D))) ∧
        0 ≤ D ∧ D ≤ 2 * eps)) ∧
    ((∃ D, generated "zero_one_loss_difference" .toOverall 1 (toFrame (inE ev e) rows h) = some (some (.value (fin D))) ∧
        0 ≤ D ∧ D ≤ eps) ∧
     (∃ D, generated "zero_one_loss_difference" .between 1 (toFrame (inE ev e) rows h) = some (some (.value (fin D))) ∧
        0 ≤ D ∧ D ≤ 2 * eps)) := by
  have hv := toFrame_valid (inE ev e) rows h hl (filter_inE_ne_nil hne)
  have hb := toFrame_binary (inE ev e) rows h hy hh
  -- `zero_one_loss` IS the mean of the ErrorRateParity utility and `accuracy_score` is one minus it
  obtain ⟨z1, z2, _⟩ := dict_of_selector (ev := ev) (e := e) (ut := erpUtil) (spec := zeroOneSpec) (fun x => 1 * x + 0)
    (inE ev e) (fun _ => true) hl
    (fun P _ => by rw [zeroOneSpec_selDat P rows h hl hy hh, one_mul, add_zero]; simp only [Bool.and_true])
    (fun r => (Bool.and_true _).symm) (filter_inE_ne_nil hne) (fun r hr hs => ⟨r, hr, hs, rfl, rfl⟩)
  obtain ⟨a1, a2, _⟩ := dict_of_selector (ev := ev) (e := e) (ut := erpUtil) (spec := accuracySpec) (fun x => -1 * x + 1)
    (inE ev e) (fun _ => true) hl
    (fun P hP => by
      rw [accuracy_eq_one_sub_zeroOne_selDat P rows h hl hP, zeroOneSpec_selDat P rows h hl hy hh]; simp only [Bool.and_true]; ring)
    (fun r => (Bool.and_true _).symm) (filter_inE_ne_nil hne) (fun r hr hs => ⟨r, hr, hs, rfl, rfl⟩)
  have hdZ : DictA ev rows erpUtil h e 1 0 zeroOneSpec _ := ⟨z1, z2⟩
  have hdA : DictA ev rows erpUtil h e (-1) 1 accuracySpec _ := ⟨a1, a2⟩
  have hA := difference_le_of_constraint_affine (m := .accuracy) hv
    (C03.finiteOn_of_spec hv hb (rfl : C03.specOf .accuracy = some accuracySpec)) hdA (by norm_num) hg
  have hZ := difference_le_of_constraint_affine (m := .zeroOne) hv
    (C03.finiteOn_of_spec hv hb (rfl : C03.specOf .zeroOne = some zeroOneSpec)) hdZ (by norm_num) hg
  simp only [accuracy_score_difference_def, zero_one_loss_difference_def]
  exact ⟨⟨exists_value_map (some ∘ some) hA.1, exists_value_map (some ∘ some) hA.2⟩,
    ⟨exists_value_map (some ∘ some) hZ.1, exists_value_map (some ∘ some) hZ.2⟩⟩

/-- **ratio constraint ⇒ rate window**: with `ratio_bound = r ∈ (0,1]` and `ratio_bound_slack = eps`, every group
    mean lies in `[r·m − eps, (m + eps)/r]`, `m` the event mean -/
theorem constraint_ratio_window (ev : Ev) (rows : List Row) (ratio : Rat) (ut : Util) (h : List Rat) (eps : Rat)
    (hr : 0 < ratio) (hg : GammaLe ev rows ratio ut h eps) (e g : String) (hobs : Observed ev rows e g) :
    ratio * mE ev rows ut h e - eps ≤ mEG ev rows ut h e g ∧
    mEG ev rows ut h e g ≤ (mE ev rows ut h e + eps) / ratio :=
  ratio_window hr hg hobs

section ratio
variable {ev : Ev} {rows : List Row} {h : List Rat} {e : String} {spec : List Dat → Rat}
  {frows : List (Frame.Row Dat)} {m : Metric}

/-- **ratio constraint ⇒ MetricFrame ratio**, generic in the base metric: if `gamma ≤ eps` holds with
    `ratio_bound = r ∈ (0,1]`, `eps ≥ 0`, the predictions are non-negative and the event mean `μ` is positive, then
      `ratio(method="between_groups") ≥ r·(r·μ − eps)/(μ + eps)`,
      `ratio(method="to_overall")    ≥ (r·μ − eps)/μ`  -/
theorem ratio_ge_of_constraint (hv : C03.Valid 1 frows) (hf : FiniteOn (eval m) spec frows)
    (hd : Dict ev rows h e spec frows) (hc : Covers ev rows h e spec frows)
    (hl : h.length = rows.length) (hnn : ∀ x ∈ h, 0 ≤ x)
    {ratio eps : Rat} (hr : 0 < ratio) (hr1 : ratio ≤ 1) (he : 0 ≤ eps)
    (hm : 0 < mE ev rows defaultUtil h e)
    (hg : GammaLe ev rows ratio defaultUtil h eps) :
    (∃ ρ, run m .ratio .between true 1 frows = .value (fin ρ) ∧
      ratio * (ratio * mE ev rows defaultUtil h e - eps) / (mE ev rows defaultUtil h e + eps) ≤ ρ) ∧
    (∃ ρ, run m .ratio .toOverall true 1 frows = .value (fin ρ) ∧
      (ratio * mE ev rows defaultUtil h e - eps) / mE ev rows defaultUtil h e ≤ ρ) := by
  obtain ⟨r0, hr0⟩ := List.exists_mem_of_ne_nil _ hv.ne
  obtain ⟨g0, hg0, _⟩ := hd.grp r0 hr0
  constructor
  · obtain ⟨mn, mx, ⟨⟨r1, hr1', e1⟩, _⟩, ⟨⟨r2, hr2, e2⟩, hmx⟩, h3⟩ := C03.ratio_between_spec hv hf
    obtain ⟨g1, ho1, hv1⟩ := hd.grp r1 hr1'
    obtain ⟨g2, ho2, hv2⟩ := hd.grp r2 hr2
    have hmn0 : 0 ≤ mn := by
      rw [e1, hv1, mEG_default ev rows h e g1 hl]
      exact meanOn_nonneg _ rows h hnn
    have w1 := (ratio_window hr hg ho1).1
    have w2 := (ratio_window hr hg ho2).2
    rw [← hv1, ← e1] at w1
    rw [← hv2, ← e2] at w2
    have hmle : mE ev rows defaultUtil h e ≤ mx := by
      have := (mE_between ev rows h e 0 mx (fun g hobs => by
        refine ⟨meanOn_nonneg _ rows h hnn, ?_⟩
        obtain ⟨r', hr', hs⟩ := hc g hobs
        have := hmx r' hr'
        rw [hs, mEG_default ev rows h e g hl] at this
        exact this) ⟨g0, hg0⟩).2
      rw [mE_default ev rows h e hl]; exact this
    have hmx0 : 0 < mx := lt_of_lt_of_le hm hmle
    refine ⟨mn / mx, ?_, ratio_between_lower hr (add_pos_of_pos_of_nonneg hm he) hmx0 hmn0 w1 w2⟩
    rw [h3, div_fin_fin, if_neg (ne_of_gt hmx0)]
  · have ho : spec (slice frows) ≠ 0 := by rw [hd.all]; exact ne_of_gt hm
    obtain ⟨ρ, h1, ⟨r, hr', hρ⟩, _⟩ := C03.ratio_overall_spec hv hf ho
    obtain ⟨g1, ho1, hv1⟩ := hd.grp r hr'
    refine ⟨ρ, h1, ?_⟩
    rw [hρ, hv1, hd.all]
    obtain ⟨w1, w2⟩ := ratio_window hr hg ho1
    exact ratio_overall_lower hr he hm w1 w2

end ratio

/-- **DemographicParity(ratio_bound = r, ratio_bound_slack = eps) satisfied ⇒ lower bounds on
    demographic_parity_ratio**, `m` = overall selection rate of the event's rows, `m > 0`, `eps ≥ 0`:
      between_groups:  `ratio ≥ r·(r·m − eps)/(m + eps)`;
      to_overall:      `ratio ≥ (r·m − eps)/m = r − eps/m`.
    Both are positive exactly when `r·m > eps`, and both are attained (`dp_ratio_bounds_sharp`). -/
theorem dp_ratio_ge_of_constraint (ev : Ev) (rows : List Row) (h : List Rat) (ratio eps : Rat) (e : String)
    (hl : h.length = rows.length) (hh : Hard h) (hne : ∃ g, Observed ev rows e g)
    (hr : 0 < ratio) (hr1 : ratio ≤ 1) (he : 0 ≤ eps)
    (hm : 0 < mE ev rows defaultUtil h e)
    (hg : GammaLe ev rows ratio defaultUtil h eps) :
    (∃ ρ, named "demographic_parity_ratio" .between 1 (toFrame (inE ev e) rows h) = some (.value (fin ρ)) ∧
      ratio * (ratio * mE ev rows defaultUtil h e - eps) / (mE ev rows defaultUtil h e + eps) ≤ ρ) ∧
    (∃ ρ, named "demographic_parity_ratio" .toOverall 1 (toFrame (inE ev e) rows h) = some (.value (fin ρ)) ∧
      (ratio * mE ev rows defaultUtil h e - eps) / mE ev rows defaultUtil h e ≤ ρ) := by
  have hv := toFrame_valid (inE ev e) rows h hl (filter_inE_ne_nil hne)
  obtain ⟨hd, hc⟩ := mean_dict ev rows h e _ (fun P => selRateSpec_selDat P rows h hl hh) hl hne
  have := ratio_ge_of_constraint (m := .selrate) hv (C03.selrate_finiteOn hv) hd hc hl (fun x hx => (hh.soft x hx).1)
    hr hr1 he hm hg
  simp only [C03.demographic_parity_ratio_def]
  exact ⟨exists_value_map some this.1, exists_value_map some this.2⟩

/-- both ratio constants are attained: `r = 1`, `eps = 1/4`, overall rate `1/2`, groups at `1/4` and `3/4`:
    between_groups ratio `= 1/3 = r(r·m − eps)/(m + eps)`, to_overall ratio `= 1/2 = (r·m − eps)/m` -/
theorem dp_ratio_bounds_sharp :
    let rows : List Row := [⟨0, "a", none⟩, ⟨0, "a", none⟩, ⟨0, "a", none⟩, ⟨0, "a", none⟩,
                            ⟨0, "b", none⟩, ⟨0, "b", none⟩, ⟨0, "b", none⟩, ⟨0, "b", none⟩]
    let h : List Rat := [1, 0, 0, 0, 1, 1, 1, 0]
    GammaLe (eventOf .dp) rows 1 defaultUtil h (1/4) ∧ mE (eventOf .dp) rows defaultUtil h "all" = 1/2 ∧
    named "demographic_parity_ratio" .between 1 (toFrame (inE (eventOf .dp) "all") rows h)
      = some (.value (fin (1 * (1 * (1/2) - 1/4) / (1/2 + 1/4)))) ∧
    named "demographic_parity_ratio" .toOverall 1 (toFrame (inE (eventOf .dp) "all") rows h)
      = some (.value (fin ((1 * (1/2) - 1/4) / (1/2)))) := by
  decide +kernel

/-- **TruePositiveRateParity(ratio_bound = r, ratio_bound_slack = eps) satisfied ⇒ lower bounds on
    equal_opportunity_ratio** on stratum `S`; `μ` = the stratum's overall TPR (`μ > 0`), every group of `S` has a
    positive example.  between_groups: `≥ r(rμ − eps)/(μ + eps)`; to_overall: `≥ (rμ − eps)/μ`; both attained
    (`eopp_ratio_bounds_sharp`) -/
theorem eopp_ratio_ge_of_constraint (ev : Ev) (rows : List Row) (h : List Rat) (ratio eps : Rat) (e : String)
    (S : Row → Bool) (hl : h.length = rows.length) (hh : Hard h) (hy : ∀ r ∈ rows, r.y = 0 ∨ r.y = 1)
    (hne : rows.filter S ≠ [])
    (hS : ∀ r, inE ev e r = (S r && (r.y == 1)))
    (hcov : ∀ r ∈ rows, S r = true → ∃ r2 ∈ rows, S r2 = true ∧ r2.g = r.g ∧ r2.y = 1)
    (hr : 0 < ratio) (hr1 : ratio ≤ 1) (he : 0 ≤ eps) (hm : 0 < mE ev rows defaultUtil h e)
    (hg : GammaLe ev rows ratio defaultUtil h eps) :
    (∃ ρ, named "equal_opportunity_ratio" .between 1 (toFrame S rows h) = some (.value (fin ρ)) ∧
      ratio * (ratio * mE ev rows defaultUtil h e - eps) / (mE ev rows defaultUtil h e + eps) ≤ ρ) ∧
    (∃ ρ, named "equal_opportunity_ratio" .toOverall 1 (toFrame S rows h) = some (.value (fin ρ)) ∧
      (ratio * mE ev rows defaultUtil h e - eps) / mE ev rows defaultUtil h e ≤ ρ) := by
  have hv := toFrame_valid S rows h hl hne
  have hb := toFrame_binary S rows h hy hh
  obtain ⟨hd, hc⟩ := rate_dict ev rows h e S 1 tprSpec (fun P => tprSpec_selDat P rows h hl hh) hl hne hS hcov
  have := ratio_ge_of_constraint (m := .tpr) hv (C03.tpr_finiteOn hb) hd hc hl (fun x hx => (hh.soft x hx).1)
    hr hr1 he hm hg
  simp only [C03.equal_opportunity_ratio_def]
  exact ⟨exists_value_map some this.1, exists_value_map some this.2⟩

/-- **FalsePositiveRateParity(ratio_bound, ratio_bound_slack) satisfied ⇒ lower bounds on
    `false_positive_rate_ratio`**; `μ` = the stratum's overall FPR -/
theorem fpr_ratio_ge_of_constraint (ev : Ev) (rows : List Row) (h : List Rat) (ratio eps : Rat) (e : String)
    (S : Row → Bool) (hl : h.length = rows.length) (hh : Hard h) (hy : ∀ r ∈ rows, r.y = 0 ∨ r.y = 1)
    (hne : rows.filter S ≠ [])
    (hS : ∀ r, inE ev e r = (S r && (r.y == 0)))
    (hcov : ∀ r ∈ rows, S r = true → ∃ r2 ∈ rows, S r2 = true ∧ r2.g = r.g ∧ r2.y = 0)
    (hr : 0 < ratio) (hr1 : ratio ≤ 1) (he : 0 ≤ eps) (hm : 0 < mE ev rows defaultUtil h e)
    (hg : GammaLe ev rows ratio defaultUtil h eps) :
    (∃ ρ, generated "false_positive_rate_ratio" .between 1 (toFrame S rows h) = some (some (.value (fin ρ))) ∧
      ratio * (ratio * mE ev rows defaultUtil h e - eps) / (mE ev rows defaultUtil h e + eps) ≤ ρ) ∧
    (∃ ρ, generated "false_positive_rate_ratio" .toOverall 1 (toFrame S rows h) = some (some (.value (fin ρ))) ∧
      (ratio * mE ev rows defaultUtil h e - eps) / mE ev rows defaultUtil h e ≤ ρ) := by
  have hv := toFrame_valid S rows h hl hne
  have hb := toFrame_binary S rows h hy hh
  obtain ⟨hd, hc⟩ := rate_dict ev rows h e S 0 fprSpec (fun P => fprSpec_selDat P rows h hl hh) hl hne hS hcov
  have := ratio_ge_of_constraint (m := .fpr) hv (C03.fpr_finiteOn hb) hd hc hl (fun x hx => (hh.soft x hx).1)
    hr hr1 he hm hg
  simp only [false_positive_rate_ratio_def]
  exact ⟨exists_value_map (some ∘ some) this.1, exists_value_map (some ∘ some) this.2⟩

/-- **EqualizedOdds(ratio_bound = r, ratio_bound_slack = eps) satisfied ⇒ equalized_odds_ratio (agg = worst_case)
    is at least the SMALLER of the TPR and the FPR bound**; `μ1` / `μ0` = the stratum's overall TPR / FPR, both
    positive; every group of `S` has both labels -/
theorem eodds_ratio_ge_of_constraint (ev : Ev) (rows : List Row) (h : List Rat) (ratio eps : Rat) (e1 e0 : String)
    (S : Row → Bool) (hl : h.length = rows.length) (hh : Hard h) (hy : ∀ r ∈ rows, r.y = 0 ∨ r.y = 1)
    (hne : rows.filter S ≠ [])
    (hS1 : ∀ r, inE ev e1 r = (S r && (r.y == 1))) (hS0 : ∀ r, inE ev e0 r = (S r && (r.y == 0)))
    (hcov1 : ∀ r ∈ rows, S r = true → ∃ r2 ∈ rows, S r2 = true ∧ r2.g = r.g ∧ r2.y = 1)
    (hcov0 : ∀ r ∈ rows, S r = true → ∃ r2 ∈ rows, S r2 = true ∧ r2.g = r.g ∧ r2.y = 0)
    (hr : 0 < ratio) (hr1 : ratio ≤ 1) (he : 0 ≤ eps)
    (hm1 : 0 < mE ev rows defaultUtil h e1) (hm0 : 0 < mE ev rows defaultUtil h e0)
    (hg : GammaLe ev rows ratio defaultUtil h eps) :
    (∃ ρ, eodds "equalized_odds_ratio" .between .worstCase 1 (toFrame S rows h) = some (.value (fin ρ)) ∧
      min (ratio * (ratio * mE ev rows defaultUtil h e1 - eps) / (mE ev rows defaultUtil h e1 + eps))
          (ratio * (ratio * mE ev rows defaultUtil h e0 - eps) / (mE ev rows defaultUtil h e0 + eps)) ≤ ρ) ∧
    (∃ ρ, eodds "equalized_odds_ratio" .toOverall .worstCase 1 (toFrame S rows h) = some (.value (fin ρ)) ∧
      min ((ratio * mE ev rows defaultUtil h e1 - eps) / mE ev rows defaultUtil h e1)
          ((ratio * mE ev rows defaultUtil h e0 - eps) / mE ev rows defaultUtil h e0) ≤ ρ) := by
  have hv := toFrame_valid S rows h hl hne
  have hb := toFrame_binary S rows h hy hh
  obtain ⟨hd1, hc1⟩ := rate_dict ev rows h e1 S 1 tprSpec (fun P => tprSpec_selDat P rows h hl hh) hl hne hS1 hcov1
  obtain ⟨hd0, hc0⟩ := rate_dict ev rows h e0 S 0 fprSpec (fun P => fprSpec_selDat P rows h hl hh) hl hne hS0 hcov0
  have hnn : ∀ x ∈ h, 0 ≤ x := fun x hx => (hh.soft x hx).1
  obtain ⟨⟨ρt, ht, hte⟩, ⟨ρt', ht', hte'⟩⟩ :=
    ratio_ge_of_constraint (m := .tpr) hv (C03.tpr_finiteOn hb) hd1 hc1 hl hnn hr hr1 he hm1 hg
  obtain ⟨⟨ρf, hf, hfe⟩, ⟨ρf', hf', hfe'⟩⟩ :=
    ratio_ge_of_constraint (m := .fpr) hv (C03.fpr_finiteOn hb) hd0 hc0 hl hnn hr hr1 he hm0 hg
  exact ⟨⟨min ρt ρf, (eodds_ratio_of_runs ht hf .worstCase).trans (congrArg (Option.map Res.value) (C03.pyFold_min_fin ..)), min_le_min hte hfe⟩,
    ⟨min ρt' ρf', (eodds_ratio_of_runs ht' hf' .worstCase).trans (congrArg (Option.map Res.value) (C03.pyFold_min_fin ..)), min_le_min hte' hfe'⟩⟩

open Finset in
/-- **expected rates of a `weights_`-mixture**: if the constraint holds for the expected prediction vector
    `Σ_t Q_t·h_t` of a randomised classifier (this is the vector `gamma(Q)` is evaluated at, because gamma is
    affine: `gamma_of_mixture`), then for every observed (event, group) the EXPECTED group rate
    `Σ_t Q_t·rate_{e,g}(h_t)` is within `eps` of the expected event rate, and two groups within `2·eps` -/
theorem expected_rates_of_constraint (ev : Ev) (rows : List Row) (Q : Nat → Rat) (H : Nat → List Rat) (n : Nat)
    (eps : Rat) (hH : ∀ t < n, (H t).length = rows.length)
    (hg : GammaLe ev rows 1 defaultUtil (mixN rows.length Q H n) eps)
    (e g g' : String) (hobs : Observed ev rows e g) (hobs' : Observed ev rows e g') :
    |∑ t ∈ range n, Q t * meanOn (inEG ev e g) rows (H t) - ∑ t ∈ range n, Q t * meanOn (inE ev e) rows (H t)| ≤ eps ∧
    |∑ t ∈ range n, Q t * meanOn (inEG ev e g) rows (H t) - ∑ t ∈ range n, Q t * meanOn (inEG ev e g') rows (H t)|
      ≤ 2 * eps := by
  have hlen := mixN_length rows.length Q H n hH
  have h1 := abs_le_of_gammaLe hg hobs
  have h2 := abs_pair_le_of_gammaLe hg hobs hobs'
  rw [mEG_default _ _ _ _ _ hlen, mE_default _ _ _ _ hlen, meanOn_mixN _ rows Q H n hH,
    meanOn_mixN _ rows Q H n hH] at h1
  rw [mEG_default _ _ _ _ _ hlen, mEG_default _ _ _ _ _ hlen, meanOn_mixN _ rows Q H n hH,
    meanOn_mixN _ rows Q H n hH] at h2
  exact ⟨h1, h2⟩

open Finset in
/-- gamma is affine in the predictor: for weights summing to 1, `gamma(Σ_t Q_t h_t) = Σ_t Q_t gamma(h_t)`
    entry by entry (any utilities, any ratio) -/
theorem gamma_of_mixture (ev : Ev) (rows : List Row) (ratio : Rat) (ut : Util) (Q : Nat → Rat) (H : Nat → List Rat)
    (n : Nat) (k : Moments.Key) (hH : ∀ t < n, (H t).length = rows.length) (hQ : ∑ t ∈ range n, Q t = 1) :
    gammaAt ev rows ratio ut (mixN rows.length Q H n) k = ∑ t ∈ range n, Q t * gammaAt ev rows ratio ut (H t) k :=
  gammaAt_mixN ev rows ratio ut Q H n k hH hQ


/-! ### the selector hypotheses `hS` ARE met by the real event rules (instances) -/

/-- the event label of `base` without control features (`none`) resp. inside control stratum `c` (`some c`) -/
def stratumEvent (c0 : Option String) (base : String) : String :=
  match c0 with
  | none => base
  | some c => MomentsSrc.ctrlFormat c base

/-- which rows (of ALL rows) the events of the real rules select, with (`some c`) or without (`none`) control
    features -/
theorem erp_selects (c0 : Option String) :
    inE (eventOf .erp) (stratumEvent c0 MomentsSrc.allEvent) = fun r => r.c == c0 := by
  funext r
  rw [eventOf_erp_eq_dp]
  cases c0 with
  | none => exact dp_event_selects r
  | some c => exact dp_event_selects_in_stratum r c

theorem tpr_selects (c0 : Option String) (r : Row) :
    inE (eventOf .tpr) (stratumEvent c0 (MomentsSrc.labelEvent 1)) r = ((r.c == c0) && (r.y == 1)) := by
  cases c0 with
  | none => exact tpr_inE_nocontrol r
  | some c => exact C06.tpr_event_selects_in_stratum r c

theorem fpr_selects (c0 : Option String) (r : Row) :
    inE (eventOf .fpr) (stratumEvent c0 (MomentsSrc.labelEvent 0)) r = ((r.c == c0) && (r.y == 0)) := by
  cases c0 with
  | none => exact fpr_inE_nocontrol r
  | some c => exact C06.fpr_event_selects_in_stratum r c

/-- `hlab` is needed for the `none` branch only (`eo_inE_nocontrol`) -/
theorem eo_selects (c0 : Option String) (lab : Int) (hlab : lab = 0 ∨ lab = 1) (r : Row) :
    inE (eventOf .eo) (stratumEvent c0 (MomentsSrc.labelEvent lab)) r = ((r.c == c0) && (r.y == lab)) := by
  cases c0 with
  | none => exact eo_inE_nocontrol r lab hlab
  | some c => exact eo_event_selects_in_stratum r c lab

/-- the event rule of the EqualizedOdds moment without control features selects by label -/
theorem eo_event_selects (r : Row) (hc : r.c = none) (hy : r.y = 0 ∨ r.y = 1) (c : Int) (hc' : c = 0 ∨ c = 1) :
    inE (eventOf .eo) (MomentsSrc.labelEvent c) r = (true && (r.y == c)) := by
  rw [eo_inE_nocontrol r c hc', hc]
  rfl

/-- TruePositiveRateParity WITHOUT control features ⇒ equal_opportunity_difference bounds on the frame of all
    (control-free) rows -/
theorem tpr_constraint_bounds_eopp (rows : List Row) (h : List Rat) (eps : Rat)
    (hl : h.length = rows.length) (hh : Hard h) (hy : ∀ r ∈ rows, r.y = 0 ∨ r.y = 1)
    (hne : rows.filter (fun r => r.c == none) ≠ [])
    (hcov : ∀ r ∈ rows, (r.c == none) = true → ∃ r2 ∈ rows, (r2.c == none) = true ∧ r2.g = r.g ∧ r2.y = 1)
    (hg : GammaLe (eventOf .tpr) rows 1 defaultUtil h eps) :
    (∃ D, named "equal_opportunity_difference" .toOverall 1 (toFrame (fun r => r.c == none) rows h) = some (.value (fin D)) ∧
      0 ≤ D ∧ D ≤ eps) ∧
    (∃ D, named "equal_opportunity_difference" .between 1 (toFrame (fun r => r.c == none) rows h) = some (.value (fin D)) ∧
      0 ≤ D ∧ D ≤ 2 * eps) :=
  eopp_difference_le_of_constraint (eventOf .tpr) rows h eps (MomentsSrc.labelEvent 1) (fun r => r.c == none)
    hl hh hy hne (fun r => tpr_inE_nocontrol r) hcov hg

/-- TruePositiveRateParity WITH control features ⇒ the same bounds within stratum `c0` -/
theorem tpr_constraint_bounds_eopp_in_stratum (rows : List Row) (h : List Rat) (eps : Rat) (c0 : String)
    (hl : h.length = rows.length) (hh : Hard h) (hy : ∀ r ∈ rows, r.y = 0 ∨ r.y = 1)
    (hne : rows.filter (fun r => r.c == some c0) ≠ [])
    (hcov : ∀ r ∈ rows, (r.c == some c0) = true → ∃ r2 ∈ rows, (r2.c == some c0) = true ∧ r2.g = r.g ∧ r2.y = 1)
    (hg : GammaLe (eventOf .tpr) rows 1 defaultUtil h eps) :
    (∃ D, named "equal_opportunity_difference" .toOverall 1 (toFrame (fun r => r.c == some c0) rows h) = some (.value (fin D)) ∧
      0 ≤ D ∧ D ≤ eps) ∧
    (∃ D, named "equal_opportunity_difference" .between 1 (toFrame (fun r => r.c == some c0) rows h) = some (.value (fin D)) ∧
      0 ≤ D ∧ D ≤ 2 * eps) :=
  eopp_difference_le_of_constraint (eventOf .tpr) rows h eps (MomentsSrc.ctrlFormat c0 (MomentsSrc.labelEvent 1))
    (fun r => r.c == some c0) hl hh hy hne (fun r => C06.tpr_event_selects_in_stratum r c0) hcov hg

/-- FalsePositiveRateParity, without control features and within a stratum -/
theorem fpr_constraint_bounds (rows : List Row) (h : List Rat) (eps : Rat) (c0 : Option String)
    (hl : h.length = rows.length) (hh : Hard h) (hy : ∀ r ∈ rows, r.y = 0 ∨ r.y = 1)
    (hne : rows.filter (fun r => r.c == c0) ≠ [])
    (hcov : ∀ r ∈ rows, (r.c == c0) = true → ∃ r2 ∈ rows, (r2.c == c0) = true ∧ r2.g = r.g ∧ r2.y = 0)
    (hg : GammaLe (eventOf .fpr) rows 1 defaultUtil h eps) :
    (∃ D, run .fpr .difference .toOverall true 1 (toFrame (fun r => r.c == c0) rows h) = .value (fin D) ∧ 0 ≤ D ∧ D ≤ eps) ∧
    (∃ D, run .fpr .difference .between true 1 (toFrame (fun r => r.c == c0) rows h) = .value (fin D) ∧ 0 ≤ D ∧ D ≤ 2 * eps) :=
  fpr_difference_le_of_constraint (eventOf .fpr) rows h eps _ _ hl hh hy hne (fpr_selects c0) hcov hg

/-- EqualizedOdds WITHOUT control features ⇒ equalized_odds_difference bounds (every group has both labels) -/
theorem eo_constraint_bounds_eodds (rows : List Row) (h : List Rat) (eps : Rat)
    (hl : h.length = rows.length) (hh : Hard h) (hy : ∀ r ∈ rows, r.y = 0 ∨ r.y = 1)
    (hne : rows.filter (fun r => r.c == none) ≠ [])
    (hcov1 : ∀ r ∈ rows, (r.c == none) = true → ∃ r2 ∈ rows, (r2.c == none) = true ∧ r2.g = r.g ∧ r2.y = 1)
    (hcov0 : ∀ r ∈ rows, (r.c == none) = true → ∃ r2 ∈ rows, (r2.c == none) = true ∧ r2.g = r.g ∧ r2.y = 0)
    (hg : GammaLe (eventOf .eo) rows 1 defaultUtil h eps) :
    (∃ D, eodds "equalized_odds_difference" .toOverall .worstCase 1 (toFrame (fun r => r.c == none) rows h) = some (.value (fin D)) ∧
      0 ≤ D ∧ D ≤ eps) ∧
    (∃ D, eodds "equalized_odds_difference" .between .worstCase 1 (toFrame (fun r => r.c == none) rows h) = some (.value (fin D)) ∧
      0 ≤ D ∧ D ≤ 2 * eps) :=
  eodds_difference_le_of_constraint (eventOf .eo) rows h eps (MomentsSrc.labelEvent 1) (MomentsSrc.labelEvent 0)
    (fun r => r.c == none) hl hh hy hne (fun r => eo_inE_nocontrol r 1 (Or.inr rfl)) (fun r => eo_inE_nocontrol r 0 (Or.inl rfl))
    hcov1 hcov0 hg

/-- **EqualizedOdds WITH control features ⇒ equalized_odds_difference bounds within stratum `c0`**: the event
    `control=c0,label=l` selects, among ALL rows (any control string, commas included; any integer label), exactly the
    rows of stratum `c0` with label `l` (`Cross.eo_event_selects_in_stratum`, from "`str(y)` of an integer contains no
    comma", `Cross.toString_int_no_comma`) -/
theorem eo_constraint_bounds_eodds_in_stratum (rows : List Row) (h : List Rat) (eps : Rat) (c0 : String)
    (hl : h.length = rows.length) (hh : Hard h) (hy : ∀ r ∈ rows, r.y = 0 ∨ r.y = 1)
    (hne : rows.filter (fun r => r.c == some c0) ≠ [])
    (hcov1 : ∀ r ∈ rows, (r.c == some c0) = true → ∃ r2 ∈ rows, (r2.c == some c0) = true ∧ r2.g = r.g ∧ r2.y = 1)
    (hcov0 : ∀ r ∈ rows, (r.c == some c0) = true → ∃ r2 ∈ rows, (r2.c == some c0) = true ∧ r2.g = r.g ∧ r2.y = 0)
    (hg : GammaLe (eventOf .eo) rows 1 defaultUtil h eps) :
    (∃ D, eodds "equalized_odds_difference" .toOverall .worstCase 1 (toFrame (fun r => r.c == some c0) rows h) = some (.value (fin D)) ∧
      0 ≤ D ∧ D ≤ eps) ∧
    (∃ D, eodds "equalized_odds_difference" .between .worstCase 1 (toFrame (fun r => r.c == some c0) rows h) = some (.value (fin D)) ∧
      0 ≤ D ∧ D ≤ 2 * eps) :=
  eodds_difference_le_of_constraint (eventOf .eo) rows h eps
    (MomentsSrc.ctrlFormat c0 (MomentsSrc.labelEvent 1)) (MomentsSrc.ctrlFormat c0 (MomentsSrc.labelEvent 0))
    (fun r => r.c == some c0) hl hh hy hne
    (fun r => eo_event_selects_in_stratum r c0 1) (fun r => eo_event_selects_in_stratum r c0 0) hcov1 hcov0 hg

/-- **the real rule**: `ErrorRateParity` with or without control features (`c0 = none`: no control features;
    `c0 = some c`: inside stratum `c`) bounds the accuracy / zero-one-loss difference of the stratum's frame -/
theorem erp_constraint_bounds (rows : List Row) (h : List Rat) (eps : Rat) (c0 : Option String)
    (hl : h.length = rows.length) (hh : Hard h) (hy : ∀ r ∈ rows, r.y = 0 ∨ r.y = 1)
    (hne : rows.filter (fun r => r.c == c0) ≠ [])
    (hg : GammaLe (eventOf .erp) rows 1 erpUtil h eps) :
    ((∃ D, generated "accuracy_score_difference" .toOverall 1 (toFrame (fun r => r.c == c0) rows h) = some (some (.value (fin D))) ∧
        0 ≤ D ∧ D ≤ eps) ∧
     (∃ D, generated "accuracy_score_difference" .between 1 (toFrame (fun r => r.c == c0) rows h) = some (some (.value (fin D))) ∧
        0 ≤ D ∧ D ≤ 2 * eps)) ∧
    ((∃ D, generated "zero_one_loss_difference" .toOverall 1 (toFrame (fun r => r.c == c0) rows h) = some (some (.value (fin D))) ∧
        0 ≤ D ∧ D ≤ eps) ∧
     (∃ D, generated "zero_one_loss_difference" .between 1 (toFrame (fun r => r.c == c0) rows h) = some (some (.value (fin D))) ∧
        0 ≤ D ∧ D ≤ 2 * eps)) := by
  obtain ⟨r0, hr0⟩ := List.exists_mem_of_ne_nil _ hne
  obtain ⟨hr0m, hr0c⟩ := List.mem_filter.mp hr0
  have hsel := erp_selects c0
  have hobs : Observed (eventOf .erp) rows (stratumEvent c0 MomentsSrc.allEvent) r0.g := by
    refine ⟨r0, hr0m, ?_, rfl⟩
    have := congrFun hsel r0
    simp only [inE, hr0c, beq_iff_eq] at this
    exact this
  have := erp_difference_le_of_constraint (eventOf .erp) rows h eps (stratumEvent c0 MomentsSrc.allEvent) hl hh hy
    ⟨r0.g, hobs⟩ hg
  rw [hsel] at this
  exact this

/-- **the real rule, ratio form** (`c0 = none`: no control features; `some c`: inside stratum `c`):
    TruePositiveRateParity ⇒ equal_opportunity_ratio -/
theorem tpr_ratio_constraint_bounds_eopp (rows : List Row) (h : List Rat) (ratio eps : Rat) (c0 : Option String)
    (hl : h.length = rows.length) (hh : Hard h) (hy : ∀ r ∈ rows, r.y = 0 ∨ r.y = 1)
    (hne : rows.filter (fun r => r.c == c0) ≠ [])
    (hcov : ∀ r ∈ rows, (r.c == c0) = true → ∃ r2 ∈ rows, (r2.c == c0) = true ∧ r2.g = r.g ∧ r2.y = 1)
    (hr : 0 < ratio) (hr1 : ratio ≤ 1) (he : 0 ≤ eps)
    (hm : 0 < mE (eventOf .tpr) rows defaultUtil h (stratumEvent c0 (MomentsSrc.labelEvent 1)))
    (hg : GammaLe (eventOf .tpr) rows ratio defaultUtil h eps) :
    (∃ ρ, named "equal_opportunity_ratio" .between 1 (toFrame (fun r => r.c == c0) rows h) = some (.value (fin ρ)) ∧
      ratio * (ratio * mE (eventOf .tpr) rows defaultUtil h (stratumEvent c0 (MomentsSrc.labelEvent 1)) - eps)
        / (mE (eventOf .tpr) rows defaultUtil h (stratumEvent c0 (MomentsSrc.labelEvent 1)) + eps) ≤ ρ) ∧
    (∃ ρ, named "equal_opportunity_ratio" .toOverall 1 (toFrame (fun r => r.c == c0) rows h) = some (.value (fin ρ)) ∧
      (ratio * mE (eventOf .tpr) rows defaultUtil h (stratumEvent c0 (MomentsSrc.labelEvent 1)) - eps)
        / mE (eventOf .tpr) rows defaultUtil h (stratumEvent c0 (MomentsSrc.labelEvent 1)) ≤ ρ) :=
  eopp_ratio_ge_of_constraint (eventOf .tpr) rows h ratio eps _ (fun r => r.c == c0) hl hh hy hne
    (tpr_selects c0) hcov hr hr1 he hm hg

/-- EqualizedOdds ⇒ equalized_odds_ratio (worst case): the smaller of the TPR and the FPR bound -/
theorem eo_ratio_constraint_bounds_eodds (rows : List Row) (h : List Rat) (ratio eps : Rat) (c0 : Option String)
    (hl : h.length = rows.length) (hh : Hard h) (hy : ∀ r ∈ rows, r.y = 0 ∨ r.y = 1)
    (hne : rows.filter (fun r => r.c == c0) ≠ [])
    (hcov1 : ∀ r ∈ rows, (r.c == c0) = true → ∃ r2 ∈ rows, (r2.c == c0) = true ∧ r2.g = r.g ∧ r2.y = 1)
    (hcov0 : ∀ r ∈ rows, (r.c == c0) = true → ∃ r2 ∈ rows, (r2.c == c0) = true ∧ r2.g = r.g ∧ r2.y = 0)
    (hr : 0 < ratio) (hr1 : ratio ≤ 1) (he : 0 ≤ eps)
    (hm1 : 0 < mE (eventOf .eo) rows defaultUtil h (stratumEvent c0 (MomentsSrc.labelEvent 1)))
    (hm0 : 0 < mE (eventOf .eo) rows defaultUtil h (stratumEvent c0 (MomentsSrc.labelEvent 0)))
    (hg : GammaLe (eventOf .eo) rows ratio defaultUtil h eps) :
    (∃ ρ, eodds "equalized_odds_ratio" .between .worstCase 1 (toFrame (fun r => r.c == c0) rows h) = some (.value (fin ρ)) ∧
      min (ratio * (ratio * mE (eventOf .eo) rows defaultUtil h (stratumEvent c0 (MomentsSrc.labelEvent 1)) - eps)
            / (mE (eventOf .eo) rows defaultUtil h (stratumEvent c0 (MomentsSrc.labelEvent 1)) + eps))
          (ratio * (ratio * mE (eventOf .eo) rows defaultUtil h (stratumEvent c0 (MomentsSrc.labelEvent 0)) - eps)
            / (mE (eventOf .eo) rows defaultUtil h (stratumEvent c0 (MomentsSrc.labelEvent 0)) + eps)) ≤ ρ) ∧
    (∃ ρ, eodds "equalized_odds_ratio" .toOverall .worstCase 1 (toFrame (fun r => r.c == c0) rows h) = some (.value (fin ρ)) ∧
      min ((ratio * mE (eventOf .eo) rows defaultUtil h (stratumEvent c0 (MomentsSrc.labelEvent 1)) - eps)
            / mE (eventOf .eo) rows defaultUtil h (stratumEvent c0 (MomentsSrc.labelEvent 1)))
          ((ratio * mE (eventOf .eo) rows defaultUtil h (stratumEvent c0 (MomentsSrc.labelEvent 0)) - eps)
            / mE (eventOf .eo) rows defaultUtil h (stratumEvent c0 (MomentsSrc.labelEvent 0))) ≤ ρ) :=
  eodds_ratio_ge_of_constraint (eventOf .eo) rows h ratio eps _ _ (fun r => r.c == c0) hl hh hy hne
    (eo_selects c0 1 (Or.inr rfl)) (eo_selects c0 0 (Or.inl rfl)) hcov1 hcov0 hr hr1 he hm1 hm0 hg

/-! ### non-vacuity and sharpness: concrete rows meeting the hypotheses -/

def xRows : List Row :=
  [⟨1, "a", none⟩, ⟨0, "a", none⟩, ⟨1, "a", none⟩, ⟨0, "a", none⟩,
   ⟨1, "b", none⟩, ⟨0, "b", none⟩, ⟨1, "b", none⟩, ⟨0, "b", none⟩]
def xH : List Rat := [1, 0, 1, 1, 1, 0, 0, 0]

example : Hard xH := by decide +kernel
example : xH.length = xRows.length := by decide +kernel
example : GammaLe (eventOf .dp) xRows 1 defaultUtil xH (1/4) := by decide +kernel
example : ¬ GammaLe (eventOf .dp) xRows 1 defaultUtil xH (1/5) := by decide +kernel
example : Observed (eventOf .dp) xRows "all" "b" := ⟨⟨1, "b", none⟩, by decide +kernel⟩
example : named "demographic_parity_difference" .toOverall 1 (toFrame (inE (eventOf .dp) "all") xRows xH)
    = some (.value (fin (1/4))) := by decide +kernel
example : named "demographic_parity_difference" .between 1 (toFrame (inE (eventOf .dp) "all") xRows xH)
    = some (.value (fin (1/2))) := by decide +kernel
-- equalized odds: TPR a = 1, b = 1/2; FPR a = 1/2, b = 0: overall TPR 3/4, FPR 1/4, slack 1/4
example : GammaLe (eventOf .eo) xRows 1 defaultUtil xH (1/4) := by decide +kernel
example : ∀ r ∈ xRows, (fun _ => true) r = true → ∃ r2 ∈ xRows, (fun _ => true) r2 = true ∧ r2.g = r.g ∧ r2.y = 1 := by
  decide +kernel
example : eodds "equalized_odds_difference" .toOverall .worstCase 1 (toFrame (fun _ => true) xRows xH)
    = some (.value (fin (1/4))) := by decide +kernel
example : eodds "equalized_odds_difference" .between .worstCase 1 (toFrame (fun _ => true) xRows xH)
    = some (.value (fin (1/2))) := by decide +kernel
-- ratio constraint r = 1/2, slack 1/8: rates a = 3/4, b = 1/4, overall 1/2
example : GammaLe (eventOf .dp) xRows (1/2) defaultUtil xH (1/8) := by decide +kernel
example : (0 : Rat) < mE (eventOf .dp) xRows defaultUtil xH "all" := by decide +kernel
-- a 2-component mixture: weights 1/2, 1/2 of xH and the all-zero predictor
example : GammaLe (eventOf .dp) xRows 1 defaultUtil
    (mixN xRows.length (fun t => if t < 2 then 1/2 else 0) (fun t => if t = 0 then xH else List.replicate 8 0) 2) (1/8) := by
  decide +kernel
-- soft predictions: mean_prediction difference
example : run .meanpred .difference .between true 1 (toFrame (inE (eventOf .dp) "all") xRows [1/2, 1/4, 1, 1/4, 0, 1/2, 1/2, 0])
    = .value (fin (1/4)) := by decide +kernel
-- control features: two strata, constraint per stratum
def xRowsC : List Row :=
  [⟨1, "a", some "x"⟩, ⟨0, "b", some "x"⟩, ⟨1, "a", some "y"⟩, ⟨0, "b", some "y"⟩, ⟨1, "b", some "y"⟩]
example : GammaLe (eventOf .dp) xRowsC 1 defaultUtil [1, 1, 0, 1, 0] (1/3) := by decide +kernel
example : named "demographic_parity_difference" .toOverall 1
    (toFrame (fun r => r.c == some "y") xRowsC [1, 1, 0, 1, 0]) = some (.value (fin (1/3))) := by decide +kernel

/-- all hypotheses of `eo_constraint_bounds_eodds` / `tpr_constraint_bounds_eopp` are met by `xRows`, `xH`, slack 1/4 -/
example : (∃ D, eodds "equalized_odds_difference" .toOverall .worstCase 1 (toFrame (fun r => r.c == none) xRows xH) = some (.value (fin D)) ∧
      0 ≤ D ∧ D ≤ 1/4) :=
  (eo_constraint_bounds_eodds xRows xH (1/4) (by decide) (by decide +kernel) (by decide +kernel) (by decide +kernel)
    (by decide +kernel) (by decide +kernel) (by decide +kernel)).1
example : GammaLe (eventOf .tpr) xRows 1 defaultUtil xH (1/4) ∧
    named "equal_opportunity_difference" .between 1 (toFrame (fun r => r.c == none) xRows xH) = some (.value (fin (1/2))) := by
  decide +kernel

/-- ErrorRateParity: error rates a = 1/4, b = 3/4, overall 1/2 — slack exactly 1/4; both constants are attained
    (to_overall difference 1/4 = eps, between_groups 1/2 = 2·eps) -/
def xHe : List Rat := [1, 0, 1, 1, 0, 1, 0, 0]

example : Hard xHe ∧ xHe.length = xRows.length ∧ (∀ r ∈ xRows, r.y = 0 ∨ r.y = 1) := by decide +kernel
example : GammaLe (eventOf .erp) xRows 1 erpUtil xHe (1/4) ∧ ¬ GammaLe (eventOf .erp) xRows 1 erpUtil xHe (1/5) := by
  decide +kernel
theorem erp_constants_attained :
    generated "accuracy_score_difference" .toOverall 1 (toFrame (fun r => r.c == none) xRows xHe) = some (some (.value (fin (1/4)))) ∧
    generated "accuracy_score_difference" .between 1 (toFrame (fun r => r.c == none) xRows xHe) = some (some (.value (fin (2 * (1/4))))) ∧
    generated "zero_one_loss_difference" .between 1 (toFrame (fun r => r.c == none) xRows xHe) = some (some (.value (fin (2 * (1/4))))) := by
  rw [accuracy_score_difference_def, accuracy_score_difference_def, zero_one_loss_difference_def]
  decide +kernel
/-- every hypothesis of `erp_constraint_bounds` at once -/
example : ∃ D, generated "accuracy_score_difference" .toOverall 1 (toFrame (fun r => r.c == none) xRows xHe) = some (some (.value (fin D))) ∧
      0 ≤ D ∧ D ≤ 1/4 :=
  (erp_constraint_bounds xRows xHe (1/4) none (by decide) (by decide +kernel) (by decide +kernel) (by decide +kernel)
    (by decide +kernel)).1.1
/-- ErrorRateParity inside a control stratum (two strata; the constraint is per stratum) -/
def xRowsE : List Row :=
  [⟨1, "a", some "x"⟩, ⟨0, "a", some "x"⟩, ⟨1, "b", some "x"⟩, ⟨0, "b", some "x"⟩,
   ⟨1, "a", some "y"⟩, ⟨0, "b", some "y"⟩]
example : ∃ D, generated "zero_one_loss_difference" .between 1 (toFrame (fun r => r.c == some "x") xRowsE [1, 0, 0, 0, 1, 0]) = some (some (.value (fin D))) ∧
      0 ≤ D ∧ D ≤ 2 * (1/4) :=
  (erp_constraint_bounds xRowsE [1, 0, 0, 0, 1, 0] (1/4) (some "x") (by decide) (by decide +kernel) (by decide +kernel)
    (by decide +kernel) (by decide +kernel)).2.2
example : generated "zero_one_loss_difference" .between 1 (toFrame (fun r => r.c == some "x") xRowsE [1, 0, 0, 0, 1, 0])
    = some (some (.value (fin (1/2)))) := by decide +kernel

/-- ratio bounds, `r = 1/2`, `eps = 0`: positives of group a at rate 1/4 (4 rows), of b at rate 1 (2 rows), overall
    `μ = 1/2`; the negatives follow the same pattern.  `r·(r·μ − eps)/(μ + eps) = 1/4`, `(r·μ − eps)/μ = 1/2` -/
def xRowsR : List Row :=
  [⟨1, "a", none⟩, ⟨1, "a", none⟩, ⟨1, "a", none⟩, ⟨1, "a", none⟩, ⟨1, "b", none⟩, ⟨1, "b", none⟩,
   ⟨0, "a", none⟩, ⟨0, "a", none⟩, ⟨0, "a", none⟩, ⟨0, "a", none⟩, ⟨0, "b", none⟩, ⟨0, "b", none⟩]
def xHR : List Rat := [1, 0, 0, 0, 1, 1, 1, 0, 0, 0, 1, 1]

/-- **both TPR ratio constants are attained**, with `r < 1`: `eopp_ratio_ge_of_constraint` cannot be improved -/
theorem eopp_ratio_bounds_sharp :
    GammaLe (eventOf .tpr) xRowsR (1/2) defaultUtil xHR 0 ∧ mE (eventOf .tpr) xRowsR defaultUtil xHR "label=1" = 1/2 ∧
    named "equal_opportunity_ratio" .between 1 (toFrame (fun r => r.c == none) xRowsR xHR)
      = some (.value (fin ((1/2) * ((1/2) * (1/2) - 0) / (1/2 + 0)))) ∧
    named "equal_opportunity_ratio" .toOverall 1 (toFrame (fun r => r.c == none) xRowsR xHR)
      = some (.value (fin (((1/2) * (1/2) - 0) / (1/2)))) := by
  rw [C03.equal_opportunity_ratio_def, C03.equal_opportunity_ratio_def]
  decide +kernel

theorem fpr_ratio_bounds_sharp :
    GammaLe (eventOf .fpr) xRowsR (1/2) defaultUtil xHR 0 ∧ mE (eventOf .fpr) xRowsR defaultUtil xHR "label=0" = 1/2 ∧
    generated "false_positive_rate_ratio" .between 1 (toFrame (fun r => r.c == none) xRowsR xHR)
      = some (some (.value (fin ((1/2) * ((1/2) * (1/2) - 0) / (1/2 + 0))))) ∧
    generated "false_positive_rate_ratio" .toOverall 1 (toFrame (fun r => r.c == none) xRowsR xHR)
      = some (some (.value (fin (((1/2) * (1/2) - 0) / (1/2))))) := by
  rw [false_positive_rate_ratio_def, false_positive_rate_ratio_def]
  decide +kernel

theorem eodds_ratio_bounds_sharp :
    GammaLe (eventOf .eo) xRowsR (1/2) defaultUtil xHR 0 ∧
    mE (eventOf .eo) xRowsR defaultUtil xHR "label=1" = 1/2 ∧ mE (eventOf .eo) xRowsR defaultUtil xHR "label=0" = 1/2 ∧
    eodds "equalized_odds_ratio" .between .worstCase 1 (toFrame (fun r => r.c == none) xRowsR xHR)
      = some (.value (fin (min ((1/2) * ((1/2) * (1/2) - 0) / (1/2 + 0)) ((1/2) * ((1/2) * (1/2) - 0) / (1/2 + 0))))) ∧
    eodds "equalized_odds_ratio" .toOverall .worstCase 1 (toFrame (fun r => r.c == none) xRowsR xHR)
      = some (.value (fin (min (((1/2) * (1/2) - 0) / (1/2)) (((1/2) * (1/2) - 0) / (1/2))))) := by
  decide +kernel

/-- … and with `r = 1`, `eps = 1/4` (group rates 1/4 and 3/4 around 1/2): between 1/3, to_overall 1/2 -/
def xRowsQ : List Row :=
  [⟨1, "a", none⟩, ⟨1, "a", none⟩, ⟨1, "a", none⟩, ⟨1, "a", none⟩, ⟨1, "b", none⟩, ⟨1, "b", none⟩, ⟨1, "b", none⟩, ⟨1, "b", none⟩,
   ⟨0, "a", none⟩, ⟨0, "b", none⟩]
def xHQ : List Rat := [1, 0, 0, 0, 1, 1, 1, 0, 0, 0]
theorem eopp_ratio_bounds_sharp_eps :
    GammaLe (eventOf .tpr) xRowsQ 1 defaultUtil xHQ (1/4) ∧ mE (eventOf .tpr) xRowsQ defaultUtil xHQ "label=1" = 1/2 ∧
    named "equal_opportunity_ratio" .between 1 (toFrame (fun r => r.c == none) xRowsQ xHQ)
      = some (.value (fin (1 * (1 * (1/2) - 1/4) / (1/2 + 1/4)))) ∧
    named "equal_opportunity_ratio" .toOverall 1 (toFrame (fun r => r.c == none) xRowsQ xHQ)
      = some (.value (fin ((1 * (1/2) - 1/4) / (1/2)))) := by
  rw [C03.equal_opportunity_ratio_def, C03.equal_opportunity_ratio_def]
  decide +kernel

/-- every hypothesis of `tpr_ratio_constraint_bounds_eopp` / `eo_ratio_constraint_bounds_eodds` at once -/
example : ∃ ρ, named "equal_opportunity_ratio" .between 1 (toFrame (fun r => r.c == none) xRowsR xHR) = some (.value (fin ρ)) ∧
    (1/2) * ((1/2) * mE (eventOf .tpr) xRowsR defaultUtil xHR (stratumEvent none (MomentsSrc.labelEvent 1)) - 0)
      / (mE (eventOf .tpr) xRowsR defaultUtil xHR (stratumEvent none (MomentsSrc.labelEvent 1)) + 0) ≤ ρ :=
  (tpr_ratio_constraint_bounds_eopp xRowsR xHR (1/2) 0 none (by decide) (by decide +kernel) (by decide +kernel)
    (by decide +kernel) (by decide +kernel) (by norm_num) (by norm_num) (le_refl _) (by decide +kernel) (by decide +kernel)).1
example : ∃ ρ, eodds "equalized_odds_ratio" .toOverall .worstCase 1 (toFrame (fun r => r.c == none) xRowsR xHR) = some (.value (fin ρ)) :=
  (eo_ratio_constraint_bounds_eodds xRowsR xHR (1/2) 0 none (by decide) (by decide +kernel) (by decide +kernel)
    (by decide +kernel) (by decide +kernel) (by decide +kernel) (by norm_num) (by norm_num) (le_refl _)
    (by decide +kernel) (by decide +kernel) (by decide +kernel)).2.imp fun _ h => h.1
example : ∃ ρ, generated "false_positive_rate_ratio" .between 1 (toFrame (fun r => r.c == none) xRowsR xHR) = some (some (.value (fin ρ))) :=
  (fpr_ratio_ge_of_constraint (eventOf .fpr) xRowsR xHR (1/2) 0 _ (fun r => r.c == none) (by decide) (by decide +kernel)
    (by decide +kernel) (by decide +kernel) (fpr_selects none) (by decide +kernel) (by norm_num) (by norm_num) (le_refl _)
    (by decide +kernel) (by decide +kernel)).1.imp fun _ h => h.1

/-- EqualizedOdds inside a control stratum; the second control value contains a comma AND the text `,label=1` -/
def xRowsS : List Row :=
  [⟨1, "a", some "x"⟩, ⟨0, "a", some "x"⟩, ⟨1, "b", some "x"⟩, ⟨0, "b", some "x"⟩,
   ⟨1, "a", some "x,label=1"⟩, ⟨0, "a", some "x,label=1"⟩, ⟨1, "b", some "x,label=1"⟩, ⟨0, "b", some "x,label=1"⟩]
def xHS : List Rat := [1, 0, 0, 0, 1, 1, 1, 0]

example : GammaLe (eventOf .eo) xRowsS 1 defaultUtil xHS (1/2) ∧ ¬ GammaLe (eventOf .eo) xRowsS 1 defaultUtil xHS (2/5) := by
  decide +kernel
example : ∃ D, eodds "equalized_odds_difference" .between .worstCase 1 (toFrame (fun r => r.c == some "x") xRowsS xHS) = some (.value (fin D)) ∧
      0 ≤ D ∧ D ≤ 2 * (1/2) :=
  (eo_constraint_bounds_eodds_in_stratum xRowsS xHS (1/2) "x" (by decide) (by decide +kernel) (by decide +kernel)
    (by decide +kernel) (by decide +kernel) (by decide +kernel) (by decide +kernel)).2
example : eodds "equalized_odds_difference" .between .worstCase 1 (toFrame (fun r => r.c == some "x") xRowsS xHS)
      = some (.value (fin 1)) ∧
    eodds "equalized_odds_difference" .toOverall .worstCase 1 (toFrame (fun r => r.c == some "x,label=1") xRowsS xHS)
      = some (.value (fin (1/2))) := by decide +kernel

end C06
