/-
C19 — estimator life cycle: fit depends on parameters and data, not on call history.

For every machine of `Model/Lifecycle.lean`:
  * `<m>_refines_spec`     under the repaired rule the machine shows, for EVERY call history, exactly the view
                           of the specification automaton `Spec` (fit returns self and never raises, the state
                           is "fresh twin fitted on the last data", predict/pickle leave it alone, clone resets);
  * `<m>_history_free`     `run (ops ++ [fit d]) = run [fit d]` for every history `ops` (whole modelled state);
  * `<m>_fit_returns_self`, `<m>_params_unchanged`, `<m>_predict_pure`, `<m>_pickle_roundtrip`;
  * for the `.current` rule (the source before its repair; only F5c is still in the source) where it differs: the
    negation with a concrete 2-3 operation witness (F5a-F5e), replayed on real fairlearn by harness/props/c19.py (`probe_rules`).
Two candidate repairs of the moment latch (F5b) are modelled: `copyPerFit` (repair A; `gs_/eg_refines_spec`,
`_params_unchanged`: the user's moment object is never touched) and `reentrant` (repair B;
`gs_/eg_reentrant_refines_spec_any_moment`: same view, whatever the user's object holds, but it is rewritten by every fit).
The theorems are about the latches/flags of the machines; they say nothing about Python object identity,
pickle or clone internals (pickle is the identity of the modelled state by definition).

CLAUSE -> THEOREM TABLE.  "src" = the machine runs under the rule flags DERIVED FROM THE SOURCE
(Generated/LifecycleSrc.lean), i.e. it is a statement about the code in /repo today; "hyp" = a statement about a
hypothetical rule (repair A `copyPerFit`, repaired `nu`), kept because the counter-witnesses refer to it.

  A  refit on D = fresh fit on D (TO, EG, GS, CR, adversarial warm_start=False), every history
       src: src_to_refines_spec, src_to_history_free; src_gs_refines_spec, src_gs_history_free,
            src_gs_refines_spec_any_moment; src_cr_refines_spec, src_cr_history_free;
            src_adv_refines_spec (pickle RESULT masked), src_adv_history_free;
            EG, nu given:  src_eg_refines_spec_nu_given, src_eg_history_free_nu_given, src_eg_refines_spec_any_moment
            EG, nu=None:   FALSE of the code (F5c, known finding): src_eg_nu_none_is_f5c (witness fit D1; fit D2),
                           PARTIAL: src_eg_nu_none_results_refine_spec_partial (all results as specified, every
                           history), src_eg_nu_none_cls_partial (state = unfitted / fresh twin / twin with an
                           earlier data set's automatic nu, never anything else), src_eg_nu_none_first_fit_fresh
            attribute level (lifted definite-assignment tables): src_fit_shape, src_fit_overwrites_all_fitted_state,
                           src_fit_history_reads, src_cr_fit_shape (one static path, dead at run time: harness relation
                           C19.cr_1d_path_dead); src_estimator_cloned (every `.fit` receiver is a clone / fresh object)
            prefit=True:   src_to_prefit, src_to_prefit_history_free (clone-free histories; clone: to_prefit_clone_then_fit)
            set_params:    src_no_stale_derived, src_params_refines_spec, src_gs_set_params_repaired
       hyp: gs_history_free, gs_refines_spec, gs_reentrant_*, eg_history_free, eg_refines_spec, eg_reentrant_*,
            to_*, cr_*, adv_*; counter-witnesses for the old rules: gs_current_not_history_free, eg_current_*,
            cr_current_not_history_free, adv_current_not_history_free, to_without_clone_not_history_free,
            params_stale_derived_not_spec
  B  fit returns the estimator itself
       src: src_fit_returns_self (lifted return expressions, all 7 classes), src_gs_fit_returns_self,
            src_eg_fit_returns_self, src_to_fit_returns_self, src_cr_fit_returns_self, src_adv_fit_returns_self
            (from ANY state); hyp: gs_current_fit_returns_none (F5a)
  C  fit never changes the constructor parameters reported by get_params
       src: src_params_unchanged (TO, GS, CR, adversarial: no parameter rebound or stored into, lifted),
            src_eg_params_assigned (EG rebinds exactly `nu`: F5c), src_eg_nu_unchanged_nu_given,
            src_fit_escapes_trusted; src_constraints_loaded_in_place + src_constraints_object_rewritten: the OBJECT
            behind `constraints` is the same object but is written to by `load_data` (identity kept, content not) —
            harmless for A by src_gs_/src_eg_refines_spec_any_moment
       hyp: gs_params_unchanged, eg_params_unchanged (repair A), to_params_unchanged
  D  prediction does not alter fitted state; same seed repeats the answer
       src: src_predict_pure, src_predict_methods_present (lifted, inside each estimator class);
            ACROSS the helper objects (lifters/lifecycle_helpers.py): src_helper_calls_followed (every method ThresholdOptimizer
            calls on `interpolated_thresholder_` and the adversarial estimators call on `backendEngine_` is found in
            InterpolatedThresholder / BackendEngine + PytorchEngine + TensorflowEngine), src_helper_predict_pure (that closure
            writes no attribute of the helper object or of the estimator behind `self.base`, in place or through aliases, and
            calls no mutating method), src_helper_mode_flag_scratch (the torch train/eval mode flag, which `evaluate` DOES write,
            is selected before every forward pass in evaluate and in train_step, so it is scratch state — decision documented
            in Model/LifecycleSrc.lean), src_predict_pure_flags (`predictPureSrc c` for all 7 classes);
            the `predict` step of EVERY `…src` machine runs through that flag (`guardPredict`, src_*_guard), so
            src_predict_does_not_alter_state (every history) and every src_*_refines_spec / src_*_history_free DEPEND on the lifted
            lists (guard_off_breaks_spec: with the flag off they are false).  F5g (repaired): src_cr_transform_pure — no
            prediction entry point calls validate_data(self, ..) with reset=True (`predictValidateResets` is part of the purity flag);
            src_cr_transform_resets_sklearn_attrs is the counter-witness for the pre-repair rule (`transform` in that list).
            *_predict_pure (every state, every rule): the state clause.  The model's predict result does not depend on the
            seed at all, so "same seed repeats" holds by construction; the numbers are compared by the harness.
       STILL MODELLED, NOT LIFTED: the `.retSelf` result of the EG / TO / CR steps (fitReturns is lifted and proved `["self"]`,
            but only gsStep's rule flag and advStepSrc compute their result from it); what a user's base estimator / torch
            module does inside its own predict / forward.
  E  pickle round trip (TO, EG, GS, CR) predicts like the original
       src_pickle_restores_state, *_pickle_roundtrip — BY DEFINITION of the model (pickle = identity on the modelled
       state); nothing about pickling is lifted from the source.  The content of this clause is checked by the
       harness only (relation C19.pickle_roundtrip).  Adversarial: adv_pickle_state_unchanged (result not claimed).
  quantifier "call sequences up to length 4": every theorem above is for ALL histories (`List Op`), no bound.
  totalisation: adv_reachable_invariant / adv_refit_uses_existing_engine (`getD []` never taken on a reachable state),
       driver_output_covers_every_op (no `zip` truncation in the driver output), view_length, changedCol_length.
-/
import FairModel.Lemmas.Lifecycle
import FairModel.Model.LifecycleSrc
import FairModel.Lemmas.LifecycleSrc
import FairModel.Lemmas.LifecycleParams

namespace C19
open Lifecycle Lifecycle.Machine

/-! ## GridSearch -/

theorem gs_step_embed (r : GSRules) (hm : r.moment = .copyPerFit) (t : Option Data) (o : Op) :
    ((GS r).step (gsEmb t) o).1 = gsEmb (Spec.step t o).1 := by
  obtain ⟨_, _⟩ := r; subst hm
  cases o <;> cases t <;> rfl

/-- F5b repaired (F5a irrelevant for the state): the fitted state does not depend on the history. -/
theorem gs_history_free (r : GSRules) (hm : r.moment = .copyPerFit) (ops : List Op) (d : Data) :
    (GS r).run (ops ++ [.fit d]) = (GS r).run [.fit d] :=
  run_snoc_fit_of_embed (GS r) gsEmb rfl (gs_step_embed r hm) ops d

theorem gs_step_res (t : Option Data) (o : Op) : ((GS gsRepaired).step (gsEmb t) o).2 = (Spec.step t o).2 := by
  cases o <;> cases t <;> rfl

theorem gs_refines_spec (ops : List Op) : (GS gsRepaired).view gsCls ops = Spec.view specCls ops :=
  view_eq_of_embed (GS gsRepaired) Spec gsEmb gsCls specCls rfl (gs_step_embed _ rfl) gs_step_res
    (fun t => by cases t <;> simp [gsCls, gsEmb, specCls]) ops

theorem gs_fit_returns_self (ops : List Op) (d : Data) :
    ((GS gsRepaired).step ((GS gsRepaired).run ops) (.fit d)).2 = .retSelf := by
  rw [run_eq_embed (GS gsRepaired) Spec gsEmb rfl (gs_step_embed _ rfl), gs_step_res]; rfl

/-- the object behind `constraints` is never touched (repaired rule) -/
theorem gs_params_unchanged (r : GSRules) (hm : r.moment = .copyPerFit) (ops : List Op) :
    gsParams ((GS r).run ops) = gsParams gsInit := by
  rw [run_eq_embed (GS r) Spec gsEmb rfl (gs_step_embed r hm)]; rfl

/-- non-vacuity of `gs_history_free` / `gs_params_unchanged`: the hypothesis is met by repair A, on a non-trivial history -/
example : (GS gsRepaired).run ([.fit D1, .clone, .predict 1] ++ [.fit D2]) = (GS gsRepaired).run [.fit D2] ∧
    gsParams ((GS gsRepaired).run [.fit D1, .clone, .fit D2]) = gsParams gsInit :=
  ⟨gs_history_free _ rfl _ _, gs_params_unchanged _ rfl _⟩

theorem gs_predict_pure (r : GSRules) : (GS r).PredictPure :=
  fun s k => by simp only [GS, gsStep]; split <;> rfl

theorem gs_pickle_roundtrip (r : GSRules) (s : GSState) : ((GS r).step s .pickle).1 = s := rfl

/-- F5a, the `.current` rule: every completed fit returns None. -/
theorem gs_current_fit_returns_none (m : MomentRule) (d : Data) :
    ((GS ⟨.current, m⟩).step gsInit (.fit d)).2 = .retNone := by
  cases m <;> rfl

/-- F5b, the `.current` rule: witness `fit D1; fit D2` — the second fit raises and leaves `predictors_` emptied. -/
theorem gs_current_not_history_free :
    ¬ ∀ (ops : List Op) (d : Data), (GS ⟨.repaired, .latched⟩).run (ops ++ [.fit d]) = (GS ⟨.repaired, .latched⟩).run [.fit d] := by
  intro h; exact absurd (h [.fit D1] D2) (by decide +kernel)

example : (GS ⟨.current, .latched⟩).view gsCls [.fit D1, .fit D2, .predict 0] =
    [(.retNone, .fresh D1), (.raised .assertion, .broken .index), (.raised .index, .broken .index)] := by decide +kernel

/-- F5b through clone: the deep copy of a loaded moment is loaded. -/
example : (GS ⟨.current, .latched⟩).view gsCls [.fit D1, .clone, .fit D2, .predict 0] =
    [(.retNone, .fresh D1), (.ok, .unfitted), (.raised .assertion, .broken .attribute),
     (.raised .attribute, .broken .attribute)] := by decide +kernel

/-- non-vacuity of the repaired theorems on a history that exercises every operation -/
example : (GS gsRepaired).view gsCls [.fit D1, .predict 3, .pickle, .clone, .predict 3, .fit D2, .fit D1] =
    [(.retSelf, .fresh D1), (.ok, .fresh D1), (.ok, .fresh D1), (.ok, .unfitted),
     (.raised .notFitted, .unfitted), (.retSelf, .fresh D2), (.retSelf, .fresh D1)] := by decide +kernel

/-! ### GridSearch, repair B (re-entrant `load_data`): same view, but the user's moment object is rewritten -/

/-- a re-entrant fit overwrites every field of the state, whatever it was -/
theorem gs_reentrant_history_free (r : GSRules) (hm : r.moment = .reentrant) (ops : List Op) (d : Data) :
    (GS r).run (ops ++ [.fit d]) = (GS r).run [.fit d] := by
  rw [run_snoc, run_single]; simp [GS, gsStep, hm, loadConstraints]

/-- with a re-entrant `load_data` the state of the object behind `constraints` plays no role: a GridSearch constructed
    around a moment in ANY state (fresh, or loaded by an earlier estimator or by `clone` of a fitted one) shows the
    specification's view -/
theorem gs_reentrant_refines_spec_any_moment (m : Moment) (ops : List Op) :
    (⟨⟨m, none, none⟩, gsStep gsReentrant⟩ : Machine GSState).view gsCls ops = Spec.view specCls ops := by
  apply view_eq_of_sim _ Spec (fun s t => s = ⟨s.constraints, t.map some, t⟩) gsCls specCls rfl
  · rintro ⟨m, _, b⟩ _ o ⟨⟩
    cases o <;> cases b <;> exact ⟨rfl, rfl⟩
  · rintro ⟨m, _, b⟩ _ ⟨⟩
    cases b <;> simp [gsCls, specCls]

/-- what repair B does not give: the object behind `constraints` is modified by fit -/
example : gsParams ((GS gsReentrant).run [.fit D1]) ≠ gsParams gsInit := by decide +kernel

/-! ## ExponentiatedGradient -/

theorem eg_step_embed (r : EGRules) (g : Bool) (hm : r.moment = .copyPerFit)
    (hn : r.nu = .repaired ∨ g = true) (t : Option Data) (o : Op) :
    ((EG r g).step (egEmb g t) o).1 = egEmb g (Spec.step t o).1 := by
  obtain ⟨_, n⟩ := r; subst hm
  cases o with
  | fit d => rcases hn with rfl | rfl <;> [cases g; cases n] <;> cases t <;> rfl
  | predict k => cases t <;> rfl
  | _ => rfl

/-- F5b repaired and (F5c repaired or `nu` given by the user): history free. -/
theorem eg_history_free (r : EGRules) (g : Bool) (hm : r.moment = .copyPerFit)
    (hn : r.nu = .repaired ∨ g = true) (ops : List Op) (d : Data) :
    (EG r g).run (ops ++ [.fit d]) = (EG r g).run [.fit d] :=
  run_snoc_fit_of_embed (EG r g) (egEmb g) rfl (eg_step_embed r g hm hn) ops d

/-- non-vacuity of `eg_history_free`: both hypotheses at once, through the `nu given` alternative with the `.current` `nu` rule -/
example : (EG ⟨.copyPerFit, .current⟩ true).run ([.fit D1, .pickle, .fit D2w] ++ [.fit D2]) =
    (EG ⟨.copyPerFit, .current⟩ true).run [.fit D2] :=
  eg_history_free _ _ rfl (Or.inr rfl) _ _

theorem eg_run_embed (g : Bool) (ops : List Op) : (EG egRepaired g).run ops = egEmb g (Spec.run ops) :=
  run_eq_embed _ Spec (egEmb g) rfl (eg_step_embed _ g rfl (Or.inl rfl)) ops

theorem eg_step_res (g : Bool) (t : Option Data) (o : Op) :
    ((EG egRepaired g).step (egEmb g t) o).2 = (Spec.step t o).2 := by
  cases o <;> cases t <;> rfl

theorem eg_refines_spec (g : Bool) (ops : List Op) :
    (EG egRepaired g).view (egCls g) ops = Spec.view specCls ops :=
  view_eq_of_embed (EG egRepaired g) Spec (egEmb g) (egCls g) specCls rfl (eg_step_embed _ g rfl (Or.inl rfl))
    (eg_step_res g) (fun t => by cases t <;> cases g <;> simp [egCls, egEmb, specCls, egFreshNu]) ops

theorem eg_fit_returns_self (g : Bool) (ops : List Op) (d : Data) :
    ((EG egRepaired g).step ((EG egRepaired g).run ops) (.fit d)).2 = .retSelf := by
  rw [eg_run_embed, eg_step_res]; rfl

/-- neither the constraints object nor `nu` ever change (repaired rules) -/
theorem eg_params_unchanged (g : Bool) (ops : List Op) :
    egParams ((EG egRepaired g).run ops) = egParams (egInit g) := by
  rw [eg_run_embed]; rfl

theorem eg_predict_pure (r : EGRules) (g : Bool) : (EG r g).PredictPure :=
  fun s k => by simp only [EG, egStep]; split <;> rfl

theorem eg_pickle_roundtrip (r : EGRules) (g : Bool) (s : EGState) : ((EG r g).step s .pickle).1 = s := rfl

/-- F5b, the `.current` rule -/
theorem eg_current_not_history_free (n : Rule) (g : Bool) :
    ¬ ∀ (ops : List Op) (d : Data), (EG ⟨.latched, n⟩ g).run (ops ++ [.fit d]) = (EG ⟨.latched, n⟩ g).run [.fit d] := by
  intro h; have := h [.fit D1] D2; revert this; cases n <;> cases g <;> decide

example : (EG ⟨.latched, .current⟩ true).view (egCls true) [.fit D1, .fit D2, .predict 0] =
    [(.retSelf, .fresh D1), (.raised .assertion, .fresh D1), (.ok, .fresh D1)] := by decide +kernel

example : (EG ⟨.latched, .current⟩ true).view (egCls true) [.fit D1, .clone, .fit D2, .predict 0] =
    [(.retSelf, .fresh D1), (.ok, .unfitted), (.raised .assertion, .broken .attribute),
     (.raised .attribute, .broken .attribute)] := by decide +kernel

/-- F5c, the `.current` rule (still in the source): one fit with `nu=None` overwrites the constructor parameter ... -/
theorem eg_current_nu_overwritten (m : MomentRule) (d : Data) :
    ((EG ⟨m, .current⟩ false).run [.fit d]).nuParam = some (.auto d) ∧ (egInit false).nuParam = none := by
  cases m <;> exact ⟨rfl, rfl⟩

/-- ... and, once the moment latch is repaired, makes the next fit depend on the first data set. -/
theorem eg_current_nu_not_history_free :
    ¬ ∀ (ops : List Op) (d : Data), (EG ⟨.copyPerFit, .current⟩ false).run (ops ++ [.fit d]) = (EG ⟨.copyPerFit, .current⟩ false).run [.fit d] := by
  intro h; exact absurd (h [.fit D1] D2) (by decide +kernel)

example : (EG ⟨.copyPerFit, .current⟩ false).view (egCls false) [.fit D1, .fit D2] =
    [(.retSelf, .fresh D1), (.retSelf, .staleNu D2 D1)] := by decide +kernel

example : (EG egRepaired false).view (egCls false) [.fit D1, .predict 1, .clone, .fit D2, .pickle, .fit D1] =
    [(.retSelf, .fresh D1), (.ok, .fresh D1), (.ok, .unfitted), (.retSelf, .fresh D2), (.ok, .fresh D2),
     (.retSelf, .fresh D1)] := by decide +kernel

/-! ### ExponentiatedGradient, repair B (re-entrant `load_data`) -/

/-- the states an ExponentiatedGradient with a re-entrant `load_data` can be in, relative to the specification: whatever
    the constraints object holds, `nu` is the constructor value and the fitted part is the fresh twin's -/
def egRel (g : Bool) (s : EGState) (t : Option Data) : Prop :=
  s = ⟨s.constraints, (egInit g).nuParam, t.isSome, t.map (fun d => (d, egFreshNu g d))⟩

/-- … kept by every step, with the specification's results, as long as `fit` does not change `nu`: under the repaired
    rule, or under the `.current` rule when the user gave `nu` (the value written back is the one read) -/
theorem egRel_step (r : EGRules) (g : Bool) (hm : r.moment = .reentrant) (hn : r.nu = .repaired ∨ g = true)
    (s : EGState) (t : Option Data) (o : Op) (h : egRel g s t) :
    egRel g (egStep r s o).1 (Spec.step t o).1 ∧ (egStep r s o).2 = (Spec.step t o).2 := by
  obtain ⟨_, n⟩ := r; subst hm
  rcases s with ⟨m, _, _, _⟩; cases h
  cases o with
  | fit d => rcases hn with rfl | rfl <;> [cases g; cases n] <;> cases t <;> exact ⟨rfl, rfl⟩
  | predict k => cases t <;> exact ⟨rfl, rfl⟩
  | _ => exact ⟨rfl, rfl⟩

theorem egRel_cls (g : Bool) (s : EGState) (t : Option Data) (h : egRel g s t) : egCls g s = specCls t := by
  rcases s with ⟨m, _, _, _⟩; cases h
  cases t <;> cases g <;> simp [egCls, specCls, egFreshNu]

/-- re-entrant `load_data` and a `nu` that `fit` leaves alone: the specification's view, around a constraints object in
    ANY state (fresh, or loaded by an earlier estimator or by `clone` of a fitted one) -/
theorem eg_reentrant_refines_spec_any_moment (r : EGRules) (g : Bool) (hm : r.moment = .reentrant)
    (hn : r.nu = .repaired ∨ g = true) (m : Moment) (ops : List Op) :
    (⟨⟨m, (egInit g).nuParam, false, none⟩, egStep r⟩ : Machine EGState).view (egCls g) ops = Spec.view specCls ops :=
  view_eq_of_sim _ Spec (egRel g) (egCls g) specCls (by rfl) (egRel_step r g hm hn) (egRel_cls g) ops

theorem eg_reentrant_run_rel (r : EGRules) (g : Bool) (hm : r.moment = .reentrant) (hn : r.nu = .repaired ∨ g = true)
    (ops : List Op) : egRel g ((EG r g).run ops) (Spec.run ops) :=
  runFrom_sim (EG r g) Spec (egRel g) ops _ _ (fun s t o _ h => (egRel_step r g hm hn s t o h).1) rfl

theorem eg_reentrant_history_free (g : Bool) (ops : List Op) (d : Data) :
    egCls g ((EG egReentrant g).run (ops ++ [.fit d])) = .fresh d := by
  rw [egRel_cls g _ _ (eg_reentrant_run_rel egReentrant g rfl (Or.inl rfl) _), spec_run_snoc_fit]; rfl

/-! ## ThresholdOptimizer -/

theorem to_step_embed (t : Option Data) (o : Op) :
    ((TO true).step (toEmb t) o).1 = toEmb (Spec.step t o).1 := by
  cases o <;> cases t <;> rfl

/-- with a clone of the wrapped estimator per fit the result is history free even for a base learner
    whose own `fit` is history dependent -/
theorem to_history_free (ops : List Op) (d : Data) :
    (TO true).run (ops ++ [.fit d]) = (TO true).run [.fit d] :=
  run_snoc_fit_of_embed (TO true) toEmb rfl to_step_embed ops d

theorem to_refines_spec (ops : List Op) : (TO true).view toCls ops = Spec.view specCls ops :=
  view_eq_of_embed (TO true) Spec toEmb toCls specCls rfl to_step_embed (fun t o => by cases o <;> cases t <;> rfl)
    (fun t => by cases t <;> simp [toCls, toEmb, specCls]) ops

theorem to_fit_returns_self (c : Bool) (s : TOState) (d : Data) : ((TO c).step s (.fit d)).2 = .retSelf := by
  cases c <;> rfl

/-- the object passed as `estimator` is never fitted -/
theorem to_params_unchanged (ops : List Op) : toParams ((TO true).run ops) = [] := by
  rw [run_eq_embed (TO true) Spec toEmb rfl to_step_embed]; rfl

theorem to_predict_pure (c : Bool) : (TO c).PredictPure := fun _ _ => rfl

theorem to_pickle_roundtrip (c : Bool) (s : TOState) : ((TO c).step s .pickle).1 = s := rfl

/-- why the clone matters: fitting the user's object in place is history dependent -/
theorem to_without_clone_not_history_free :
    ¬ ∀ (ops : List Op) (d : Data), (TO false).run (ops ++ [.fit d]) = (TO false).run [.fit d] := by
  intro h; exact absurd (h [.fit D1] D2) (by decide +kernel)

example : (TO true).view toCls [.predict 0, .fit D1, .fit D2, .pickle, .predict 5, .clone] =
    [(.raised .notFitted, .unfitted), (.retSelf, .fresh D1), (.retSelf, .fresh D2), (.ok, .fresh D2),
     (.ok, .fresh D2), (.ok, .unfitted)] := by decide +kernel

/-! ## CorrelationRemover -/

theorem cr_step_embed (t : Option Data) (o : Op) :
    ((CR .repaired).step (crEmb t) o).1 = crEmb (Spec.step t o).1 := by
  cases o <;> cases t <;> rfl

theorem cr_history_free (ops : List Op) (d : Data) :
    (CR .repaired).run (ops ++ [.fit d]) = (CR .repaired).run [.fit d] :=
  run_snoc_fit_of_embed (CR .repaired) crEmb rfl cr_step_embed ops d

theorem cr_refines_spec (ops : List Op) : (CR .repaired).view crCls ops = Spec.view specCls ops :=
  view_eq_of_embed (CR .repaired) Spec crEmb crCls specCls rfl cr_step_embed (fun t o => by cases o <;> cases t <;> rfl)
    (fun t => by cases t <;> rfl) ops

theorem cr_fit_returns_self (s : CRState) (d : Data) : ((CR .repaired).step s (.fit d)).2 = .retSelf := by
  simp [CR, crStep]

theorem cr_predict_pure (r : Rule) : (CR r).PredictPure := fun _ _ => rfl

theorem cr_pickle_roundtrip (r : Rule) (s : CRState) : ((CR r).step s .pickle).1 = s := rfl

/-- F5e, the `.current` rule: witness `fit D1 (3 columns); fit D2w (4 columns)` raises ValueError, state stays D1 -/
theorem cr_current_not_history_free :
    ¬ ∀ (ops : List Op) (d : Data), (CR .current).run (ops ++ [.fit d]) = (CR .current).run [.fit d] := by
  intro h; exact absurd (h [.fit D1] D2w) (by decide +kernel)

example : (CR .current).view crCls [.fit D1, .fit D2w] =
    [(.retSelf, .fresh D1), (.raised .value, .fresh D1)] := by decide +kernel

/-- F5e is exactly about the width: the `.current` rule *is* history free over data sets of one width. -/
theorem cr_current_history_free_same_width (w : Nat) (ops : List Op) (d : Data) (hd : d.width = w)
    (hw : ∀ d', Op.fit d' ∈ ops → d'.width = w) :
    (CR .current).run (ops ++ [.fit d]) = (CR .current).run [.fit d] := by
  -- the only width `_n_features_in_` ever holds is `w`, so the width check of the last fit passes
  have hs := run_invariant (CR .current) (fun s => s.nFeatures = none ∨ s.nFeatures = some w) ops
    (fun s o ho hs => by
      cases o with
      | fit d' => rcases hs with hs | hs <;> simp [CR, crStep, hs, hw d' ho]
      | clone => exact Or.inl rfl
      | _ => exact hs) (Or.inl rfl)
  rw [run_snoc, run_single]
  generalize (CR .current).run ops = s at hs
  rcases s with ⟨nf, f⟩
  rcases hs with rfl | rfl <;> simp [CR, crStep, hd, crInit]

/-- non-vacuity of `cr_current_history_free_same_width`: w = 3, a history with two fits, a clone and a predict -/
example : (CR .current).run ([.fit D1, .predict 0, .clone, .fit D2] ++ [.fit D1]) = (CR .current).run [.fit D1] :=
  cr_current_history_free_same_width 3 _ _ rfl (by intro d' h; simp at h; rcases h with rfl | rfl <;> rfl)

example : (CR .repaired).view crCls [.fit D1, .fit D2w, .predict 0, .clone, .fit D1] =
    [(.retSelf, .fresh D1), (.retSelf, .fresh D2w), (.ok, .fresh D2w), (.ok, .unfitted), (.retSelf, .fresh D1)] := by
  decide +kernel

/-! ## adversarial estimators (warm_start = False) -/

theorem adv_step_embed (t : Option Data) (o : Op) :
    ((Adv .repaired false).step (advEmb t) o).1 = advEmb (Spec.step t o).1 := by
  cases o <;> cases t <;> rfl

theorem adv_history_free (ops : List Op) (d : Data) :
    (Adv .repaired false).run (ops ++ [.fit d]) = (Adv .repaired false).run [.fit d] :=
  run_snoc_fit_of_embed (Adv .repaired false) advEmb rfl adv_step_embed ops d

/-- pickling a set-up adversarial estimator is not claimed by the property: the result of `pickle` is
    masked, its effect on the state (none) is not. -/
theorem adv_refines_spec (ops : List Op) :
    (Adv .repaired false).maskPickle.view advCls ops = Spec.view specCls ops :=
  view_eq_of_embed (Adv .repaired false).maskPickle Spec advEmb advCls specCls rfl
    (fun t o => by cases o <;> cases t <;> rfl) (fun t o => by cases o <;> cases t <;> rfl) (fun t => by cases t <;> rfl) ops

theorem adv_fit_returns_self (r : Rule) (w : Bool) (s : AdvState) (d : Data) :
    ((Adv r w).step s (.fit d)).2 = .retSelf := rfl

theorem adv_predict_pure (r : Rule) (w : Bool) (s : AdvState) (k : Nat) :
    ((Adv r w).step s (.predict k)).1 = s ∧
    ((Adv r w).step ((Adv r w).step s (.predict k)).1 (.predict k)).2 = ((Adv r w).step s (.predict k)).2 :=
  ⟨rfl, rfl⟩

/-- whether or not pickling succeeds, it does not alter the estimator -/
theorem adv_pickle_state_unchanged (r : Rule) (w : Bool) (s : AdvState) : ((Adv r w).step s .pickle).1 = s := rfl

/-- F5d, the `.current` rule: witness `fit D1; fit D2` — the engine is not rebuilt, training continues. -/
theorem adv_current_not_history_free :
    ¬ ∀ (ops : List Op) (d : Data), (Adv .current false).run (ops ++ [.fit d]) = (Adv .current false).run [.fit d] := by
  intro h; exact absurd (h [.fit D1] D2) (by decide +kernel)

example : (Adv .current false).view advCls [.fit D1, .fit D2, .clone, .fit D2] =
    [(.retSelf, .fresh D1), (.retSelf, .other), (.ok, .unfitted), (.retSelf, .fresh D2)] := by decide +kernel

/-- under the `.current` rule `warm_start` is never consulted after the first fit: both settings behave alike -/
theorem adv_current_ignores_warm_start (ops : List Op) :
    (Adv .current true).run ops = (Adv .current false).run ops := by
  -- on reachable states `_is_setup` and `classes_` exist together, and without them there is no engine to keep
  refine (runFrom_sim (Adv .current true) (Adv .current false)
    (fun s t => s = t ∧ s.isSetup = s.hasClasses ∧ (s.isSetup = false → s.engine = none)) ops _ _ ?_
    ⟨rfl, rfl, fun _ => rfl⟩).1
  rintro ⟨c, u, e⟩ _ o _ ⟨rfl, h1, h2⟩
  cases o with
  | fit d =>
    cases u
    · cases h1; cases h2 rfl; exact ⟨rfl, rfl, nofun⟩
    · cases h1; exact ⟨rfl, rfl, nofun⟩
  | clone => exact ⟨rfl, rfl, fun _ => rfl⟩
  | _ => exact ⟨rfl, h1, h2⟩

/-- the hypothesis warm_start = False is needed: with the repaired rule and warm_start = True training
    legitimately continues -/
example : (Adv .repaired true).view advCls [.fit D1, .fit D2] =
    [(.retSelf, .fresh D1), (.retSelf, .other)] := by decide +kernel

example : (Adv .repaired false).view advCls [.fit D1, .fit D2, .predict 0, .pickle, .clone, .pickle] =
    [(.retSelf, .fresh D1), (.retSelf, .fresh D2), (.ok, .fresh D2), (.raised .pickling, .fresh D2),
     (.ok, .unfitted), (.ok, .unfitted)] := by decide +kernel

/-! ### totalisation of the adversarial machine -/

/-- `advStep` / `advStepSrc` use `s.engine.getD []` when no new engine is built.  On every REACHABLE state that default
    is never taken: `_is_setup`, `classes_` and `backendEngine_` exist together (so "no setup" implies an engine). -/
theorem adv_reachable_invariant (r : Rule) (w : Bool) (ops : List Op) :
    ((Adv r w).run ops).isSetup = ((Adv r w).run ops).engine.isSome ∧
    ((Adv r w).run ops).hasClasses = ((Adv r w).run ops).isSetup :=
  run_invariant (Adv r w) (fun s => s.isSetup = s.engine.isSome ∧ s.hasClasses = s.isSetup) ops
    (fun s o _ hs => by cases o <;> first | exact hs | exact ⟨rfl, rfl⟩) ⟨rfl, rfl⟩

/-- hence a refit that keeps the engine really extends an EXISTING training history (never the `[]` default) -/
theorem adv_refit_uses_existing_engine (r : Rule) (w : Bool) (ops : List Op) (h : ((Adv r w).run ops).isSetup = true) :
    ∃ hist, ((Adv r w).run ops).engine = some hist := by
  have := (adv_reachable_invariant r w ops).1
  rw [h] at this
  exact Option.isSome_iff_exists.mp this.symm

example : ((Adv .current true).run [.fit D1, .predict 0]).isSetup = true ∧
    ((Adv .current true).run [.fit D1, .predict 0]).engine = some [D1] := by decide +kernel

/-! ## the same clauses for the rule flags DERIVED FROM THE SOURCE (`Generated/LifecycleSrc.lean`, rewritten from
the Python `ast` on every run by harness/lifters/lifecycle.py; machines in `Model/LifecycleSrc.lean`).
The quantifier of the `decide` proofs below is the finite, generated list of classes / attribute names; the histories
are still universally quantified (the flags are rewritten into the hand-written machines proved above).
Modelled assumption (trusted): rebinding `self.<name>` inside the class's own methods is the only way the value
`get_params` reports for `<name>` changes, and the callees in `fitSelfEscapes` / `predictSelfEscapes` do not do it. -/

section Src
open LifecycleSrc Generated.LifecycleSrc

/-- no estimator except ExponentiatedGradient rebinds or stores into a constructor parameter anywhere in the
    closure of `fit` / `partial_fit` -/
theorem src_params_unchanged :
    ∀ c ∈ [EstCls.TO, .GS, .CR, .ADV, .ADVC, .ADVR], paramsAssignedInFit c = [] ∧ paramsMutatedInFit c = [] := by
  decide +kernel

/-- F5c (KNOWN finding, kept visible): `ExponentiatedGradient.fit` rebinds exactly the parameter `nu`. -/
theorem src_eg_params_assigned : paramsAssignedInFit .EG = ["nu"] ∧ paramsMutatedInFit .EG = [] := by decide +kernel

/-- every path of `fit` / `partial_fit` of every estimator ends in `return self` -/
theorem src_fit_returns_self : ∀ c ∈ estimators, fitReturns c = ["self"] := by decide +kernel

/-- no prediction entry point (predict, predict_proba, _pmf_predict, transform, _raw_predict)
    rebinds or stores into any attribute of the estimator, and the only outside code handed the estimator is
    sklearn's `check_is_fitted` / `validate_data` -/
theorem src_predict_pure :
    ∀ c ∈ estimators, predictAssigned c = [] ∧ subset (predictSelfEscapes c) trustedPredictCallees = true := by
  decide +kernel

/-- every estimator has at least one prediction entry point that was analysed (non-vacuity of `src_predict_pure`) -/
theorem src_predict_methods_present : ∀ c ∈ estimators, predictMethods c ≠ [] := by decide +kernel

/-! ### the prediction closure followed ACROSS the helper objects (`InterpolatedThresholder` behind
`ThresholdOptimizer.interpolated_thresholder_`; `BackendEngine` / `PytorchEngine` / `TensorflowEngine` behind
`_AdversarialFairness.backendEngine_`): lifted by harness/lifters/lifecycle_helpers.py -/

/-- ThresholdOptimizer and the adversarial estimators do delegate their predictions to a helper object, every method they
    call on it was found and analysed in every helper class behind the attribute (for the engines: the abstract base
    method and both overrides), and no other estimator class has such an attribute -/
theorem src_helper_calls_followed :
    helperPredictCalls .TO ≠ [] ∧ helperPredictCalls .ADV ≠ [] ∧
    (∀ c ∈ estimators, helperCallsResolved c = true) ∧
    (∀ c ∈ [EstCls.EG, .GS, .CR], helpersOf c = [] ∧ helperPredictCalls c = []) ∧
    helperPredictClosure .IT ≠ [] ∧ helperPredictClosure .PT ≠ [] ∧ helperPredictClosure .TF ≠ [] := by decide +kernel

/-- what the lifter does NOT follow during prediction is a generated list too, and it consists of the prediction methods of the
    wrapped base estimators, `FloatTransformer.inverse_transform` and the adversarial predictor function only -/
theorem src_predict_other_calls_trusted :
    ∀ c ∈ estimators, subset (predictOtherCalls c) trustedPredictObjectCalls = true := by decide +kernel

/-- inside the helper classes, the closure of the prediction methods the estimators call (`InterpolatedThresholder.predict` /
    `_pmf_predict`, `<engine>.evaluate`) rebinds no attribute of the helper object or of the estimator behind `self.base`,
    stores into none in place, calls no mutating method on one (container mutators, torch in-place `…_` methods, optimiser
    `step` / `zero_grad`, RNG draws — also through local aliases such as `for p in self.predictor_model.parameters()`),
    hands the helper object only to `check_is_fitted` and its attributes only to `_get_soft_predictions` -/
theorem src_helper_predict_pure :
    ∀ h ∈ allHelpers, helperPredictWrites h = [] ∧ subset (helperPredictSelfEscapes h) trustedPredictCallees = true ∧
      subset (helperPredictAttrArgs h) trustedHelperAttrArgs = true := by decide +kernel

/-- the train / eval MODE FLAG of the networks is scratch state: the prediction closure only ever selects eval mode
    (`PytorchEngine.evaluate`: `self.predictor_model.eval()`, `TensorflowEngine.evaluate`: `training=False`), every forward
    pass of a prediction happens after an unconditional eval selection in the same call, and `train_step` selects train mode
    on the same module before its own forward pass — so the flag carries nothing from a prediction into a later fit or
    prediction.  (Parameters, buffers and optimiser state are covered by `src_helper_predict_pure`.) -/
theorem src_helper_mode_flag_scratch :
    (∀ h ∈ allHelpers, modeOk h = true) ∧
    helperPredictForwardModes .PT = [("predictor_model", "eval")] ∧
    helperPredictForwardModes .TF = [("predictor_model", "eval")] ∧
    (helperTrainStepForwardModes .PT).contains ("predictor_model", "train") = true := by decide +kernel

/-- F5g, the PRE-REPAIR rule (counter-witness, like the other historical rules): with `validate_data(self, X)` in `transform`
    (sklearn's default `reset=True`; the lifter then emits `predictValidateResets .CR = ["transform"]`) the purity flag of
    CorrelationRemover is OFF, and the machine run through that flag departs from the specification after one `transform`
    (replayed on fairlearn before the repair: fit on 3 columns, `transform` of 4 columns raised ValueError and left
    `n_features_in_ = 4`; a DataFrame with a renamed column replaced `feature_names_in_`).  No fairlearn code reads the two
    attributes, which is why only the attribute comparison of the harness could see it. -/
theorem src_cr_transform_resets_sklearn_attrs :
    predictPureWith ["transform"] .CR = false ∧
    (guardPredict (predictPureWith ["transform"] .CR) crTaint CRraw).view crCls [.fit D1, .predict 0]
      ≠ Spec.view specCls [.fit D1, .predict 0] ∧
    (predictReads .CR).contains "n_features_in_" = false ∧ (predictReads .CR).contains "feature_names_in_" = false ∧
    (fitHistoryReads .CR).all (fun x => !x.startsWith "n_features_in_ " && !x.startsWith "feature_names_in_ ") = true := by
  decide +kernel

theorem src_no_validate_resets : ∀ c ∈ estimators, predictValidateResets c = [] := by decide +kernel

/-- THE predict-purity flag of every estimator class (`predictAssigned` empty, escapes trusted, helper calls resolved,
    every helper class pure, no `validate_data(self, ..)` with `reset=True`) is on, by the theorems above — every `…src`
    machine below runs its prediction step through this flag -/
theorem src_predict_pure_flags : ∀ c ∈ estimators, predictPureSrc c = true := by
  intro c hc
  obtain ⟨h1, h2⟩ := src_predict_pure c hc
  have h5 : (helpersOf c).all helperPure = true := List.all_eq_true.2 fun h _ => by
    have hh : h ∈ allHelpers := by cases h <;> decide
    obtain ⟨a, b, c'⟩ := src_helper_predict_pure h hh
    simp [helperPure, a, b, c', src_helper_mode_flag_scratch.1 h hh]
  simp [predictPureSrc, predictPureWith, h1, h2, src_predict_other_calls_trusted c hc,
    src_helper_calls_followed.2.2.1 c hc, h5, src_no_validate_resets c hc]

theorem src_to_guard : TOsrc = TOraw := guardPredict_of_flag (src_predict_pure_flags .TO (by decide)) _ _
theorem src_topre_guard (h0 : List Data) : TOPreSrc h0 = TOPreRaw h0 :=
  guardPredict_of_flag (src_predict_pure_flags .TO (by decide)) _ _
theorem src_gs_guard : GSsrc = GSraw := guardPredict_of_flag (src_predict_pure_flags .GS (by decide)) _ _
theorem src_eg_guard (g : Bool) : EGsrc g = EGraw g := guardPredict_of_flag (src_predict_pure_flags .EG (by decide)) _ _
theorem src_cr_guard : CRsrc = CRraw := guardPredict_of_flag (src_predict_pure_flags .CR (by decide)) _ _
theorem src_adv_guard (w : Bool) : ADVsrc w = ADVraw w := guardPredict_of_flag (src_predict_pure_flags .ADV (by decide)) _ _

/-- F5g REPAIRED (current source): `CorrelationRemover.transform` calls `validate_data(self, X, reset=False)`, so no prediction
    entry point of any class lets sklearn rewrite `n_features_in_` / `feature_names_in_`; CorrelationRemover's purity flag is
    on WITHOUT exception, its source-derived machine is the raw one, and a `transform` leaves the modelled state alone. -/
theorem src_cr_transform_pure :
    (∀ c ∈ estimators, predictValidateResets c = []) ∧ predictPureSrc .CR = true ∧ CRsrc = CRraw :=
  ⟨src_no_validate_resets, src_predict_pure_flags .CR (by decide), src_cr_guard⟩

theorem src_fit_escapes_trusted : ∀ c ∈ estimators, subset (fitSelfEscapes c) trustedFitCallees = true := by
  decide +kernel

/-- every object that ThresholdOptimizer, GridSearch and ExponentiatedGradient (through `_Lagrangian`) call `.fit` on
    is a clone / deep copy of the wrapped estimator or a freshly constructed object on every path -/
theorem src_estimator_cloned :
    toClones = true ∧ clonesBeforeFit .GS = true ∧ clonesBeforeFit .EG = true ∧ clonesBeforeFit .LAG = true ∧
    (fitReceivers .GS ≠ [] ∧ fitReceivers .LAG ≠ []) := by decide +kernel

/-- `fit` of ThresholdOptimizer, ExponentiatedGradient and GridSearch reads no fitted attribute before it has
    definitely reassigned it in the same call (flow-sensitive definite-assignment analysis of the lifter).
    CorrelationRemover: the one static path is `_create_lookup` returning early for 1-d input without setting
    `lookup_`; that path is dead (`validate_data` raises for 1-d input right after — replayed by the harness,
    relation `C19.cr_1d_path_dead`). -/
theorem src_fit_history_reads :
    fitHistoryReads .TO = [] ∧ fitHistoryReads .EG = [] ∧ fitHistoryReads .GS = [] ∧
    fitHistoryReads .CR = ["lookup_ in _split_X"] := ⟨rfl, rfl, rfl, rfl⟩

/-- `fit` and the prediction entry points read no attribute that only `__init__` sets (and `get_params` does not
    report).  GridSearch still DERIVES `objective_weight = 1 − constraint_weight` in `__init__`, but since the repair of
    F5f (/repo 2f54dd0) nothing reads it. -/
theorem src_init_derived_reads :
    initDerivedReads .TO = [] ∧ initDerivedReads .EG = [] ∧ initDerivedReads .CR = [] ∧ initDerivedReads .GS = [] ∧
    initDerivedDeps .GS = [("objective_weight", ["constraint_weight"])] := ⟨rfl, rfl, rfl, rfl, rfl⟩

/-- GENERIC: a `fit` that reads no stale fitted state and unconditionally reassigns every attribute a prediction reads
    leaves the same observable fitted state whatever the estimator's history was (any old state, any branch choices) —
    and that state is computed from the data of this fit only -/
theorem fit_overwrites_all_fitted_state (sh : FitShape) (h1 : sh.historyReads = [])
    (h2 : ∀ a ∈ sh.predictReads, a ∈ sh.uncond) (ch1 ch2 : String → Bool) (d : Nat) (s1 s2 : FittedState) :
    observe sh (fitOn sh ch1 d s1) = observe sh (fitOn sh ch2 d s2) ∧
    ∀ v ∈ observe sh (fitOn sh ch1 d s1), v = some (d, true) := by
  have key : ∀ (ch : String → Bool) (s : FittedState), ∀ a ∈ sh.predictReads, fitOn sh ch d s a = some (d, true) :=
    fun ch s a ha => by simp [fitOn, h2 a ha, h1]
  refine ⟨List.map_congr_left fun a ha => by rw [key ch1 s1 a ha, key ch2 s2 a ha], fun v hv => ?_⟩
  obtain ⟨a, ha, rfl⟩ := List.mem_map.mp hv
  exact key ch1 s1 a ha

/-- the hypotheses are needed: a conditional reset (the attribute is only rewritten on some paths) lets an earlier
    fit's value through -/
example : observe ⟨[], ["curve"], [], ["curve"]⟩ (fitOn ⟨[], ["curve"], [], ["curve"]⟩ (fun _ => false) 2 (fun _ => some (1, true)))
    = [some (1, true)] := by decide +kernel

/-- non-vacuity of `fit_overwrites_all_fitted_state`: GridSearch's lifted shape meets both hypotheses, reads two fitted
    attributes in predict, and the two old states / branch choices really differ -/
example : observe (shapeOf .GS) (fitOn (shapeOf .GS) (fun _ => true) 2 (fun _ => some (1, false))) =
    observe (shapeOf .GS) (fitOn (shapeOf .GS) (fun _ => false) 2 (fun _ => none)) ∧
    observe (shapeOf .GS) (fitOn (shapeOf .GS) (fun _ => true) 2 (fun _ => some (1, false))) = [some (2, true), some (2, true)] :=
  ⟨(fit_overwrites_all_fitted_state _ (by decide +kernel) (by decide +kernel) _ _ _ _ _).1, by decide +kernel⟩

/-- from the source: for ThresholdOptimizer, ExponentiatedGradient and GridSearch, `fit` reads no fitted attribute
    before reassigning it AND every fitted attribute a prediction entry point reads is reassigned on every normally
    returning path of `fit` … -/
theorem src_fit_shape :
    ∀ c ∈ [EstCls.TO, .EG, .GS], (shapeOf c).historyReads = [] ∧ predictReadsNotOverwritten c = [] ∧ predictReads c ≠ [] := by
  decide +kernel

/-- … hence every fit overwrites all fitted state a prediction can see (history freedom of the attribute state) -/
theorem src_fit_overwrites_all_fitted_state (c : EstCls) (hc : c ∈ [EstCls.TO, .EG, .GS]) (ch1 ch2 : String → Bool)
    (d : Nat) (s1 s2 : FittedState) :
    observe (shapeOf c) (fitOn (shapeOf c) ch1 d s1) = observe (shapeOf c) (fitOn (shapeOf c) ch2 d s2) := by
  obtain ⟨h1, h2, _⟩ := src_fit_shape c hc
  refine (fit_overwrites_all_fitted_state (shapeOf c) h1 (fun a ha => ?_) ch1 ch2 d s1 s2).1
  by_contra hn
  have : a ∈ predictReadsNotOverwritten c := List.mem_filter.2 ⟨ha, by simpa [shapeOf] using hn⟩
  rw [h2] at this; cases this

/-- CorrelationRemover: the same, up to the one static path of `_create_lookup` (1-d input) that is dead at run time -/
theorem src_cr_fit_shape :
    predictReadsNotOverwritten .CR = ["lookup_"] ∧ fitHistoryReads .CR = ["lookup_ in _split_X"] := by decide +kernel

/-! ### the machines under the derived flags -/

theorem src_gs_rules : gsRules = gsReentrant := by decide +kernel

/-- F5c stays: the moment latch is gone (re-entrant `load_data`), `nu` is still rebound -/
theorem src_eg_rules : egRules = ⟨.reentrant, .current⟩ := by
  rw [egRules, nuRule, src_eg_params_assigned.1]; decide +kernel

theorem src_cr_rule : crRule = .repaired := by decide +kernel

theorem src_to_clones : toClones = true := src_estimator_cloned.1

/-- the adversarial step function written over the three lifted boolean rules (`reinitialize = …` in fit, the guard
    of `self.__setup` in `_validate_input`, the keep condition of `BackendEngine.__init__`) IS the repaired rule -/
theorem src_adv_step_eq (w : Bool) (s : AdvState) (o : Op) : advStepSrc w s o = advStep .repaired w s o := by
  rcases s with ⟨c, u, e⟩
  cases o with
  | fit d =>
    simp only [advStepSrc, advStep, if_pos (src_fit_returns_self .ADV (by decide))]
    cases w <;> cases c <;> cases u <;> cases e <;> rfl
  | _ => rfl

/-- the machines the driver runs are the hand-written ones under the rules read from the source -/
theorem src_gs_machine_eq : GSsrc = GS gsReentrant := by rw [src_gs_guard, GSraw, src_gs_rules]

theorem src_eg_machine_eq (g : Bool) : EGsrc g = EG ⟨.reentrant, .current⟩ g := by rw [src_eg_guard, EGraw, src_eg_rules]

theorem src_cr_machine_eq : CRsrc = CR .repaired := by rw [src_cr_guard, CRraw, src_cr_rule]

theorem src_to_machine_eq : TOsrc = TO true := by rw [src_to_guard, TOraw, src_to_clones]

theorem src_adv_machine_eq (w : Bool) : ADVsrc w = Adv .repaired w := by
  rw [src_adv_guard]; unfold ADVraw Adv; congr 1; funext s o; exact src_adv_step_eq w s o

/-- the guard has teeth: with the flag off (= some lifted write list non-empty) one prediction makes the estimator differ
    from its fresh twin, i.e. the refinement theorems would be FALSE -/
theorem guard_off_breaks_spec :
    (guardPredict false toTaint TOraw).view toCls [.fit D1, .predict 0] ≠ Spec.view specCls [.fit D1, .predict 0] ∧
    (guardPredict false advTaint (ADVraw false)).view advCls [.fit D1, .predict 0] ≠ Spec.view specCls [.fit D1, .predict 0] ∧
    (guardPredict false gsTaint GSraw).view gsCls [.fit D1, .predict 0] ≠ Spec.view specCls [.fit D1, .predict 0] ∧
    (guardPredict false (egTaint) (EGraw true)).view (egCls true) [.fit D1, .predict 0] ≠ Spec.view specCls [.fit D1, .predict 0] ∧
    (guardPredict false crTaint CRraw).view crCls [.fit D1, .predict 0] ≠ Spec.view specCls [.fit D1, .predict 0] := by
  rw [TOraw, src_to_clones, GSraw, src_gs_rules, EGraw, src_eg_rules, CRraw, src_cr_rule]; decide +kernel

/-! #### GridSearch -/

theorem src_gs_refines_spec (ops : List Op) : GSsrc.view gsCls ops = Spec.view specCls ops :=
  src_gs_machine_eq ▸ gs_reentrant_refines_spec_any_moment Moment.new ops

theorem src_gs_history_free (ops : List Op) (d : Data) : GSsrc.run (ops ++ [.fit d]) = GSsrc.run [.fit d] :=
  src_gs_machine_eq ▸ gs_reentrant_history_free _ rfl ops d

theorem src_gs_fit_returns_self (s : GSState) (d : Data) : (GSsrc.step s (.fit d)).2 = .retSelf := by
  rw [src_gs_machine_eq]; rfl

/-! clause C: what `fit` does to the object behind `constraints` (both reductions) -/

/-- the lifted facts behind `momentRule = reentrant`: both reductions call `load_data` on the user's object itself (no
    copy) and no `load_data` refuses a second call -/
theorem src_constraints_loaded_in_place :
    constraintsInPlace .EG = true ∧ constraintsInPlace .GS = true ∧ constraintsCopied .EG = false ∧
    constraintsCopied .GS = false ∧ momentLatch = false := by decide +kernel

/-- consequence, kept visible: under today's source `get_params()["constraints"]` is the same OBJECT after fit, but the
    object has been written to (it holds the data of the last fit) -/
theorem src_constraints_object_rewritten :
    gsParams (GSsrc.run [.fit D1]) = ⟨true, some D1⟩ ∧ gsParams gsInit = ⟨false, none⟩ ∧
    (egParams ((EGsrc true).run [.fit D1, .fit D2])).1 = ⟨true, some D2⟩ := by
  rw [src_gs_machine_eq, src_eg_machine_eq]; decide +kernel

/-- … and that is harmless for the property: a GridSearch / ExponentiatedGradient constructed around a constraints
    object in ANY state (fresh, or loaded by an earlier estimator or by `clone` of a fitted one) shows the
    specification's view -/
theorem src_gs_refines_spec_any_moment (m : Moment) (ops : List Op) :
    (⟨⟨m, none, none⟩, gsStep gsRules⟩ : Machine GSState).view gsCls ops = Spec.view specCls ops := by
  rw [src_gs_rules]; exact gs_reentrant_refines_spec_any_moment m ops

theorem src_eg_refines_spec_any_moment (m : Moment) (ops : List Op) :
    (⟨⟨m, some .given, false, none⟩, egStep egRules⟩ : Machine EGState).view (egCls true) ops = Spec.view specCls ops := by
  rw [src_eg_rules]; exact eg_reentrant_refines_spec_any_moment _ true rfl (Or.inr rfl) m ops

example : (⟨⟨⟨true, some D2w⟩, none, none⟩, gsStep gsRules⟩ : Machine GSState).view gsCls [.fit D1, .clone, .fit D2] =
    [(.retSelf, .fresh D1), (.ok, .unfitted), (.retSelf, .fresh D2)] := by decide +kernel

/-! #### ExponentiatedGradient: `nu` given by the user, then `nu=None` (F5c) -/

/-- ExponentiatedGradient with `nu` given by the user: today's source refines the specification … -/
theorem src_eg_refines_spec_nu_given (ops : List Op) :
    (EGsrc true).view (egCls true) ops = Spec.view specCls ops :=
  src_eg_machine_eq true ▸ eg_reentrant_refines_spec_any_moment _ true rfl (Or.inr rfl) Moment.new ops

/-- … and never changes `nu` -/
theorem src_eg_nu_unchanged_nu_given (ops : List Op) : ((EGsrc true).run ops).nuParam = some .given :=
  src_eg_machine_eq true ▸ congrArg EGState.nuParam (eg_reentrant_run_rel _ true rfl (Or.inr rfl) ops)

/-- `nu` given by the user: the whole modelled state after `fit d` is that of a first fit (the constraints object is
    loaded with `d` in place, which is also what a first fit does) -/
theorem src_eg_history_free_nu_given (ops : List Op) (d : Data) :
    (EGsrc true).run (ops ++ [.fit d]) = (EGsrc true).run [.fit d] := by
  rw [src_eg_machine_eq, run_snoc, run_single, eg_reentrant_run_rel _ true rfl (Or.inr rfl) ops]; rfl

theorem src_eg_fit_returns_self (g : Bool) (s : EGState) (d : Data) : ((EGsrc g).step s (.fit d)).2 = .retSelf := by
  rw [src_eg_machine_eq]; rfl

example : (EGsrc true).view (egCls true) [.fit D1, .predict 1, .clone, .fit D2, .pickle, .fit D1] =
    [(.retSelf, .fresh D1), (.ok, .fresh D1), (.ok, .unfitted), (.retSelf, .fresh D2), (.ok, .fresh D2),
     (.retSelf, .fresh D1)] := by rw [src_eg_machine_eq]; decide +kernel

/-- F5c under today's source, `nu=None`: the first fit's automatic `nu` is kept by every later fit (known finding) -/
theorem src_eg_nu_none_is_f5c :
    (EGsrc false).view (egCls false) [.fit D1, .fit D2] = [(.retSelf, .fresh D1), (.retSelf, .staleNu D2 D1)] ∧
    ((EGsrc false).run [.fit D1]).nuParam = some (.auto D1) := by
  rw [src_eg_machine_eq]; decide +kernel

/-- F5c, what DOES hold for `nu=None` under today's source (PARTIAL: the view equation of
    `src_eg_refines_spec_nu_given` is false for `nuGiven = false`, witness `src_eg_nu_none_is_f5c`): for EVERY history the results column is the
    specification's — every fit returns self and never raises, predict raises NotFittedError exactly when the
    specification does, pickle and clone succeed.  (Both views are taken with the constant class, i.e. only the
    results are compared.) -/
theorem src_eg_nu_none_results_refine_spec_partial (ops : List Op) :
    (EGsrc false).view (fun _ => Cls.unfitted) ops = Spec.view (fun _ => Cls.unfitted) ops := by
  rw [src_eg_machine_eq]
  apply view_eq_of_sim (EG ⟨.reentrant, .current⟩ false) Spec
    (fun s t => s.started = t.isSome ∧ s.fitted.isSome = t.isSome) _ _ ⟨rfl, rfl⟩
  · rintro ⟨m, n, _, f⟩ t o ⟨h1, h2⟩
    cases h1
    cases o with
    | predict k => cases t <;> cases f <;> first | exact ⟨⟨rfl, rfl⟩, rfl⟩ | cases h2
    | pickle => exact ⟨⟨rfl, h2⟩, rfl⟩
    | _ => exact ⟨⟨rfl, rfl⟩, rfl⟩
  · intro _ _ _; rfl

/-- the first fit after construction (no fit before it, whatever else happened) is the fresh twin even for `nu=None` -/
theorem src_eg_nu_none_first_fit_fresh (ops : List Op) (hno : ∀ o ∈ ops, ∀ d', o ≠ Op.fit d') (d : Data) :
    egCls false ((EGsrc false).run (ops ++ [.fit d])) = .fresh d := by
  rw [src_eg_machine_eq, run_snoc]
  -- before the first fit `nu` is still `None`, so that fit computes its own
  have hn := run_invariant (EG ⟨.reentrant, .current⟩ false) (fun s => s.nuParam = none) ops
    (fun s o ho hs => by
      cases o with
      | fit d' => exact absurd rfl (hno _ ho d')
      | predict k => rw [eg_predict_pure _ _ s k]; exact hs
      | _ => exact hs) rfl
  generalize (EG ⟨.reentrant, .current⟩ false).run ops = s at hn
  rcases s with ⟨m, n, st, f⟩
  cases hn
  simp [EG, egStep, loadConstraints, egCls, egFreshNu]

example : egCls false ((EGsrc false).run ([.predict 0, .clone, .pickle] ++ [.fit D2])) = .fresh D2 :=
  src_eg_nu_none_first_fit_fresh _ (fun _ ho _ h => by subst h; simp at ho) _

/-- F5c, complete description of what today's source does for `nu=None` (PARTIAL w.r.t. clause A, which would demand
    `.fresh d` throughout): after ANY history the estimator is unfitted, the fresh twin of its last data, or the twin
    fitted on its last data with the automatic `nu` of an earlier data set — never "like no twin" and never broken -/
theorem src_eg_nu_none_cls_partial (ops : List Op) :
    egCls false ((EGsrc false).run ops) = .unfitted ∨
    (∃ d, egCls false ((EGsrc false).run ops) = .fresh d) ∨
    (∃ d d', egCls false ((EGsrc false).run ops) = .staleNu d d') := by
  rw [src_eg_machine_eq]
  -- every `nu` in the state (the parameter, the one the last fit used) is an automatic one, of the data set `a` / `f.2`,
  -- and `started` goes with `fitted`
  obtain ⟨a, f, h⟩ := run_invariant (EG ⟨.reentrant, .current⟩ false)
    (fun s => ∃ (a : Option Data) (f : Option (Data × Data)),
      s = ⟨s.constraints, a.map .auto, f.isSome, f.map (fun p => (p.1, .auto p.2))⟩) ops
    (fun s o _ ⟨a, f, h⟩ => by
      rcases s with ⟨m, _, _, _⟩; cases h
      cases o with
      | fit d => exact ⟨some (a.getD d), some (d, a.getD d), by cases a <;> rfl⟩
      | predict k => exact ⟨a, f, by cases f <;> rfl⟩
      | pickle => exact ⟨a, f, rfl⟩
      | clone => exact ⟨a, none, rfl⟩) ⟨none, none, rfl⟩
  rw [h]
  rcases f with _ | ⟨d, d'⟩
  · exact Or.inl rfl
  · by_cases hd : d' = d
    · exact Or.inr (Or.inl ⟨d, by simp [egCls, egFreshNu, hd]⟩)
    · exact Or.inr (Or.inr ⟨d, d', by simp [egCls, egFreshNu, hd]⟩)

/-! #### CorrelationRemover, ThresholdOptimizer, adversarial estimators -/

theorem src_cr_refines_spec (ops : List Op) : CRsrc.view crCls ops = Spec.view specCls ops :=
  src_cr_machine_eq ▸ cr_refines_spec ops

theorem src_cr_history_free (ops : List Op) (d : Data) : CRsrc.run (ops ++ [.fit d]) = CRsrc.run [.fit d] :=
  src_cr_machine_eq ▸ cr_history_free ops d

theorem src_cr_fit_returns_self (s : CRState) (d : Data) : (CRsrc.step s (.fit d)).2 = .retSelf :=
  src_cr_machine_eq ▸ cr_fit_returns_self s d

theorem src_to_refines_spec (ops : List Op) : TOsrc.view toCls ops = Spec.view specCls ops :=
  src_to_machine_eq ▸ to_refines_spec ops

theorem src_to_history_free (ops : List Op) (d : Data) : TOsrc.run (ops ++ [.fit d]) = TOsrc.run [.fit d] :=
  src_to_machine_eq ▸ to_history_free ops d

theorem src_to_fit_returns_self (s : TOState) (d : Data) : (TOsrc.step s (.fit d)).2 = .retSelf :=
  src_to_machine_eq ▸ to_fit_returns_self _ s d

theorem src_adv_history_free (ops : List Op) (d : Data) :
    (ADVsrc false).run (ops ++ [.fit d]) = (ADVsrc false).run [.fit d] :=
  src_adv_machine_eq false ▸ adv_history_free ops d

theorem src_adv_refines_spec (ops : List Op) :
    (ADVsrc false).maskPickle.view advCls ops = Spec.view specCls ops :=
  src_adv_machine_eq false ▸ adv_refines_spec ops

theorem src_adv_fit_returns_self (w : Bool) (s : AdvState) (d : Data) : ((ADVsrc w).step s (.fit d)).2 = .retSelf := by
  rw [src_adv_machine_eq]; rfl

example : (ADVsrc false).view advCls [.fit D1, .fit D2, .clone, .fit D2] =
    [(.retSelf, .fresh D1), (.retSelf, .fresh D2), (.ok, .unfitted), (.retSelf, .fresh D2)] := by
  rw [src_adv_machine_eq]; decide +kernel

/-! ### clauses D and E at the level of histories: a prediction / a pickle round trip at the end of ANY history leaves
the modelled state (hence every later answer) as it was — for the machines under the source-derived flags -/

theorem src_predict_does_not_alter_state (ops : List Op) (k : Nat) :
    TOsrc.run (ops ++ [.predict k]) = TOsrc.run ops ∧ GSsrc.run (ops ++ [.predict k]) = GSsrc.run ops ∧
    CRsrc.run (ops ++ [.predict k]) = CRsrc.run ops ∧
    (∀ g, (EGsrc g).run (ops ++ [.predict k]) = (EGsrc g).run ops) ∧
    (∀ w, (ADVsrc w).run (ops ++ [.predict k]) = (ADVsrc w).run ops) :=
  by
  -- the prediction step of every `…src` machine runs through the LIFTED purity flag (`guardPredict (predictPureSrc c)`):
  -- this theorem holds because `src_predict_pure_flags` does
  rw [src_to_guard, src_gs_guard, src_cr_guard]
  exact ⟨run_snoc_of_step_id _ _ (fun s => to_predict_pure _ s k) ops,
   run_snoc_of_step_id _ _ (fun s => gs_predict_pure _ s k) ops,
   run_snoc_of_step_id _ _ (fun s => cr_predict_pure _ s k) ops,
   fun g => by rw [src_eg_guard]; exact run_snoc_of_step_id _ _ (fun s => eg_predict_pure _ g s k) ops,
   fun w => run_snoc_of_step_id _ _ (fun s => by rw [src_adv_machine_eq]; rfl) ops⟩

/-- clause E: ThresholdOptimizer, ExponentiatedGradient, GridSearch, CorrelationRemover restored from pickle are in the
    state of the original after every history, and the round trip itself succeeds (MODELLING ASSUMPTION, not a lifted
    fact: `pickle` is the identity on the modelled state) -/
theorem src_pickle_restores_state (ops : List Op) :
    (TOsrc.run (ops ++ [.pickle]) = TOsrc.run ops ∧ (TOsrc.step (TOsrc.run ops) .pickle).2 = .ok) ∧
    (GSsrc.run (ops ++ [.pickle]) = GSsrc.run ops ∧ (GSsrc.step (GSsrc.run ops) .pickle).2 = .ok) ∧
    (CRsrc.run (ops ++ [.pickle]) = CRsrc.run ops ∧ (CRsrc.step (CRsrc.run ops) .pickle).2 = .ok) ∧
    (∀ g, (EGsrc g).run (ops ++ [.pickle]) = (EGsrc g).run ops ∧ ((EGsrc g).step ((EGsrc g).run ops) .pickle).2 = .ok) :=
  ⟨⟨run_snoc_of_step_id _ _ (fun _ => rfl) ops, rfl⟩, ⟨run_snoc_of_step_id _ _ (fun _ => rfl) ops, rfl⟩,
   ⟨run_snoc_of_step_id _ _ (fun _ => rfl) ops, rfl⟩, fun _ => ⟨run_snoc_of_step_id _ _ (fun _ => rfl) ops, rfl⟩⟩

/-- the classes the generated tables cover are the property's estimators plus the helper `_Lagrangian` -/
theorem src_estimators_cover : ∀ c ∈ allClasses, c = .LAG ∨ c ∈ estimators := by decide +kernel

end Src

/-! ## histories with `set_params` between fits (`Model/LifecycleParams.lean`)

`fit; set_params(p=v); fit` must equal `fresh(p=v).fit`.  `set_params` is `setattr` on the parameter only, so the
clause holds for every history exactly when `fit` reads nothing that `__init__` derived from a parameter. -/

section Params
open LifecycleParams Generated.LifecycleSrc

/-- an estimator whose `fit` reads only constructor parameters: for EVERY history over fit / predict / pickle /
    clone / set_params it shows the specification's view — in particular a fit after `set_params(p=v)` gives the
    model of a fresh estimator constructed with `p=v` -/
theorem params_refines_spec (p0 : Nat) (ops : List POp) : view false p0 ops = specView p0 ops :=
  view_not_readsDerived_eq_specView p0 ops

/-- the specification's own content: after any history, `fit d` leaves "fresh twin on d with the parameter value
    of the last `set_params`" -/
theorem spec_fit_uses_current_params (p0 : Nat) (ops : List POp) (d : Data) :
    pspecCls (runWith pspecStep ⟨p0, none⟩ (ops ++ [.fit d])) = .fresh d (currentParam p0 ops) := by
  rw [runWith_snoc]
  show PCls.fresh d (runWith pspecStep ⟨p0, none⟩ ops).param = _
  rw [runWith_pspecStep_param]

/-- an estimator whose `fit` reads an attribute derived in `__init__`: 2-operation witness
    `set_params(p=v1); fit(D1)` is like no fresh twin; `clone` (which re-runs `__init__`) heals it -/
theorem params_stale_derived_not_spec : ¬ ∀ ops, view true 0 ops = specView 0 ops := by
  intro h; exact absurd (h [.setParam 1, .fit D1]) (by decide +kernel)

example : view true 0 [.setParam 1, .fit D1] = [(.ok, .unfitted), (.retSelf, .other)] := by decide +kernel
example : view true 0 [.setParam 1, .clone, .fit D1] = [(.ok, .unfitted), (.ok, .unfitted), (.retSelf, .fresh D1 1)] := by
  decide +kernel
example : view false 0 [.fit D1, .setParam 1, .predict, .fit D2, .setParam 0, .fit D1] =
    [(.retSelf, .fresh D1 0), (.ok, .fresh D1 0), (.ok, .fresh D1 0), (.retSelf, .fresh D2 1), (.ok, .fresh D2 1),
     (.retSelf, .fresh D1 0)] := by decide +kernel

/-- from the source: no estimator reads, in `fit` or a prediction entry point, an attribute that `__init__` derived
    from a constructor parameter (what the adversarial `__init__` chain derives depends on no parameter; GridSearch's
    `objective_weight` is no longer read) … -/
theorem src_no_stale_derived :
    ∀ c ∈ [EstCls.TO, .EG, .GS, .CR, .ADV, .ADVC, .ADVR], staleAfterSetParams c = [] := by decide +kernel

/-- … so their `set_params` histories refine the specification -/
theorem src_params_refines_spec (c : EstCls) (hc : c ∈ [EstCls.TO, .EG, .GS, .CR, .ADV, .ADVC, .ADVR]) (p0 : Nat)
    (ops : List POp) : view (readsDerivedSrc c) p0 ops = specView p0 ops := by
  have h : readsDerivedSrc c = false := by
    unfold readsDerivedSrc; rw [src_no_stale_derived c hc]; rfl
  rw [h]; exact params_refines_spec p0 ops

example : view (readsDerivedSrc .GS) 0 [.fit D1, .setParam 1, .fit D2] = specView 0 [.fit D1, .setParam 1, .fit D2] :=
  src_params_refines_spec _ (by decide) _ _

/-- F5f (found by this check, repaired in /repo 2f54dd0): `GridSearch.fit` used to read `objective_weight`, which
    `__init__` computed as `1.0 - constraint_weight` and `set_params(constraint_weight=…)` does not update — the stale
    machine `view true` above (`params_stale_derived_not_spec`).  Today's source: the machine reads no derived attribute. -/
theorem src_gs_set_params_repaired :
    readsDerivedSrc .GS = false ∧
    view (readsDerivedSrc .GS) 0 [.setParam 1, .fit D1] = [(.ok, .unfitted), (.retSelf, .fresh D1 1)] := by
  decide +kernel

end Params

/-! ## ThresholdOptimizer with `prefit=True`

History freedom there means: the thresholds depend on the data of the last fit and on the user's fitted estimator AS THE
USER LEFT IT — `fit` never refits that object.  `clone` drops the fitted state of the nested estimator, after which `fit`
fails exactly like a fresh ThresholdOptimizer(prefit=True) around an unfitted estimator. -/

section Prefit

def cloneFree (ops : List Op) : Prop := ∀ o ∈ ops, o ≠ Op.clone

/-- around a fitted user estimator `fit` only aliases it and computes the thresholds -/
theorem to_prefit_fit (h0 : List Data) (hne : h0 ≠ []) (s : TOPreState) (hs : s.user = h0) (d : Data) :
    (TOPre false h0).step s (.fit d) = (⟨h0, true, some (h0, d)⟩, .retSelf) := by
  have hn : h0.isEmpty = false := by cases h0 <;> simp_all
  simp only [TOPre, toPreStep, hs, hn, Bool.false_eq_true, if_false]

/-- the user's estimator is never refitted: after any clone-free history its fit history is what the user left -/
theorem to_prefit_user_estimator_untouched (h0 : List Data) (hne : h0 ≠ []) (ops : List Op) (hc : cloneFree ops) :
    ((TOPre false h0).run ops).user = h0 :=
  run_invariant (TOPre false h0) (fun s => s.user = h0) ops
    (fun s o ho hs => by
      cases o with
      | fit d => rw [to_prefit_fit h0 hne s hs]
      | clone => exact absurd rfl (hc _ ho)
      | _ => exact hs) rfl

/-- … and a fit after any clone-free history gives the state of a first fit -/
theorem to_prefit_history_free (h0 : List Data) (hne : h0 ≠ []) (ops : List Op) (hc : cloneFree ops) (d : Data) :
    (TOPre false h0).run (ops ++ [.fit d]) = (TOPre false h0).run [.fit d] := by
  rw [run_snoc, run_single, to_prefit_fit h0 hne _ (to_prefit_user_estimator_untouched h0 hne ops hc),
    to_prefit_fit h0 hne _ rfl]

theorem to_prefit_fit_returns_self (h0 : List Data) (hne : h0 ≠ []) (ops : List Op) (hc : cloneFree ops) (d : Data) :
    ((TOPre false h0).step ((TOPre false h0).run ops) (.fit d)).2 = .retSelf ∧
    toPreCls h0 ((TOPre false h0).run (ops ++ [.fit d])) = .fresh d := by
  rw [run_snoc, to_prefit_fit h0 hne _ (to_prefit_user_estimator_untouched h0 hne ops hc)]
  exact ⟨rfl, by simp [toPreCls]⟩

/-- non-vacuity of the prefit theorems: a fitted user estimator (h0 = [D2w]) and a clone-free history with two fits -/
example : (TOPre false [D2w]).run ([.predict 0, .fit D1, .pickle, .fit D2] ++ [.fit D1]) = (TOPre false [D2w]).run [.fit D1] ∧
    ((TOPre false [D2w]).run [.predict 0, .fit D1, .pickle, .fit D2]).user = [D2w] ∧
    toPreCls [D2w] ((TOPre false [D2w]).run ([.predict 0, .fit D1, .pickle, .fit D2] ++ [.fit D1])) = .fresh D1 :=
  have hc : cloneFree [.predict 0, .fit D1, .pickle, .fit D2] := by unfold cloneFree; decide
  ⟨to_prefit_history_free _ (by decide) _ hc _, to_prefit_user_estimator_untouched _ (by decide) _ hc,
   (to_prefit_fit_returns_self [D2w] (by decide) _ hc D1).2⟩

/-- clone then fit ≡ a fresh ThresholdOptimizer(prefit=True) around an UNFITTED estimator: both fail in the same way -/
theorem to_prefit_clone_then_fit (h0 : List Data) (ops : List Op) (d : Data) :
    (TOPre false h0).run (ops ++ [.clone, .fit d]) = (TOPre false []).run [.fit d] ∧
    ((TOPre false []).step (toPreInit []) (.fit d)).2 = .raised .attribute := by
  refine ⟨?_, rfl⟩
  rw [List.append_cons, run_snoc, run_snoc, run_single]; rfl

theorem to_prefit_predict_pure (r : Bool) (h0 : List Data) (s : TOPreState) (k : Nat) :
    ((TOPre r h0).step s (.predict k)).1 = s := rfl

theorem to_prefit_pickle_roundtrip (r : Bool) (h0 : List Data) (s : TOPreState) :
    ((TOPre r h0).step s .pickle).1 = s := rfl

/-- why it matters: a prefit branch that fitted the user's object would change it with every fit -/
theorem to_prefit_refit_touches_user_estimator :
    ((TOPre true [D1]).run [.fit D2]).user ≠ [D1] ∧
    toPreCls [D1] ((TOPre true [D1]).run [.fit D2]) = .other := by decide +kernel

/-- from the source: the prefit branch of `ThresholdOptimizer.fit` fits nothing and aliases the user's estimator -/
theorem src_to_prefit : Generated.LifecycleSrc.toPrefitRefits = false ∧ Generated.LifecycleSrc.toPrefitAliases = true := by decide +kernel

theorem src_to_prefit_history_free (h0 : List Data) (hne : h0 ≠ []) (ops : List Op) (hc : cloneFree ops) (d : Data) :
    (LifecycleSrc.TOPreSrc h0).run (ops ++ [.fit d]) = (LifecycleSrc.TOPreSrc h0).run [.fit d] ∧
    ((LifecycleSrc.TOPreSrc h0).run ops).user = h0 := by
  have h : LifecycleSrc.TOPreSrc h0 = TOPre false h0 := by
    rw [src_topre_guard, LifecycleSrc.TOPreRaw, src_to_prefit.1]
  rw [h]
  exact ⟨to_prefit_history_free h0 hne ops hc d, to_prefit_user_estimator_untouched h0 hne ops hc⟩

example : (TOPre false [D2w]).view (toPreCls [D2w]) [.predict 0, .fit D1, .fit D2, .pickle, .predict 5, .clone, .fit D1, .predict 1] =
    [(.raised .notFitted, .unfitted), (.retSelf, .fresh D1), (.retSelf, .fresh D2), (.ok, .fresh D2), (.ok, .fresh D2),
     (.ok, .unfitted), (.raised .attribute, .broken .attribute), (.raised .attribute, .broken .attribute)] := by decide +kernel

end Prefit

/-- the driver prints exactly one record per operation: neither the view, nor the changed-parameter column, nor the
    `zip` of the two inside `fmtView` drops an operation -/
theorem driver_output_covers_every_op {σ π : Type} [DecidableEq π] (M : Machine σ) (c : σ → Cls) (params : σ → π)
    (name : String) (ops : List Op) :
    ((M.view c ops).zip (changedCol M params name ops)).length = ops.length := by
  simp [List.length_zip, view_length, changedCol_length]

/-! ## the specification itself carries the clauses of the property -/

/-- fitting on `d` after any history gives the state of a fresh estimator fitted on `d` -/
theorem spec_history_free (ops : List Op) (d : Data) : Spec.run (ops ++ [.fit d]) = Spec.run [.fit d] := by
  rw [spec_run_snoc_fit]; rfl

theorem spec_fit_returns_self (s : Option Data) (d : Data) : (Spec.step s (.fit d)).2 = .retSelf := rfl

theorem spec_predict_pure (s : Option Data) (k : Nat) : (Spec.step s (.predict k)).1 = s := rfl

theorem spec_pickle_roundtrip (s : Option Data) : (Spec.step s .pickle).1 = s := rfl

end C19
