/-
MULTI-METRIC frames: `MetricFrame(metrics={...})` makes `by_group` a DataFrame with one column per
metric and `overall` a Series (no control features) / DataFrame (one row per control combination);
`group_min / group_max / difference / ratio` then run the SAME pandas expressions on whole frames
(`_disaggregated_result.py:97-291`) and return one Series / DataFrame with a column per metric.
Core Lean only.

A frame is kept ROW-MAJOR, as pandas indexes it: index tuple ↦ the row of cells (one per metric
column).  Element-wise operations (`-`, `/`, `.abs()`, `transform`) work row by row with `zipWith`,
index alignment looks up whole rows, reductions (`.agg(g, axis=0)`, `.groupby(level=...).g()`,
`.min()`, `.max()`) reduce column by column, and an exception raised for ONE column aborts the call
for ALL columns.  `Properties/C02.lean` (`frame_*_col`, over the column lemmas of `Lemmas/AggregateFrame.lean`)
proves that column `j` of every frame aggregate is the single-metric aggregate `Aggregate.*` of column `j` (`colTab`).

Error behaviour of frames that contain non-scalar cells, as observed on pandas 3 (arrays of ≥ 2
elements).  pandas raises only when a reduction has to COMPARE an object cell with another cell; the
min / max of a single object is that object (so `group_min(errors='raise')` of a one-group frame with
a non-scalar cell returns the cell).  The harness compares the rules below on every generated frame in
which each stratum has ≥ 2 by_group rows and each non-scalar by_group cell shares its (stratum, column)
with another non-NaN cell; on the remaining frames only the `errors='coerce'` results are compared:
  * `errors='raise'`  group_min / group_max / between_groups: ValueError iff a BY_GROUP cell is
    non-scalar (any column) — `overall` is not looked at;
  * `errors='coerce'` (same calls): non-scalar cells count as NaN, never fails;
  * `difference(to_overall)`: by_group is coerced, `self.overall` is not: fails iff an OVERALL cell is
    non-scalar (whatever `errors` is);
  * `ratio(to_overall)`: neither is coerced: fails iff any cell is non-scalar.
-/
import FairModel.Model.Aggregate

namespace AggFrame
open Frame Aggregate

structure FTables where
  ncf : Nat
  ncols : Nat
  byGroup : List (Key × List Cell)
  overall : List (Key × List Cell)
deriving Repr

/-- a float DataFrame, row-major -/
abbrev FrameX := List (Key × List XR)

/-- rectangular: every row has one cell per metric column -/
def Rect {β : Type} (n : Nat) (f : List (Key × List β)) : Prop := ∀ r ∈ f, r.2.length = n

instance {β : Type} (n : Nat) (f : List (Key × List β)) : Decidable (Rect n f) := by
  unfold Rect; exact List.decidableBAll _ f

def WF (ft : FTables) : Prop := Rect ft.ncols ft.byGroup ∧ Rect ft.ncols ft.overall

instance (ft : FTables) : Decidable (WF ft) := by unfold WF; infer_instance

/-- a by_group / an overall cell is non-scalar -/
def byNs (ft : FTables) : Bool := ft.byGroup.any (fun r => r.2.any isNonscalar)
def ovNs (ft : FTables) : Bool := ft.overall.any (fun r => r.2.any isNonscalar)

def cellAt (j : Nat) (r : List Cell) : Cell := r.getD j Cell.nan

/-- metric column `j` as a single-metric table (`othersNonscalar`: some OTHER column has a non-scalar cell) -/
def colTab (ft : FTables) (j : Nat) : Tables :=
  ⟨ft.ncf, ft.byGroup.map (fun r => (r.1, cellAt j r.2)), ft.overall.map (fun r => (r.1, cellAt j r.2)),
   ft.byGroup.any (fun r => (r.2.eraseIdx j).any isNonscalar) ||
   ft.overall.any (fun r => (r.2.eraseIdx j).any isNonscalar)⟩

/-- column `j` of a float frame -/
def colX (j : Nat) (f : FrameX) : List (Key × XR) := f.map (fun r => (r.1, r.2.getD j .nan))

/-- `by_group.apply(lambda x: x.apply(lambda y: y if np.isscalar(y) else np.nan))` -/
def coercedF (ft : FTables) : FrameX := ft.byGroup.map (fun r => (r.1, r.2.map coerce))
def overallF (ft : FTables) : FrameX := ft.overall.map (fun r => (r.1, r.2.map coerce))

/-- `DataFrame.agg(g, axis=0)`: column by column -/
def reduceCols (g : Grouping) (ncols : Nat) (rows : List (List XR)) : List XR :=
  (List.range ncols).map (fun j => g.apply (rows.map (fun r => r.getD j .nan)))

/-- `.groupby(level=control_feature_names).g()` (one stratum, the empty key, without control features) -/
def aggLevelF (g : Grouping) (ncf ncols : Nat) (f : FrameX) : FrameX :=
  (uniq (f.map (fun r => r.1.take ncf))).map
    (fun c => (c, reduceCols g ncols ((f.filter (fun r => r.1.take ncf == c)).map (·.2))))

/-- `x ∘ y`, `y` indexed by the control levels only: pandas aligns rows of `y` on the control part
    of `x`'s index (a missing label: a row of NaN) and then works cell by cell -/
def bcastF (op : XR → XR → XR) (ncf ncols : Nat) (x y : FrameX) : FrameX :=
  x.map (fun r => (r.1, List.zipWith op r.2 ((y.lookup (r.1.take ncf)).getD (List.replicate ncols .nan))))

/-- `x ∘ y`, same index -/
def sameF (op : XR → XR → XR) (ncols : Nat) (x y : FrameX) : FrameX :=
  x.map (fun r => (r.1, List.zipWith op r.2 ((y.lookup r.1).getD (List.replicate ncols .nan))))

def mapF (f : XR → XR) (x : FrameX) : FrameX := x.map (fun r => (r.1, r.2.map f))

/-- `apply_grouping(g, control_feature_names, errors)` on the whole frame -/
def applyGroupingF (g : Grouping) (e : Errors) (ft : FTables) : Option FrameX :=
  if e = .raise ∧ byNs ft then none
  else some (aggLevelF g ft.ncf ft.ncols (coercedF ft))

def groupMinF := applyGroupingF .min
def groupMaxF := applyGroupingF .max

def diffCore (ft : FTables) (sub : FrameX) : FrameX :=
  aggLevelF AggregateSpec.diffAgg ft.ncf ft.ncols (mapF XR.abs (bcastF XR.sub ft.ncf ft.ncols (coercedF ft) sub))

def differenceF (m : Method) (e : Errors) (ft : FTables) : Option FrameX :=
  match m with
  | .between => (applyGroupingF AggregateSpec.diffBetweenSubtrahend e ft).map (diffCore ft)
  | .toOverall => if ovNs ft then none else some (diffCore ft (overallF ft))

def ratioF (m : Method) (e : Errors) (ft : FTables) : Option FrameX :=
  match m with
  | .between =>
    match applyGroupingF AggregateSpec.ratioBetweenNum e ft, applyGroupingF AggregateSpec.ratioBetweenDen e ft with
    | some num, some den => some (sameF XR.div ft.ncols num den)
    | _, _ => none
  | .toOverall =>
    if byNs ft || ovNs ft then none
    else some (aggLevelF AggregateSpec.ratioOverallAgg ft.ncf ft.ncols
      (mapF AggregateSpec.ratioSubOne (bcastF XR.div ft.ncf ft.ncols (coercedF ft) (overallF ft))))

/-- by_group with its non-scalar cells replaced by NaN -/
def scrubBy (ft : FTables) : FTables :=
  { ft with byGroup := ft.byGroup.map (fun r => (r.1, r.2.map (fun c => if isNonscalar c then Cell.nan else c))) }

/-! ### driver glue -/

def fmtRow (r : List XR) : String := if r.isEmpty then "-" else ",".intercalate (r.map XR.fmt)

def fmtResF : Option FrameX → String
  | none => "err"
  | some t => fmtKeys (t.map (·.1)) ++ "|" ++
      (if t.isEmpty then "none" else ";".intercalate (t.map (fun e => fmtRow e.2)))

def parseRows (s : String) : Option (List (List Cell)) :=
  if s = "none" then some [] else (s.splitOn ";").mapM (fun r => (r.splitOn ",").mapM Cell.parse)

def mkFrame (ks : List Key) (rs : List (List Cell)) : Option (List (Key × List Cell)) :=
  if ks.length = rs.length then some (ks.zip rs) else none

def allResultsF (t : FTables) : List (Option FrameX) :=
  [groupMinF .raise t, groupMinF .coerce t, groupMaxF .raise t, groupMaxF .coerce t,
   differenceF .between .raise t, differenceF .between .coerce t,
   differenceF .toOverall .raise t, differenceF .toOverall .coerce t,
   ratioF .between .raise t, ratioF .between .coerce t,
   ratioF .toOverall .raise t, ratioF .toOverall .coerce t]

/-- the same 12 aggregates computed column by column with the single-metric model -/
def allResultsByColumn (t : FTables) (j : Nat) : List (Option (List (Key × XR))) :=
  allResults (colTab t j)

/-- op: `aggf.eval <ncf> <ncols> <by keys> <by rows> <overall keys> <overall rows>`  (rows: cells joined
    by ",", rows joined by ";").  Output: 12 space separated frame results (`<keys>|<rows>` or `err`),
    order as in `agg.eval`.  A frame that is not rectangular is rejected. -/
def handle (toks : List String) : Option String :=
  match toks with
  | ["aggf.eval", ncf, ncols, bk, br, ok, orows] => do
    let ncf ← Proto.parseNat ncf
    let ncols ← Proto.parseNat ncols
    let bg ← mkFrame (← parseKeys bk) (← parseRows br)
    let ov ← mkFrame (← parseKeys ok) (← parseRows orows)
    if bg.isEmpty then none
    let t : FTables := ⟨ncf, ncols, bg, ov⟩
    if ¬ WF t then none
    pure (" ".intercalate ((allResultsF t).map fmtResF))
  | _ => none

end AggFrame
